import FastorModel.Core.Writes
import FastorModel.Core.Loop
/-
  Kernels that fill an `M × N` row-major result.  A kernel model is a list of *segments*; a segment
  is a list of intermediate store events followed by a list of final store events.  A store event
  names the cell `(r,c)` it writes (flat position `r*N+c`) and how much of the accumulation
  (`kk` of `K` terms) the stored value contains.  `segs_writesExactly` turns index-level facts
  (bounds, coverage, final events carry the specified value, intermediate stores are overwritten)
  into the memory-level statement `WritesExactly`.
-/
namespace Fastor

/-- a store event: cell `(r,c)`, the value holds the first `kk` terms; `style` names the
    accumulation order used by the code (only relevant for executing the model) -/
structure St where
  r : Nat
  c : Nat
  kk : Nat
  style : Nat := 0
  /-- index of the first accumulated term (non-zero only for the triangular kernels) -/
  k0 : Nat := 0
deriving Repr, BEq, DecidableEq

structure Seg where
  pre : List St
  fin : List St
deriving Repr

def Seg.events (s : Seg) : List St := s.pre ++ s.fin

def St.pos (N : Nat) (e : St) : Nat := e.r * N + e.c

/-- every intermediate store (a partial sum, or lanes of a full-width store that spill past the end
    of a row) is overwritten by a final store of the same segment -/
structure SegOK (N : Nat) (s : Seg) : Prop where
  pre_in_fin : ∀ e ∈ s.pre, ∃ e' ∈ s.fin, e'.pos N = e.pos N

variable {α : Type}

def segWrites (N : Nat) (val : St → α) (s : Seg) : List (Nat × α) :=
  s.events.map (fun e => (e.pos N, val e))

def kernelWrites (N : Nat) (val : St → α) (segs : List Seg) : List (Nat × α) :=
  segs.flatMap (segWrites N val)

theorem pos_div {N r c : Nat} (hc : c < N) : (r * N + c) / N = r := by
  have hN : 0 < N := by omega
  rw [Nat.mul_comm, Nat.mul_add_div hN, Nat.div_eq_of_lt hc]; simp

theorem pos_mod {N r c : Nat} (hc : c < N) : (r * N + c) % N = c := by
  rw [Nat.mul_comm, Nat.mul_add_mod, Nat.mod_eq_of_lt hc]

theorem pos_lt {M N r c : Nat} (hr : r < M) (hc : c < N) : r * N + c < M * N := by
  have : (r + 1) * N ≤ M * N := Nat.mul_le_mul_right N hr
  rw [Nat.add_mul] at this; omega

theorem seg_writesExactly (N : Nat) (val : St → α) (spec : Nat → Nat → α) (s : Seg)
    (hval : ∀ e ∈ s.fin, val e = spec e.r e.c)
    (hok : SegOK N s) (hb : ∀ e ∈ s.fin, e.c < N) :
    WritesExactly (segWrites N val s) (fun p => ∃ e ∈ s.fin, e.pos N = p)
      (fun p => spec (p / N) (p % N)) := by
  unfold segWrites Seg.events
  rw [List.map_append]
  apply writesExactly_pre_append
  · intro w hw
    simp only [List.mem_map] at hw
    obtain ⟨e, he, rfl⟩ := hw
    obtain ⟨e', he', hp⟩ := hok.pre_in_fin e he
    exact ⟨e', he', hp⟩
  · apply writesExactly_of_all_right
    · intro w hw
      simp only [List.mem_map] at hw
      obtain ⟨e, he, rfl⟩ := hw
      refine ⟨⟨e, he, rfl⟩, ?_⟩
      have hc : e.c < N := hb e he
      simp only [St.pos, pos_div hc, pos_mod hc]
      exact hval e he
    · rintro p ⟨e, he, rfl⟩
      exact ⟨(e.pos N, val e), by simp only [List.mem_map]; exact ⟨e, he, rfl⟩, rfl⟩

/-- **Generic grid-kernel theorem.**  If every event is inside the `M × N` grid, every segment is
    well formed, and every cell is the target of some final event, then the kernel writes exactly
    the positions `< M*N` and leaves `spec r c` at position `r*N+c`. -/
theorem segs_writesExactly (M N : Nat) (val : St → α) (spec : Nat → Nat → α) (segs : List Seg)
    (hval : ∀ s ∈ segs, ∀ e ∈ s.fin, val e = spec e.r e.c)
    (hok : ∀ s ∈ segs, SegOK N s)
    (hb : ∀ s ∈ segs, ∀ e ∈ s.fin, e.r < M ∧ e.c < N)
    (hcov : ∀ r, r < M → ∀ c, c < N → ∃ s ∈ segs, ∃ e ∈ s.fin, e.r = r ∧ e.c = c) :
    WritesExactly (kernelWrites N val segs) (fun p => p < M * N)
      (fun p => spec (p / N) (p % N)) := by
  unfold kernelWrites
  have h := writesExactly_flatMap segs (segWrites N val)
    (fun s p => ∃ e ∈ s.fin, e.pos N = p) (fun p => spec (p / N) (p % N))
    (fun s hs => seg_writesExactly N val spec s (hval s hs) (hok s hs) (fun e he => (hb s hs e he).2))
  refine writesExactly_congr h ?_
  intro p
  constructor
  · rintro ⟨s, hs, e, he, rfl⟩
    have := hb s hs e he
    exact pos_lt this.1 this.2
  · intro hp
    have hN : 0 < N := Nat.pos_of_ne_zero (by rintro rfl; simp at hp)
    have hr : p / N < M := (Nat.div_lt_iff_lt_mul hN).2 hp
    have hc : p % N < N := Nat.mod_lt _ hN
    obtain ⟨s, hs, e, he, her, hec⟩ := hcov _ hr _ hc
    refine ⟨s, hs, e, he, ?_⟩
    simp only [St.pos, her, hec]
    rw [Nat.mul_comm]; exact Nat.div_add_mod p N

/-- Final memory after a program that writes exactly the `M × N` grid. -/
theorem grid_memory {ws : List (Nat × α)} {M N : Nat} {spec : Nat → Nat → α}
    (h : WritesExactly ws (fun p => p < M * N) (fun p => spec (p / N) (p % N))) (m : Nat → α) :
    (∀ r, r < M → ∀ c, c < N → applyWrites ws m (r * N + c) = spec r c) ∧
    (∀ p, M * N ≤ p → applyWrites ws m p = m p) := by
  constructor
  · intro r hr c hc
    have := (applyWrites_of_exact h m (r * N + c)).1 (pos_lt hr hc)
    rwa [pos_div hc, pos_mod hc] at this
  · intro p hp
    exact (applyWrites_of_exact h m p).2 (by omega)

/-- Final memory after running a grid kernel whose segments are well-formed, in bounds, cover the `M × N` grid and
    store `spec` at their final events: every cell holds `spec`, nothing at or beyond `M * N` is touched. -/
theorem kernel_memory (M N : Nat) (val : St → α) (spec : Nat → Nat → α) (segs : List Seg)
    (hval : ∀ s ∈ segs, ∀ e ∈ s.fin, val e = spec e.r e.c)
    (hok : ∀ s ∈ segs, SegOK N s)
    (hb : ∀ s ∈ segs, ∀ e ∈ s.fin, e.r < M ∧ e.c < N)
    (hcov : ∀ r, r < M → ∀ c, c < N → ∃ s ∈ segs, ∃ e ∈ s.fin, e.r = r ∧ e.c = c)
    (m : Nat → α) :
    (∀ r, r < M → ∀ c, c < N → applyWrites (kernelWrites N val segs) m (r * N + c) = spec r c) ∧
    (∀ p, M * N ≤ p → applyWrites (kernelWrites N val segs) m p = m p) :=
  grid_memory (segs_writesExactly M N val spec segs hval hok hb hcov) m

end Fastor
