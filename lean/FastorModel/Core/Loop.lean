/-
  C-style counted loops as lists of iteration values: `forRange lo hi s` is the list of values taken by `x` in
  `for (x = lo; x < hi; x += s)`, `forExit lo hi s` the value of `x` when the loop is left.  With them the shape every
  vectorised loop has: a vector body over `ROUND_DOWN(n, V)` and a scalar tail (`vecTail_eq`).
-/
namespace Fastor

def forCount (lo hi s : Nat) : Nat := (hi - lo + (s - 1)) / s

def forRange (lo hi s : Nat) : List Nat := (List.range (forCount lo hi s)).map (fun t => lo + t * s)

def forExit (lo hi s : Nat) : Nat := lo + forCount lo hi s * s

theorem forCount_lt_iff {lo hi s t : Nat} (hs : 0 < s) : t < forCount lo hi s ↔ lo + t * s < hi := by
  unfold forCount
  rw [Nat.lt_div_iff_mul_lt hs]
  omega

theorem mem_forRange {lo hi s x : Nat} (hs : 0 < s) :
    x ∈ forRange lo hi s ↔ ∃ t, x = lo + t * s ∧ x < hi := by
  unfold forRange
  simp only [List.mem_map, List.mem_range]
  constructor
  · rintro ⟨t, ht, rfl⟩
    exact ⟨t, rfl, (forCount_lt_iff hs).1 ht⟩
  · rintro ⟨t, rfl, h⟩
    exact ⟨t, (forCount_lt_iff hs).2 h, rfl⟩

/-- `for (x = lo; x < hi; x += 0)` with `lo < hi` does not terminate; `forCount` makes it empty -/
theorem forRange_zero_stride (lo hi : Nat) : forRange lo hi 0 = [] := by
  simp [forRange, forCount]

theorem forRange_nil {lo hi s : Nat} (h : hi ≤ lo) : forRange lo hi s = [] := by
  unfold forRange forCount
  have : hi - lo = 0 := by omega
  rw [this]
  by_cases hs : s = 0
  · subst hs; simp
  · rw [Nat.zero_add, Nat.div_eq_of_lt (by omega)]; rfl

theorem forRange_cons {lo hi s : Nat} (hs : 0 < s) (h : lo < hi) : forRange lo hi s = lo :: forRange (lo + s) hi s := by
  unfold forRange
  have hc : forCount lo hi s = forCount (lo + s) hi s + 1 := by
    unfold forCount
    have : hi - lo + (s - 1) = (hi - (lo + s) + (s - 1)) + s ∨ hi < lo + s := by omega
    rcases this with h1 | h1
    · rw [h1, Nat.add_div_right _ hs]
    · have h2 : hi - (lo + s) = 0 := by omega
      rw [h2]
      have h3 : (0 + (s - 1)) / s = 0 := Nat.div_eq_of_lt (by omega)
      rw [h3]
      have h4 : hi - lo + (s - 1) = (hi - lo - 1) + s := by omega
      rw [h4, Nat.add_div_right _ hs, Nat.div_eq_of_lt (by omega)]
  rw [hc, List.range_succ_eq_map, List.map_cons, List.map_map]
  simp only [Nat.zero_mul, Nat.add_zero, List.cons.injEq, true_and]
  apply List.map_congr_left
  intro t _
  show lo + (t + 1) * s = lo + s + t * s
  rw [Nat.succ_mul]
  omega

theorem forCount_one (lo hi : Nat) : forCount lo hi 1 = hi - lo := by
  unfold forCount
  simp

theorem forRange_one (lo hi : Nat) : forRange lo hi 1 = (List.range (hi - lo)).map (fun t => lo + t) := by
  unfold forRange
  rw [forCount_one]
  simp

theorem forRange_zero_one (n : Nat) : forRange 0 n 1 = List.range n := by
  rw [forRange_one]
  simp

theorem forCount_add_mul {lo n s : Nat} (hs : 0 < s) : forCount lo (lo + n * s) s = n := by
  unfold forCount
  rw [Nat.add_sub_cancel_left, Nat.add_comm, Nat.add_mul_div_right _ _ hs, Nat.div_eq_of_lt (by omega), Nat.zero_add]

theorem forRange_count {lo n s : Nat} (hs : 0 < s) :
    forRange lo (lo + n * s) s = (List.range n).map fun t => lo + t * s := by
  unfold forRange
  rw [forCount_add_mul hs]

theorem forCount_mul (q V : Nat) (hV : 0 < V) : forCount 0 (q * V) V = q := by
  have := forCount_add_mul (lo := 0) (n := q) hV
  rwa [Nat.zero_add] at this

theorem forRange_mul (q V : Nat) (hV : 0 < V) : forRange 0 (q * V) V = (List.range q).map (fun t => t * V) := by
  have := forRange_count (lo := 0) (n := q) hV
  simpa only [Nat.zero_add] using this

theorem forExit_of_dvd {lo hi s : Nat} (hs : 0 < s) (hle : lo ≤ hi) (hd : s ∣ (hi - lo)) :
    forExit lo hi s = hi := by
  obtain ⟨q, hq⟩ := hd
  have hhi : hi = lo + q * s := by rw [Nat.mul_comm]; omega
  unfold forExit
  rw [hhi, forCount_add_mul hs]

theorem div_mul_dvd (n s : Nat) : s ∣ (n / s * s - 0) := Nat.dvd_mul_left s _

theorem forExit_div_mul {n s : Nat} (hs : 0 < s) : forExit 0 (n / s * s) s = n / s * s :=
  forExit_of_dvd hs (Nat.zero_le _) (div_mul_dvd n s)

theorem add_le_of_mem_forRange {lo hi s i : Nat} (hd : s ∣ hi - lo)
    (hi' : i ∈ forRange lo hi s) : i + s ≤ hi := by
  rcases Nat.eq_zero_or_pos s with rfl | hs
  · simp [forRange_zero_stride] at hi'
  obtain ⟨q, hq⟩ := hd
  obtain ⟨t, rfl, hlt⟩ := (mem_forRange hs).1 hi'
  have htq : t < q := Nat.lt_of_mul_lt_mul_left (a := s) (by rw [Nat.mul_comm s t]; omega)
  have : s * (t + 1) ≤ s * q := Nat.mul_le_mul_left s htq
  rw [Nat.mul_add, Nat.mul_comm s t] at this
  omega

theorem forRange_cover {lo hi s : Nat} (hd : s ∣ (hi - lo)) (x : Nat) :
    (∃ i ∈ forRange lo hi s, i ≤ x ∧ x < i + s) ↔ (lo ≤ x ∧ x < hi) := by
  constructor
  · rintro ⟨i, hi', h1, h2⟩
    have := add_le_of_mem_forRange hd hi'
    rcases Nat.eq_zero_or_pos s with rfl | hs
    · omega
    obtain ⟨t, rfl, _⟩ := (mem_forRange hs).1 hi'
    omega
  · rintro ⟨h1, h2⟩
    have hs : 0 < s := Nat.pos_of_ne_zero (by rintro rfl; simp at hd; omega)
    have h3 := Nat.div_mul_le_self (x - lo) s
    have h4 := Nat.lt_div_mul_add (a := x - lo) hs
    exact ⟨lo + (x - lo) / s * s, (mem_forRange hs).2 ⟨(x - lo) / s, rfl, by omega⟩, by omega, by omega⟩

theorem range_blocks {β : Type} (g : Nat → β) (V q : Nat) :
    (List.range q).flatMap (fun t => (List.range V).map fun l => g (t * V + l)) = (List.range (q * V)).map g := by
  induction q with
  | zero => simp
  | succ q ih =>
    rw [List.range_succ, List.flatMap_append, ih, Nat.succ_mul, List.range_add, List.map_append]
    simp [List.map_map, Function.comp_def]

theorem range_mul (q V : Nat) :
    List.range (q * V) = (List.range q).flatMap fun t => (List.range V).map fun l => t * V + l :=
  ((range_blocks id V q).trans (List.map_id _)).symm

/-- vector body over `ROUND_DOWN(n,V)` followed by the scalar tail -/
theorem vecTail_eq {β : Type} (n V : Nat) (hV : 0 < V) (vec : Nat → List β) (sc : Nat → β)
    (hvec : ∀ i, vec i = (List.range V).map fun l => sc (i + l)) :
    (forRange 0 (n / V * V) V).flatMap vec ++ (forRange (forExit 0 (n / V * V) V) n 1).map sc =
      (List.range n).map sc := by
  rw [forExit_div_mul hV, forRange_mul _ _ hV, forRange_one, List.flatMap_map, List.map_map]
  simp only [hvec]
  rw [range_blocks sc]
  conv => rhs; rw [← Nat.add_sub_of_le (Nat.div_mul_le_self n V), List.range_add, List.map_append, List.map_map]

theorem foldl_add_shift {β : Type} (g : β → Nat) (l : List β) (init : Nat) :
    l.foldl (fun acc s => acc + g s) init = init + l.foldl (fun acc s => acc + g s) 0 := by
  induction l generalizing init with
  | nil => simp
  | cons s ss ih =>
    simp only [List.foldl_cons]
    rw [ih, ih (0 + g s)]
    omega

/-- `ROUND_DOWN(x, 2^e)` = `x & ~(2^e - 1)` on 64-bit `size_t` is `x / 2^e * 2^e` -/
theorem and_not_low_bits (x e : Nat) (hx : x < 2 ^ 64) (he : e ≤ 64) :
    x &&& (2 ^ 64 - 1 - (2 ^ e - 1)) = x / 2 ^ e * 2 ^ e := by
  have hmask : 2 ^ 64 - 1 - (2 ^ e - 1) = 2 ^ e * (2 ^ (64 - e) - 1) := by
    have h64 : 2 ^ 64 = 2 ^ e * 2 ^ (64 - e) := by rw [← Nat.pow_add]; congr 1; omega
    have hp : 0 < 2 ^ e := Nat.pow_pos (by omega)
    rw [Nat.mul_sub, ← h64]; omega
  rw [hmask, Nat.mul_comm (x / 2 ^ e)]
  apply Nat.eq_of_testBit_eq
  intro i
  rw [Nat.testBit_and, Nat.testBit_two_pow_mul, Nat.testBit_two_pow_mul, Nat.testBit_two_pow_sub_one,
    Nat.testBit_div_two_pow]
  by_cases hie : e ≤ i
  · rw [Nat.sub_add_cancel hie]
    by_cases h64 : i < 64
    · have : i - e < 64 - e := by omega
      simp [hie, this]
    · have : x.testBit i = false :=
        Nat.testBit_lt_two_pow (Nat.lt_of_lt_of_le hx (Nat.pow_le_pow_right (by omega) (by omega)))
      simp [this]
  · simp [hie]

end Fastor
