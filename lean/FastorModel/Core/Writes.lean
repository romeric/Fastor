/-
  Memory as `Nat → α`, programs as ordered lists of writes `(position, value)`.
  `lastWrite ws p` is the value of the last write to `p`, `applyWrites` the resulting memory.
  `WritesExactly ws D f`: the writes stay inside the region `D`, touch every position of `D`,
  and the final value of every position `p ∈ D` is `f p`.
-/
namespace Fastor

variable {α : Type}

def lastWrite : List (Nat × α) → Nat → Option α
  | [], _ => none
  | w :: ws, p =>
    match lastWrite ws p with
    | some v => some v
    | none => if w.1 = p then some w.2 else none

def applyWrites (ws : List (Nat × α)) (m : Nat → α) : Nat → α :=
  ws.foldl (fun m w => fun p => if p = w.1 then w.2 else m p) m

theorem applyWrites_append (xs ys : List (Nat × α)) (m : Nat → α) :
    applyWrites (xs ++ ys) m = applyWrites ys (applyWrites xs m) := by
  simp [applyWrites, List.foldl_append]

theorem applyWrites_eq_lastWrite (ws : List (Nat × α)) (m : Nat → α) (p : Nat) :
    applyWrites ws m p = (lastWrite ws p).getD (m p) := by
  induction ws generalizing m with
  | nil => simp [applyWrites, lastWrite]
  | cons w ws ih =>
    have h1 : applyWrites (w :: ws) m = applyWrites ws (fun q => if q = w.1 then w.2 else m q) := by
      simp [applyWrites]
    rw [h1, ih]
    simp only [lastWrite]
    cases h : lastWrite ws p with
    | some v => simp
    | none =>
      by_cases hp : w.1 = p
      · subst hp; simp
      · have : ¬ p = w.1 := fun e => hp e.symm
        simp [hp, this]

theorem lastWrite_append (xs ys : List (Nat × α)) (p : Nat) :
    lastWrite (xs ++ ys) p = (lastWrite ys p).or (lastWrite xs p) := by
  induction xs with
  | nil => simp [lastWrite]
  | cons w xs ih =>
    simp only [List.cons_append, lastWrite, ih]
    cases h1 : lastWrite ys p <;> cases h2 : lastWrite xs p <;> simp

theorem lastWrite_some_mem {ws : List (Nat × α)} {p : Nat} {v : α} (h : lastWrite ws p = some v) :
    (p, v) ∈ ws := by
  induction ws with
  | nil => simp [lastWrite] at h
  | cons w ws ih =>
    simp only [lastWrite] at h
    cases h2 : lastWrite ws p with
    | some v' =>
      rw [h2] at h; simp at h; subst h
      exact List.mem_cons_of_mem _ (ih h2)
    | none =>
      rw [h2] at h
      by_cases hp : w.1 = p
      · simp [hp] at h
        subst h; subst hp; simp
      · simp [hp] at h

theorem lastWrite_none_iff (ws : List (Nat × α)) (p : Nat) :
    lastWrite ws p = none ↔ ∀ w ∈ ws, w.1 ≠ p := by
  induction ws with
  | nil => simp [lastWrite]
  | cons w ws ih =>
    simp only [lastWrite, List.mem_cons, forall_eq_or_imp]
    cases h : lastWrite ws p with
    | some v =>
      constructor
      · intro h'; simp at h'
      · intro h'
        exact absurd rfl (h'.2 _ (lastWrite_some_mem h))
    | none =>
      have hall := ih.1 h
      by_cases hp : w.1 = p
      · simp [hp]
      · simp only [hp, if_false, true_iff]
        exact ⟨fun e => hp e, hall⟩

/-- region/value specification of a list of writes -/
def WritesExactly (ws : List (Nat × α)) (D : Nat → Prop) (f : Nat → α) : Prop :=
  ∀ p, (D p → lastWrite ws p = some (f p)) ∧ (¬ D p → lastWrite ws p = none)

/-- the memory after a `WritesExactly` program -/
theorem applyWrites_of_exact {ws : List (Nat × α)} {D : Nat → Prop} {f : Nat → α}
    (h : WritesExactly ws D f) (m : Nat → α) (p : Nat) :
    (D p → applyWrites ws m p = f p) ∧ (¬ D p → applyWrites ws m p = m p) := by
  rw [applyWrites_eq_lastWrite]
  constructor
  · intro hd; rw [(h p).1 hd]; rfl
  · intro hd; rw [(h p).2 hd]; rfl

/-- two programs with the same region/value specification leave the same memory -/
theorem applyWrites_eq_of_exact {ws ws' : List (Nat × α)} {D : Nat → Prop} {f : Nat → α}
    (h : WritesExactly ws D f) (h' : WritesExactly ws' D f) (m : Nat → α) (p : Nat) :
    applyWrites ws m p = applyWrites ws' m p := by
  rw [applyWrites_eq_lastWrite, applyWrites_eq_lastWrite]
  by_cases hd : D p
  · rw [(h p).1 hd, (h' p).1 hd]
  · rw [(h p).2 hd, (h' p).2 hd]

/-- every write is right and every position of the region is written -/
theorem writesExactly_of_all_right {ws : List (Nat × α)} {D : Nat → Prop} {f : Nat → α}
    (hr : ∀ w ∈ ws, D w.1 ∧ w.2 = f w.1) (hc : ∀ p, D p → ∃ w ∈ ws, w.1 = p) :
    WritesExactly ws D f := by
  intro p
  constructor
  · intro hd
    cases h : lastWrite ws p with
    | none =>
      obtain ⟨w, hw, hwp⟩ := hc p hd
      exact absurd hwp ((lastWrite_none_iff ws p).1 h w hw)
    | some v =>
      exact congrArg some (hr _ (lastWrite_some_mem h)).2
  · intro hd
    rw [lastWrite_none_iff]
    intro w hw hwp
    exact hd (hwp ▸ (hr w hw).1)

/-- intermediate writes inside the region followed by a complete final pass -/
theorem writesExactly_pre_append {pre fin : List (Nat × α)} {D : Nat → Prop} {f : Nat → α}
    (hpre : ∀ w ∈ pre, D w.1) (hfin : WritesExactly fin D f) : WritesExactly (pre ++ fin) D f := by
  intro p
  rw [lastWrite_append]
  constructor
  · intro hd; rw [(hfin p).1 hd]; rfl
  · intro hd
    rw [(hfin p).2 hd]
    simp only [Option.none_or]
    rw [lastWrite_none_iff]
    intro w hw hwp
    exact hd (hwp ▸ hpre w hw)

/-- sequential composition of tiles that agree on the value function -/
theorem writesExactly_append {xs ys : List (Nat × α)} {D1 D2 : Nat → Prop} {f : Nat → α}
    (h1 : WritesExactly xs D1 f) (h2 : WritesExactly ys D2 f) :
    WritesExactly (xs ++ ys) (fun p => D1 p ∨ D2 p) f := by
  intro p
  rw [lastWrite_append]
  by_cases hd2 : D2 p
  · constructor
    · intro _; rw [(h2 p).1 hd2]; rfl
    · intro h; exact absurd (Or.inr hd2) h
  · rw [(h2 p).2 hd2]
    simp only [Option.none_or]
    constructor
    · intro h
      cases h with
      | inl h => exact (h1 p).1 h
      | inr h => exact absurd h hd2
    · intro h
      exact (h1 p).2 (fun hh => h (Or.inl hh))

theorem writesExactly_nil (f : Nat → α) : WritesExactly ([] : List (Nat × α)) (fun _ => False) f := by
  intro p; simp [lastWrite]

theorem writesExactly_congr {ws : List (Nat × α)} {D D' : Nat → Prop} {f : Nat → α}
    (h : WritesExactly ws D f) (hd : ∀ p, D p ↔ D' p) : WritesExactly ws D' f := by
  intro p
  constructor
  · intro h'; exact (h p).1 ((hd p).2 h')
  · intro h'; exact (h p).2 (fun hh => h' ((hd p).1 hh))

theorem writesExactly_flatMap {ι : Type} (L : List ι) (tw : ι → List (Nat × α)) (D : ι → Nat → Prop)
    (f : Nat → α) (h : ∀ t ∈ L, WritesExactly (tw t) (D t) f) :
    WritesExactly (L.flatMap tw) (fun p => ∃ t ∈ L, D t p) f := by
  induction L with
  | nil =>
    simp only [List.flatMap_nil]
    exact writesExactly_congr (writesExactly_nil f) (by simp)
  | cons t L ih =>
    simp only [List.flatMap_cons]
    have h1 := h t (by simp)
    have h2 := ih (fun t' ht' => h t' (List.mem_cons_of_mem _ ht'))
    exact writesExactly_congr (writesExactly_append h1 h2) (by simp)

end Fastor
