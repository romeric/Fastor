import FastorModel.Model.Intrinsics
import FastorModel.Core.Grid
import FastorModel.Proofs.SimdAttr
/-
  Naturality of the lane semantics of the intrinsics: every operation of Model/Intrinsics.lean only moves lanes, so it
  commutes with applying a function `f` to every lane (and to the value of a zeroed lane).  With it a kernel theorem
  proved on lane tokens holds for every element type (Generated/C14Kernels.lean: `…_correct`).
  What a sequence of stores leaves in a cell (`lastWrite_store`, `lastWrite_maskstore`) reduces such a token theorem to
  one equation per cell (`finalCells_eq_transposed_iff`).
-/
namespace Fastor.Intr

variable {α β : Type} (f : α → β)

theorem pick_map (z : α) (l : List α) (i : Nat) : pick (f z) (l.map f) i = f (pick z l i) := by
  simp only [pick, List.getD_eq_getElem?_getD, List.getElem?_map]
  cases l[i]? <;> rfl

theorem map_range_pick (z : α) (l : List α) (n : Nat) (g : Nat → Nat) :
    ((List.range n).map fun i => pick z l (g i)).map f = (List.range n).map fun i => pick (f z) (l.map f) (g i) := by
  simp [List.map_map, Function.comp_def, pick_map]

theorem load_map (a : Nat → α) (o n : Nat) : (load a o n).map f = load (fun k => f (a k)) o n := by
  simp [load, List.map_map, Function.comp_def]
theorem load_ss_map (z : α) (a : Nat → α) (o : Nat) : (load_ss z a o).map f = load_ss (f z) (fun k => f (a k)) o := by simp [load_ss]
theorem load_sd_map (z : α) (a : Nat → α) (o : Nat) : (load_sd z a o).map f = load_sd (f z) (fun k => f (a k)) o := by simp [load_sd]
theorem loadl_pi_map (z : α) (x : List α) (a : Nat → α) (o : Nat) :
    (loadl_pi z x a o).map f = loadl_pi (f z) (x.map f) (fun k => f (a k)) o := by simp [loadl_pi, pick_map]
theorem setzero_map (z : α) (n : Nat) : (setzero z n).map f = setzero (f z) n := by simp [setzero]
theorem maskload_map (z : α) (a : Nat → α) (o : Nat) (sel : List Bool) :
    (maskload z a o sel).map f = maskload (f z) (fun k => f (a k)) o sel := by
  simp only [maskload, List.map_map, Function.comp_def, apply_ite f]
theorem mask_loadu_map (z : α) (src : List α) (a : Nat → α) (o : Nat) (sel : List Bool) :
    (mask_loadu z src a o sel).map f = mask_loadu (f z) (src.map f) (fun k => f (a k)) o sel := by
  simp only [mask_loadu, List.map_map, Function.comp_def, apply_ite f, pick_map]

theorem unpacklo_ps_map (z : α) (a b : List α) : (unpacklo_ps z a b).map f = unpacklo_ps (f z) (a.map f) (b.map f) := by simp [unpacklo_ps, pick_map]
theorem unpackhi_ps_map (z : α) (a b : List α) : (unpackhi_ps z a b).map f = unpackhi_ps (f z) (a.map f) (b.map f) := by simp [unpackhi_ps, pick_map]
theorem movelh_ps_map (z : α) (a b : List α) : (movelh_ps z a b).map f = movelh_ps (f z) (a.map f) (b.map f) := by simp [movelh_ps, pick_map]
theorem movehl_ps_map (z : α) (a b : List α) : (movehl_ps z a b).map f = movehl_ps (f z) (a.map f) (b.map f) := by simp [movehl_ps, pick_map]
theorem shuffle_ps_map (z : α) (a b : List α) (imm : Nat) : (shuffle_ps z a b imm).map f = shuffle_ps (f z) (a.map f) (b.map f) imm := by simp [shuffle_ps, pick_map]
theorem shuffle_pd_map (z : α) (a b : List α) (imm : Nat) : (shuffle_pd z a b imm).map f = shuffle_pd (f z) (a.map f) (b.map f) imm := by simp [shuffle_pd, pick_map]
theorem unpacklo_ps256_map (z : α) (a b : List α) : (unpacklo_ps256 z a b).map f = unpacklo_ps256 (f z) (a.map f) (b.map f) := by simp [unpacklo_ps256, pick_map]
theorem unpackhi_ps256_map (z : α) (a b : List α) : (unpackhi_ps256 z a b).map f = unpackhi_ps256 (f z) (a.map f) (b.map f) := by simp [unpackhi_ps256, pick_map]
theorem shuffle_ps256_map (z : α) (a b : List α) (imm : Nat) : (shuffle_ps256 z a b imm).map f = shuffle_ps256 (f z) (a.map f) (b.map f) imm := by simp [shuffle_ps256, pick_map]
theorem shuffle_pd256_map (z : α) (a b : List α) (imm : Nat) : (shuffle_pd256 z a b imm).map f = shuffle_pd256 (f z) (a.map f) (b.map f) imm := by simp [shuffle_pd256, pick_map]
theorem half128_map (z : α) (a b : List α) (h c : Nat) : (half128 z a b h c).map f = half128 (f z) (a.map f) (b.map f) h c := by
  simp only [half128, List.map_map, Function.comp_def, apply_ite f, pick_map]
theorem permute2f128_map (z : α) (a b : List α) (imm h : Nat) :
    (permute2f128 z a b imm h).map f = permute2f128 (f z) (a.map f) (b.map f) imm h := by
  simp only [permute2f128, List.map_append, half128_map]
theorem permutevar8x32_map (z : α) (a : List α) (ix : List Nat) : (permutevar8x32 z a ix).map f = permutevar8x32 (f z) (a.map f) ix := by
  simp only [permutevar8x32, List.map_map, Function.comp_def, pick_map]
theorem cast256_128_map (a : List α) : (cast256_128 a).map f = cast256_128 (a.map f) := by simp [cast256_128, List.map_take]
theorem extractf128_pd_map (z : α) (a : List α) (imm : Nat) : (extractf128_pd z a imm).map f = extractf128_pd (f z) (a.map f) imm := by simp [extractf128_pd, pick_map]
theorem cast128_256_map (z : α) (a : List α) : (cast128_256 z a).map f = cast128_256 (f z) (a.map f) := by simp [cast128_256, pick_map]
theorem insertf128_pd_map (z : α) (a b : List α) (imm : Nat) : (insertf128_pd z a b imm).map f = insertf128_pd (f z) (a.map f) (b.map f) imm := by
  unfold insertf128_pd; split <;> simp [pick_map]
theorem permutexvar_map (z : α) (ix : List Nat) (a : List α) : (permutexvar z ix a).map f = permutexvar (f z) ix (a.map f) := by
  simp only [permutexvar, List.map_map, Function.comp_def, pick_map]
theorem lane64_map (z : α) (a : List α) (w i : Nat) : (lane64 z a w i).map f = lane64 (f z) (a.map f) w i := by
  simp only [lane64, List.map_map, Function.comp_def, pick_map]
theorem permutexvar_pd_map (z : α) (ix : List Nat) (a : List α) (w : Nat) : (permutexvar_pd z ix a w).map f = permutexvar_pd (f z) ix (a.map f) w := by
  simp only [permutexvar_pd, List.map_flatMap, lane64_map]
theorem permutex2var_pd_map (z : α) (a : List α) (ix : List Nat) (b : List α) (w : Nat) :
    (permutex2var_pd z a ix b w).map f = permutex2var_pd (f z) (a.map f) ix (b.map f) w := by
  simp only [permutex2var_pd, List.map_flatMap, apply_ite (List.map f), lane64_map]
theorem mask_permutexvar_pd_map (z : α) (src : List α) (k : Nat) (ix : List Nat) (a : List α) (w : Nat) :
    (mask_permutexvar_pd z src k ix a w).map f = mask_permutexvar_pd (f z) (src.map f) k ix (a.map f) w := by
  simp only [mask_permutexvar_pd, List.map_flatMap, apply_ite (List.map f), lane64_map]
theorem mask_permutexvar_ps_map (z : α) (src : List α) (k : Nat) (ix : List Nat) (a : List α) :
    (mask_permutexvar_ps z src k ix a).map f = mask_permutexvar_ps (f z) (src.map f) k ix (a.map f) := by
  simp only [mask_permutexvar_ps, List.map_map, Function.comp_def, apply_ite f, pick_map]
theorem insert256_map (z : α) (a b : List α) (imm h : Nat) : (insert256 z a b imm h).map f = insert256 (f z) (a.map f) (b.map f) imm h := by
  unfold insert256; split <;> simp [List.map_map, Function.comp_def, pick_map, funext (pick_map f z _)]
theorem cast512_256_map (a : List α) (h : Nat) : (cast512_256 a h).map f = cast512_256 (a.map f) h := by simp [cast512_256, List.map_take]
theorem cast256_512_map (z : α) (a : List α) (h : Nat) : (cast256_512 z a h).map f = cast256_512 (f z) (a.map f) h := by
  simp [cast256_512, List.map_map, Function.comp_def, pick_map]

theorem MM_TRANSPOSE4_PS_map (z : α) (r0 r1 r2 r3 : List α) :
    let t := MM_TRANSPOSE4_PS z r0 r1 r2 r3
    let u := MM_TRANSPOSE4_PS (f z) (r0.map f) (r1.map f) (r2.map f) (r3.map f)
    t.1.map f = u.1 ∧ t.2.1.map f = u.2.1 ∧ t.2.2.1.map f = u.2.2.1 ∧ t.2.2.2.map f = u.2.2.2 := by
  simp only [MM_TRANSPOSE4_PS, movelh_ps_map, movehl_ps_map, unpacklo_ps_map, unpackhi_ps_map, and_self]

theorem store_map (z : α) (o n : Nat) (r : List α) :
    (store z o n r).map (Prod.map id f) = store (f z) o n (r.map f) := by
  simp [store, List.map_map, Function.comp_def, pick_map]
theorem maskstore_map (z : α) (o : Nat) (sel : List Bool) (r : List α) :
    (maskstore z o sel r).map (Prod.map id f) = maskstore (f z) o sel (r.map f) := by
  simp only [maskstore, List.map_filterMap, pick_map]
  congr 1; funext l; split <;> simp

theorem lastWrite_map (ws : List (Nat × α)) (p : Nat) :
    lastWrite (ws.map (Prod.map id f)) p = (lastWrite ws p).map f := by
  induction ws with
  | nil => rfl
  | cons w ws ih =>
    simp only [List.map_cons, lastWrite, ih]
    cases lastWrite ws p with
    | some v => rfl
    | none => simp only [Option.map_none, Prod.map_fst, id]; split <;> rfl

theorem finalCells_map (ws : List (Nat × α)) (n : Nat) :
    finalCells (ws.map (Prod.map id f)) n = (finalCells ws n).map (Option.map f) := by
  simp [finalCells, List.map_map, Function.comp_def, lastWrite_map]

theorem transposed_map (a : Nat → α) (n : Nat) : (transposed a n).map (Option.map f) = transposed (fun k => f (a k)) n := by
  simp [transposed, List.map_map, Function.comp_def]

/-- the element type's view of a lane token: `none` is a zeroed lane, `some k` the source cell `k` -/
def ofTok (z : α) (a : Nat → α) : Option Nat → α
  | none => z
  | some k => a k

/-- **token theorem ⇒ every element type**: a kernel `K`, natural in the lane type, that transposes the lane tokens
    transposes every matrix of every element type, with the same store positions -/
theorem of_tokens (K : {γ : Type} → γ → (Nat → γ) → List (Nat × γ)) (nn n : Nat)
    (hnat : ∀ (z : α) (a : Nat → α), (K (none : Option Nat) some).map (Prod.map id (ofTok z a)) = K z a)
    (htok : finalCells (K (none : Option Nat) some) nn = transposed some n) (z : α) (a : Nat → α) :
    finalCells (K z a) nn = transposed a n ∧ (K z a).map (·.1) = (K (none : Option Nat) some).map (·.1) := by
  rw [← hnat z a, finalCells_map, htok, transposed_map]
  refine ⟨rfl, ?_⟩
  simp [List.map_map, Function.comp_def]

/-- the form the kernel theorems use: the stores also stay where they stay on tokens -/
theorem correct_of_tokens (K : {γ : Type} → γ → (Nat → γ) → List (Nat × γ)) (nn n : Nat)
    (hnat : ∀ (z : α) (a : Nat → α), (K (none : Option Nat) some).map (Prod.map id (ofTok z a)) = K z a)
    (htok : finalCells (K (none : Option Nat) some) nn = transposed some n)
    (hin : allBelow ((K (none : Option Nat) some).map (·.1)) nn = true) (z : α) (a : Nat → α) :
    finalCells (K z a) nn = transposed a n ∧ allBelow ((K z a).map (·.1)) nn = true := by
  obtain ⟨h1, h2⟩ := of_tokens K nn n hnat htok z a
  exact ⟨h1, h2 ▸ hin⟩

theorem ofTok_some (z : α) (a : Nat → α) (k : Nat) : ofTok z a (some k) = a k := rfl
theorem ofTok_none (z : α) (a : Nat → α) : ofTok z a none = z := rfl

/- `simp only [k, intr_map]` pushes `map` through the body of a kernel `k`, from its stores down to its loads. -/
attribute [intr_map] load_map load_ss_map load_sd_map loadl_pi_map setzero_map maskload_map mask_loadu_map unpacklo_ps_map
  unpackhi_ps_map movelh_ps_map movehl_ps_map shuffle_ps_map shuffle_pd_map unpacklo_ps256_map unpackhi_ps256_map
  shuffle_ps256_map shuffle_pd256_map half128_map permute2f128_map permutevar8x32_map cast256_128_map extractf128_pd_map
  cast128_256_map insertf128_pd_map permutexvar_map lane64_map permutexvar_pd_map permutex2var_pd_map
  mask_permutexvar_pd_map mask_permutexvar_ps_map insert256_map cast512_256_map cast256_512_map store_map maskstore_map
  ofTok_some ofTok_none List.map_append List.map_nil List.nil_append

theorem lastWrite_range_filterMap (c : Nat → Bool) (g : Nat → α) (o n p : Nat) :
    lastWrite ((List.range n).filterMap fun l => if c l then some (o + l, g l) else none) p
      = if o ≤ p ∧ p < o + n ∧ c (p - o) then some (g (p - o)) else none := by
  induction n with
  | zero => rw [if_neg (by omega)]; rfl
  | succ n ih =>
    rw [List.range_succ, List.filterMap_append, lastWrite_append, ih]
    by_cases hp : p = o + n
    · subst hp
      cases hc : c n <;> simp [lastWrite, hc]
    · have h1 : ¬ (o + n = p) := fun h => hp h.symm
      have h2 : p < o + (n + 1) ↔ p < o + n := by omega
      cases hc : c n <;> simp [lastWrite, hc, h1, h2]

theorem lastWrite_store (z : α) (o n : Nat) (r : List α) (p : Nat) :
    lastWrite (store z o n r) p = if o ≤ p ∧ p < o + n then some (pick z r (p - o)) else none := by
  simpa [store] using lastWrite_range_filterMap (fun _ => true) (pick z r) o n p

theorem lastWrite_maskstore (z : α) (o : Nat) (sel : List Bool) (r : List α) (p : Nat) :
    lastWrite (maskstore z o sel r) p
      = if o ≤ p ∧ p < o + sel.length ∧ sel.getD (p - o) false then some (pick z r (p - o)) else none :=
  lastWrite_range_filterMap (fun l => sel.getD l false) (pick z r) o sel.length p

theorem lastWrite_nil (p : Nat) : lastWrite ([] : List (Nat × α)) p = none := rfl

theorem finalCells_eq_transposed_iff (ws : List (Nat × α)) (a : Nat → α) (n : Nat) :
    finalCells ws (n * n) = transposed a n ↔ ∀ i < n, ∀ j < n, lastWrite ws (i * n + j) = some (a (j * n + i)) := by
  simp only [finalCells, transposed, List.map_inj_left, List.mem_range]
  constructor
  · intro h i hi j hj
    rw [h _ (pos_lt hi hj), pos_mod hj, pos_div hj]
  · intro h p hp
    have hn : 0 < n := Nat.pos_of_mul_pos_left (Nat.zero_lt_of_lt hp)
    have := h (p / n) ((Nat.div_lt_iff_lt_mul hn).2 hp) (p % n) (Nat.mod_lt _ hn)
    rwa [Nat.div_add_mod'] at this

theorem allBelow_append (xs ys : List Nat) (n : Nat) : allBelow (xs ++ ys) n = (allBelow xs n && allBelow ys n) :=
  List.all_append

end Fastor.Intr
