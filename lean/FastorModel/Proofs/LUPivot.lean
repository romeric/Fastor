import FastorModel.Proofs.LULoops
/-
  `pivot_inplace`: the swap loop returns a permutation of 0..n-1 for EVERY input (a product of transpositions applied to iota);
  the matrix form is its permutation matrix; `apply_pivot` reads row `perm i`.
-/
namespace Fastor.LU
open Finset

section perm
variable {α : Type} [Zero α]

theorem pivotPerm_perm (gt : α → α → Bool) (n : Nat) (A : Mat α) :
    (pivotPerm gt n A).toList.Perm (List.range n) := by
  unfold pivotPerm
  refine foldl_range_induction _ _ n (fun _ (p : Array Nat) => p.toList.Perm (List.range n)) (by rw [Array.toList_range]) ?_
  intro j p _ hp
  dsimp only
  split
  · rw [Array.swapIfInBounds_def]
    split
    · split
      · exact (Array.perm_iff_toList_perm.1 (Array.swap_perm _ _)).trans hp
      · exact hp
    · exact hp
  · exact hp

/-- a rearrangement of `0..n-1`, read through `getD`, is a bijection of `0..n-1` -/
theorem perm_range_bijection (p : Array Nat) (n : Nat) (hp : p.toList.Perm (List.range n)) :
    p.size = n ∧ (∀ i, i < n → p.getD i 0 < n) ∧
    (∀ i j, i < n → j < n → p.getD i 0 = p.getD j 0 → i = j) ∧
    (∀ v, v < n → ∃ i, i < n ∧ p.getD i 0 = v) := by
  have hsz : p.size = n := by simpa using hp.length_eq
  subst hsz
  have hnd : p.toList.Nodup := hp.nodup_iff.2 List.nodup_range
  have hget : ∀ i (hi : i < p.size), p.getD i 0 = p.toList[i]'(by simpa using hi) := fun i hi => by
    simp [Array.getD, hi]
  refine ⟨rfl, fun i hi => ?_, fun i j hi hj h => ?_, fun v hv => ?_⟩
  · rw [hget i hi]
    exact List.mem_range.1 (hp.mem_iff.1 (List.getElem_mem _))
  · rw [hget i hi, hget j hj] at h
    exact (List.Nodup.getElem_inj_iff hnd).1 h
  · obtain ⟨i, hi, e⟩ := List.getElem_of_mem (hp.mem_iff.2 (List.mem_range.2 hv))
    have hi' : i < p.size := by simpa using hi
    exact ⟨i, hi', by rw [hget i hi']; exact e⟩

/-- the permutation vector: right length, every value in range, no value twice — a bijection of `0..n-1` -/
theorem pivotPerm_bijection (gt : α → α → Bool) (n : Nat) (A : Mat α) :
    (pivotPerm gt n A).size = n ∧ (∀ i, i < n → (pivotPerm gt n A).getD i 0 < n) ∧
    (∀ i j, i < n → j < n → (pivotPerm gt n A).getD i 0 = (pivotPerm gt n A).getD j 0 → i = j) ∧
    (∀ v, v < n → ∃ i, i < n ∧ (pivotPerm gt n A).getD i 0 = v) :=
  perm_range_bijection _ n (pivotPerm_perm gt n A)

end perm

section field
variable {K : Type} [Field K]

/-- `P.fill(0); P(i, perm(i)) = 1`: the permutation matrix of `perm` -/
theorem pivotMat_get (n : Nat) (perm : Array Nat) (hp : ∀ i, i < n → perm.getD i 0 < n) (i j : Nat) (hi : i < n) :
    (pivotMat n perm : Mat K).get i j = if perm.getD i 0 = j then 1 else 0 := by
  obtain ⟨_, h2, h3⟩ := foldl_set_spec (fun i => i) (fun i => perm.getD i 0) (fun _ _ => (1 : K)) 0 n (Mat.zero n n)
    (pivotMat n perm) (by rw [pivotMat, List.range_eq_range']) (fun t t' _ h _ e => by omega) (fun _ _ _ _ => rfl)
    (fun t _ ht => (has_zero n n _ _).2 ⟨by omega, hp t (by omega)⟩)
  by_cases e : perm.getD i 0 = j
  · rw [if_pos e, ← e, h3 i (Nat.zero_le i) (by omega)]
  · rw [if_neg e, h2 i j fun t _ _ h => e (by rw [h.1, h.2]), get_zero]

/-- `apply_pivot(A, perm)`: row `i` of the result is row `perm(i)` of `A` -/
theorem applyPivotV_get (n : Nat) (A : Mat K) (perm : Array Nat) (i j : Nat) (hi : i < n) (hj : j < n) :
    (applyPivotV n A perm).get i j = A.get (perm.getD i 0) j := by
  unfold applyPivotV
  rw [Mat.get_ofFn, if_pos ⟨hi, hj⟩]
  split
  · rfl
  · rename_i h; have h' : perm.getD i 0 = i := Classical.not_not.1 h; rw [h']

end field
end Fastor.LU
