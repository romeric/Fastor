import FastorModel.Model.QR
import FastorModel.Proofs.RangeLoop
import FastorModel.Proofs.RangeSum
/-
  C13 — what each loop (nest) of `qr_mgsr_dispatcher` leaves in the tensor it writes, element by element.
-/
namespace Fastor.QR
open Finset

section loops
variable {σ : Type}

theorem loop_nil {lo hi : Nat} (h : hi ≤ lo) (f : Nat → σ → σ) (s : σ) : loop lo hi f s = s := by
  unfold loop
  rw [Nat.sub_eq_zero_of_le h]
  rfl

theorem loop_succ {lo hi : Nat} (h : lo ≤ hi) (f : Nat → σ → σ) (s : σ) :
    loop lo (hi + 1) f s = f hi (loop lo hi f s) := by
  unfold loop
  rw [Nat.succ_sub h, foldl_range'_succ, Nat.add_sub_cancel' h]

/-- loop invariants: `P lo s`, preserved by every iteration `lo ≤ x < hi`, gives `P hi` at exit -/
theorem loop_induction {lo hi : Nat} (hle : lo ≤ hi) (f : Nat → σ → σ) (s : σ) (P : Nat → σ → Prop)
    (h0 : P lo s) (hstep : ∀ x t, lo ≤ x → x < hi → P x t → P (x + 1) (f x t)) :
    P hi (loop lo hi f s) := by
  have h := foldl_range'_induction (fun s x => f x s) s lo (hi - lo) P h0 fun x t h1 h2 => hstep x t h1 (by omega)
  rwa [Nat.add_sub_cancel' hle] at h

end loops

section mats
variable {α : Type}

@[simp] theorem set2_get (X : Mat α) (i j : Nat) (v : α) (a b : Nat) :
    (set2 X i j v) a b = if a = i ∧ b = j then v else X a b := rfl

/-- a loop over the columns `lo ≤ j < hi` of row `r` that replaces `X(r,j)` by `g j (X(r,j))` -/
theorem loop_row (lo hi r : Nat) (g : Nat → α → α) (X : Mat α) (a b : Nat) :
    (loop lo hi (fun j X => set2 X r j (g j (X r j))) X) a b
      = if a = r ∧ lo ≤ b ∧ b < hi then g b (X a b) else X a b := by
  by_cases hle : lo ≤ hi
  · refine loop_induction hle _ X (fun x Y => ∀ a b, Y a b = if a = r ∧ lo ≤ b ∧ b < x then g b (X a b) else X a b)
      (fun a b => (if_neg (by omega)).symm) ?_ a b
    intro x Y h1 h2 ih a b
    have hx : Y r x = X r x := (ih r x).trans (if_neg (by omega))
    rw [set2_get, hx, ih a b]
    by_cases hab : a = r ∧ b = x
    · obtain ⟨rfl, rfl⟩ := hab
      rw [if_pos ⟨rfl, rfl⟩, if_pos ⟨rfl, h1, Nat.lt_succ_self b⟩]
    · rw [if_neg hab]
      by_cases hc : a = r ∧ lo ≤ b ∧ b < x
      · rw [if_pos hc, if_pos ⟨hc.1, hc.2.1, by omega⟩]
      · rw [if_neg hc, if_neg fun h => hc ⟨h.1, h.2.1, by have : b ≠ x := fun e => hab ⟨h.1, e⟩; omega⟩]
  · rw [loop_nil (by omega)]
    exact (if_neg (by omega)).symm

/-- a loop whose iteration `x` replaces row `x` by `new x (row x)` and leaves the other rows alone -/
theorem loop_rows (hi : Nat) (body : Nat → Mat α → Mat α) (new : Nat → (Nat → α) → Nat → α)
    (hbody : ∀ x (Y : Mat α) a b, (body x Y) a b = if a = x then new x (Y a) b else Y a b) (X : Mat α) (a b : Nat) :
    (loop 0 hi body X) a b = if a < hi then new a (X a) b else X a b := by
  refine loop_induction (Nat.zero_le hi) body X (fun x Y => ∀ a b, Y a b = if a < x then new a (X a) b else X a b)
    (fun a b => by rw [if_neg (Nat.not_lt_zero a)]) ?_ a b
  intro x Y _ _ ih a b
  rw [hbody]
  by_cases hax : a = x
  · subst hax
    have hrow : Y.get a = X.get a := funext fun b' => by rw [ih, if_neg (Nat.lt_irrefl a)]
    rw [if_pos rfl, if_pos (Nat.lt_succ_self a), hrow]
  · rw [if_neg hax, ih]
    by_cases hlt : a < x
    · rw [if_pos hlt, if_pos (by omega)]
    · rw [if_neg hlt, if_neg (by omega)]

end mats

section frame
/-! frame facts that need no algebraic law: they hold for floating point as well -/
variable {α : Type} [Zero α] [Add α] [Sub α] [Mul α] [Div α]

/-- step 3 touches `R` only in row `i`, columns `i+1 .. N-1` -/
theorem phase3_frame (M N i : Nat) (Q W R : Mat α) (a b : Nat) (h : ¬ (a = i ∧ i + 1 ≤ b ∧ b < N)) :
    (phase3 M N i Q W R) a b = R a b := by
  unfold phase3
  refine loop_induction (Nat.zero_le M) _ R (fun _ Y => Y a b = R a b) rfl ?_
  intro x Y _ _ ih
  rw [loop_row (i + 1) N i (fun j y => y + Q x i * W x j) Y a b, if_neg h, ih]

theorem stateAt_succ (sqrt : α → α) (M N : Nat) (A0 Qin : Mat α) (i : Nat) :
    stateAt sqrt M N A0 Qin (i + 1) = outerStep sqrt M N i (stateAt sqrt M N A0 Qin i) :=
  loop_succ (Nat.zero_le i) _ _

/-- `R.fill(0)` and the bounds `j = i+1 ..` of step 3: after `t` iterations `R` is exactly zero below the
    diagonal and in every row `≥ t` — whatever the arithmetic does -/
theorem rzero_stateAt (sqrt : α → α) (M N : Nat) (A0 Qin : Mat α) (t : Nat) :
    ∀ p j, (j < p ∨ t ≤ p) → (stateAt sqrt M N A0 Qin t).R p j = 0 := by
  induction t with
  | zero => intro p j _; rfl
  | succ n ih =>
    intro p j h
    rw [stateAt_succ]
    show (phase3 M N n _ _ (set2 _ n n _)) p j = 0
    rw [phase3_frame _ _ _ _ _ _ _ _ (by omega), set2_get, if_neg (by omega)]
    exact ih p j (by omega)

end frame

section field
variable {K : Type} [Field K]

/-- step 1: the accumulated squared column norm is the sum over the rows -/
theorem colNorm2_eq (M : Nat) (W : Mat K) (i : Nat) :
    colNorm2 M W i = ∑ k ∈ range M, W k i * W k i := by
  unfold colNorm2
  refine loop_induction (Nat.zero_le M) _ (0 : K) (fun x acc => acc = ∑ k ∈ range x, W k i * W k i) (by simp) ?_
  intro x t _ _ ih
  rw [sum_range_succ, ih]

/-- step 2 writes column `i` of `Q`, rows `0..M-1` -/
theorem phase2_get (M i : Nat) (W : Mat K) (r : K) (Q : Mat K) (a b : Nat) :
    (phase2 M i W r Q) a b = if b = i ∧ a < M then W a i / r else Q a b := by
  unfold phase2
  rw [loop_rows M _ (fun k row b => if b = i then W k i / r else row b) (fun x Y a b => by rw [set2_get, ite_and])]
  by_cases ha : a < M <;> simp only [ha, and_true, and_false, if_true, if_false]

/-- step 3 adds to `R(i,j)`, `i < j < N`, the dot product of column `i` of `Q` with column `j` of the working copy -/
theorem phase3_get (M N i : Nat) (Q W R : Mat K) (a b : Nat) :
    (phase3 M N i Q W R) a b
      = if a = i ∧ i + 1 ≤ b ∧ b < N then R a b + ∑ k ∈ range M, Q k i * W k b else R a b := by
  unfold phase3
  refine loop_induction (Nat.zero_le M) _ R
    (fun x Y => ∀ a b, Y a b = if a = i ∧ i + 1 ≤ b ∧ b < N then R a b + ∑ k ∈ range x, Q k i * W k b else R a b)
    (by intro a b; simp) ?_ a b
  intro x Y _ _ ih a b
  rw [loop_row (i + 1) N i (fun j y => y + Q x i * W x j) Y a b]
  by_cases hc : a = i ∧ i + 1 ≤ b ∧ b < N
  · rw [if_pos hc, if_pos hc, ih, if_pos hc, sum_range_succ, add_assoc]
  · rw [if_neg hc, if_neg hc, ih, if_neg hc]

/-- step 4 subtracts `Q(k,i) * R(i,j)` from the working copy in rows `k < M`, columns `i < j < N` -/
theorem phase4_get (M N i : Nat) (Q R W : Mat K) (a b : Nat) :
    (phase4 M N i Q R W) a b
      = if a < M ∧ i + 1 ≤ b ∧ b < N then W a b - Q a i * R i b else W a b := by
  unfold phase4
  rw [loop_rows M _ (fun k row b => if i + 1 ≤ b ∧ b < N then row b - Q k i * R i b else row b)
    (fun x Y a b => by rw [loop_row (i + 1) N x (fun j y => y - Q x i * R i j) Y a b, ite_and])]
  exact (ite_and _ _ _ _).symm

end field
end Fastor.QR
