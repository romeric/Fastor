import FastorModel.Proofs.ViewWrite
/-
  The n-D odometer of the view assignment operators (`odoNext`, `odoLoop` in Model/ViewWrite.lean) visits
  every multi-index of the box exactly once, in row-major order, for every rank (induction on the rank).
  From that, for the increments `incs` of the n-D loops (1 on every axis, the vector width on the last): the lanes
  they touch are the multi-indices of the full box (`odo_lanes`), and the running counter of the unequal-order
  binders is the flat index (`odo_flat_eq`).
-/
namespace Fastor.ViewWrite
open Fastor

/-- the box in row-major order: axis values `0, inc, 2 inc, … < e` -/
def box : List (Nat × Nat) → List (List Nat)
  | [] => [[]]
  | (e, inc) :: es => (forRange 0 e inc).flatMap fun a => (box es).map (a :: ·)

theorem box_ones_cons (e : Nat) (es : List Nat) :
    box (((e :: es).map fun e => (e, 1))) = (List.range e).flatMap fun x => (box (es.map fun e => (e, 1))).map (x :: ·) := by
  simp [box, forRange_zero_one]

theorem box_one (e : Nat) : box [(e, 1)] = (List.range e).map fun k => [k] := by
  simp [box, forRange_zero_one, flatMap_single]

/-- following `odoNext` from `as` visits exactly the list `L` and then runs off the front -/
inductive Steps (ei : List (Nat × Nat)) : List Nat → List (List Nat) → Prop
  | last {as} : odoNext ei as = none → Steps ei as [as]
  | cons {as as' L} : odoNext ei as = some as' → Steps ei as' L → Steps ei as (as :: L)

theorem Steps.ne_nil {ei as L} (h : Steps ei as L) : L ≠ [] := by cases h <;> simp

theorem steps_lift (e inc a : Nat) (es : List (Nat × Nat)) {as : List Nat} {L : List (List Nat)} (h : Steps es as L) :
    (¬ a + inc < e → Steps ((e, inc) :: es) (a :: as) (L.map (a :: ·))) ∧
    (a + inc < e → ∀ L2, Steps ((e, inc) :: es) ((a + inc) :: es.map (fun _ => 0)) L2 →
        Steps ((e, inc) :: es) (a :: as) (L.map (a :: ·) ++ L2)) := by
  induction h with
  | last hn =>
    refine ⟨?_, ?_⟩
    · intro hlt
      apply Steps.last
      simp [odoNext, hn, hlt]
    · intro hlt L2 h2
      simp only [List.map_cons, List.map_nil, List.cons_append, List.nil_append]
      apply Steps.cons _ h2
      simp [odoNext, hn, hlt]
  | cons hs _ ih =>
    refine ⟨?_, ?_⟩
    · intro hlt
      simp only [List.map_cons]
      apply Steps.cons _ (ih.1 hlt)
      simp [odoNext, hs]
    · intro hlt L2 h2
      simp only [List.map_cons, List.cons_append]
      apply Steps.cons _ (ih.2 hlt L2 h2)
      simp [odoNext, hs]

/-- **the odometer enumerates the box**: starting from all zeros, for every rank -/
theorem steps_box (ei : List (Nat × Nat)) (hpos : ∀ x ∈ ei, 0 < x.1 ∧ 0 < x.2) :
    Steps ei (ei.map fun _ => 0) (box ei) := by
  induction ei with
  | nil => exact Steps.last (by simp [odoNext])
  | cons x es ih =>
    obtain ⟨e, inc⟩ := x
    have hx := hpos (e, inc) (by simp)
    have ihes := ih (fun y hy => hpos y (List.mem_cons_of_mem _ hy))
    -- from the state (a, 0, …, 0) the rest of the box is visited; induction on the distance to the end
    have key : ∀ n a, e - a ≤ n → a < e →
        Steps ((e, inc) :: es) (a :: es.map (fun _ => 0)) ((forRange a e inc).flatMap fun a' => (box es).map (a' :: ·)) := by
      intro n
      induction n with
      | zero => intro a h1 h2; omega
      | succ n ihn =>
        intro a h1 h2
        rw [forRange_cons hx.2 h2, List.flatMap_cons]
        have hl := steps_lift e inc a es ihes
        by_cases hlt : a + inc < e
        · exact hl.2 hlt _ (ihn (a + inc) (by omega) hlt)
        · rw [forRange_nil (by omega : e ≤ a + inc)]
          simp only [List.flatMap_nil, List.append_nil]
          exact hl.1 hlt
    have := key e 0 (by omega) hx.1
    simpa [box] using this

/-- the loop with its counter emits the trajectory, the `k`-th state with counter `c0 + k * cstep`, as long as
    the counter guard and the fuel allow -/
theorem odoLoop_of_steps (ei : List (Nat × Nat)) (total cstep c0 : Nat) {as : List Nat} {L : List (List Nat)}
    (h : Steps ei as L) (fuel n : Nat) (hf : L.length ≤ fuel) (hc : c0 + (n + L.length - 1) * cstep < total) :
    odoLoop ei total cstep fuel (c0 + n * cstep) as = L.zip ((List.range' n L.length).map fun k => c0 + k * cstep) := by
  induction h generalizing fuel n with
  | last hn =>
    obtain ⟨fuel, rfl⟩ : ∃ f, fuel = f + 1 := ⟨fuel - 1, by simp at hf; omega⟩
    have hlt : c0 + n * cstep < total := by simpa using hc
    simp [odoLoop, hlt, hn]
  | @cons as as' L hs hrest ih =>
    obtain ⟨fuel, rfl⟩ : ∃ f, fuel = f + 1 := ⟨fuel - 1, by simp at hf; omega⟩
    rw [List.length_cons] at hf hc
    have hle : n * cstep ≤ (n + (L.length + 1) - 1) * cstep := Nat.mul_le_mul_right _ (by omega)
    have hnext : c0 + n * cstep + cstep = c0 + (n + 1) * cstep := by rw [Nat.add_one_mul, Nat.add_assoc]
    have ih' := ih fuel (n + 1) (by omega) (by rwa [show n + 1 + L.length - 1 = n + (L.length + 1) - 1 by omega])
    have hlt : c0 + n * cstep < total := by omega
    simp only [odoLoop, hlt, if_true, hs]
    rw [hnext, ih', List.length_cons, List.range'_succ]
    rfl

theorem sum_const_range (n c : Nat) : ((List.range n).map fun _ => c).sum = n * c := by
  rw [List.map_const', List.length_range, List.sum_replicate_nat]

theorem box_length (ei : List (Nat × Nat)) : (box ei).length = (ei.map fun x => forCount 0 x.1 x.2).prod := by
  induction ei with
  | nil => rfl
  | cons x es ih =>
    obtain ⟨e, inc⟩ := x
    simp only [box, List.length_flatMap, List.length_map, List.map_cons, List.prod_cons]
    rw [ih, forRange, List.map_map]
    exact sum_const_range _ _

theorem incs_cons_cons (e e' : Nat) (es : List Nat) (w : Nat) : incs (e :: e' :: es) w = (e, 1) :: incs (e' :: es) w := rfl

theorem incs_one (exts : List Nat) : incs exts 1 = exts.map fun e => (e, 1) := by
  induction exts with
  | nil => rfl
  | cons e es ih =>
    cases es with
    | nil => rfl
    | cons e' es' => rw [incs_cons_cons, ih]; rfl

theorem incs_zeros (exts : List Nat) (w : Nat) : (incs exts w).map (fun _ => 0) = exts.map fun _ => 0 := by
  induction exts with
  | nil => rfl
  | cons e es ih =>
    cases es with
    | nil => rfl
    | cons e' es' => rw [incs_cons_cons, List.map_cons, ih]; rfl

theorem incs_pos (exts : List Nat) (w : Nat) (hw : 0 < w) (he : ∀ e ∈ exts, 0 < e) :
    ∀ x ∈ incs exts w, 0 < x.1 ∧ 0 < x.2 := by
  induction exts with
  | nil => intro x hx; simp [incs] at hx
  | cons e es ih =>
    cases es with
    | nil =>
      intro x hx
      rw [incs, List.mem_singleton] at hx
      exact hx ▸ ⟨he e (by simp), hw⟩
    | cons e' es' =>
      intro x hx
      rcases List.mem_cons.1 hx with rfl | hx
      · exact ⟨he e (by simp), Nat.one_pos⟩
      · exact ih (fun y hy => he y (List.mem_cons_of_mem _ hy)) x hx

theorem box_len_mul (V : Nat) (hV : 0 < V) : ∀ (exts : List Nat), exts ≠ [] → V ∣ exts.getLast! →
    (box (incs exts V)).length * V = exts.prod := by
  intro exts
  induction exts with
  | nil => intro h; exact absurd rfl h
  | cons e es ih =>
    intro _ hd
    cases es with
    | nil =>
      obtain ⟨q, hq⟩ : V ∣ e := hd
      rw [box_length]
      simp only [incs, List.map_cons, List.map_nil, List.prod_cons, List.prod_nil, Nat.mul_one]
      rw [hq, Nat.mul_comm V q, forCount_mul q V hV]
    | cons e' es' =>
      have := ih (by simp) (by simpa [List.getLast!, List.getLast] using hd)
      rw [box_length] at this ⊢
      simp only [incs, List.map_cons, List.prod_cons, forCount_one, Nat.sub_zero] at this ⊢
      rw [Nat.mul_assoc, this]

theorem lastAx_ext (axs : List Ax) (h : axs ≠ []) : (axs.map (·.ext)).getLast! = (lastAx axs).ext := by
  induction axs with
  | nil => exact absurd rfl h
  | cons a rest ih =>
    cases rest with
    | nil => rfl
    | cons b r => simpa [List.getLast!, List.getLast, lastAx] using ih (by simp)

/-- **the n-D loop started at all zeros** with last-axis increment `W` (a divisor of the last extent) and counter step
    `W` or 1 runs to the end of the box: it emits the states of the box in row-major order, the `k`-th with counter
    `k * cstep` -/
theorem odoLoop_box (exts : List Nat) (hne : exts ≠ []) (hpos : ∀ e ∈ exts, 0 < e) (W : Nat) (hW : 0 < W)
    (hdvd : W ∣ exts.getLast!) (cstep : Nat) (hcs : cstep = W ∨ cstep = 1) :
    odoLoop (incs exts W) exts.prod cstep exts.prod 0 (exts.map fun _ => 0) =
      (box (incs exts W)).zip ((List.range (box (incs exts W)).length).map fun k => k * cstep) := by
  have hsteps := steps_box (incs exts W) (incs_pos _ W hW hpos)
  rw [incs_zeros] at hsteps
  have hlen := box_len_mul W hW exts hne hdvd
  have hL1 : 1 ≤ (box (incs exts W)).length := List.length_pos_iff.2 hsteps.ne_nil
  have hLW : (box (incs exts W)).length ≤ (box (incs exts W)).length * W := Nat.le_mul_of_pos_right _ hW
  have h := odoLoop_of_steps (incs exts W) exts.prod cstep 0 hsteps exts.prod 0 (by omega) (by
    rw [← hlen, Nat.zero_add, Nat.zero_add]
    rcases hcs with rfl | rfl
    · exact Nat.mul_lt_mul_of_pos_right (by omega) hW
    · omega)
  simpa [List.range_eq_range'] using h

/-- vector branch: the states of the odometer with the last axis stepping by `V`, each expanded into its `V`
    lanes, are the multi-indices of the full box in row-major order, at the right positions -/
theorem odo_lanes_vec (V : Nat) (hV : 0 < V) : ∀ (axs : List Ax) (dims : List Nat), axs ≠ [] → dims.length = axs.length →
    (lastAx axs).step = 1 → V ∣ (lastAx axs).ext → ∀ pb jb : Nat,
    (box (incs (axs.map (·.ext)) V)).flatMap (fun as => (List.range V).map fun l =>
        (pb + (posOf dims axs as + l), jb + (flat (axs.map (·.ext)) as + l))) =
    (box (incs (axs.map (·.ext)) 1)).map (fun j => (pb + posOf dims axs j, jb + flat (axs.map (·.ext)) j)) := by
  intro axs
  induction axs with
  | nil => intro dims h; exact absurd rfl h
  | cons a rest ih =>
    intro dims _ hlen hstep hdvd pb jb
    cases dims with
    | nil => simp at hlen
    | cons d ds =>
      cases rest with
      | nil =>
        -- the last axis: `q` blocks of `V` lanes are the `q * V` elements
        have hds : ds = [] := List.length_eq_zero_iff.1 (by simpa using hlen)
        subst hds
        obtain ⟨q, hq⟩ : V ∣ a.ext := hdvd
        have hstep : a.step = 1 := hstep
        simp only [List.map_cons, List.map_nil, incs, box]
        rw [hq, Nat.mul_comm V q, forRange_mul q V hV, forRange_zero_one]
        simp only [List.flatMap_map, List.map_map, Function.comp_def, flatMap_single,
          posOf, flat, List.prod_nil, Nat.mul_one, Nat.add_zero, hstep]
        rw [← range_blocks (fun k => (pb + (k + a.first), jb + k)) V q]
        simp only [Nat.add_right_comm _ a.first]
      | cons b rest' =>
        have ih' := ih ds (by simp) (by simpa using hlen) hstep hdvd
        have hincs : ∀ w, incs ((a :: b :: rest').map (·.ext)) w = (a.ext, 1) :: incs ((b :: rest').map (·.ext)) w :=
          incs_cons_cons a.ext b.ext _
        rw [hincs V, hincs 1]
        simp only [box, forRange_zero_one, List.flatMap_assoc, List.map_flatMap, List.flatMap_map, List.map_map,
          Function.comp_def]
        congr 1
        funext x
        have hp : ∀ as, posOf (d :: ds) (a :: b :: rest') (x :: as) = (x * a.step + a.first) * ds.prod + posOf ds (b :: rest') as :=
          fun _ => rfl
        have hf : ∀ as, flat ((a :: b :: rest').map (·.ext)) (x :: as) =
            x * ((b :: rest').map (·.ext)).prod + flat ((b :: rest').map (·.ext)) as := fun _ => rfl
        have := ih' (pb + (x * a.step + a.first) * ds.prod) (jb + x * ((b :: rest').map (·.ext)).prod)
        simp only [hp, hf, Nat.add_assoc] at this ⊢
        exact this

/-- **the lanes of the n-D loops** (equal-order binders, either counter step): the multi-indices of the full
    box in row-major order, element `j` stored at `posOf j` and taking rhs element `flat j` -/
theorem odo_lanes (V : Nat) (hV : 0 < V) (dims : List Nat) (axs : List Ax) (hne : axs ≠ []) (hlen : dims.length = axs.length)
    (hext : ∀ a ∈ axs, 0 < a.ext) (cstep : Nat) (hcs : cstep = V ∨ cstep = 1) :
    lanesOf (odoIters V dims axs false cstep) =
      (box (incs (axs.map (·.ext)) 1)).map fun j => (posOf dims axs j, flat (axs.map (·.ext)) j) := by
  have hepos : ∀ e ∈ axs.map (·.ext), 0 < e := by
    intro e he; obtain ⟨a, ha, rfl⟩ := List.mem_map.1 he; exact hext a ha
  have hne' : axs.map (·.ext) ≠ [] := by simpa using hne
  -- either branch maps the states of the loop, whose counters are not read
  have hstates : ∀ (W cs : Nat) (kind : IKind) (F : List Nat → List (Nat × Nat)), 0 < W → W ∣ (lastAx axs).ext →
      (cs = W ∨ cs = 1) →
      lanesOf ((odoLoop (incs (axs.map (·.ext)) W) (axs.map (·.ext)).prod cs (axs.map (·.ext)).prod 0
        ((axs.map (·.ext)).map fun _ => 0)).map fun st => ⟨kind, F st.1⟩) =
      (box (incs (axs.map (·.ext)) W)).flatMap F := by
    intro W cs kind F hW hdvd hcs'
    rw [odoLoop_box _ hne' hepos W hW (by rw [lastAx_ext axs hne]; exact hdvd) cs hcs', lanesOf, List.flatMap_map]
    conv => rhs; rw [← List.map_fst_zip (l₁ := box (incs (axs.map (·.ext)) W))
      (l₂ := (List.range (box (incs (axs.map (·.ext)) W)).length).map fun k => k * cs) (by simp)]
    rw [List.flatMap_map]
  unfold odoIters
  simp only [Bool.false_eq_true, if_false]
  split
  · next hc =>
    have hdvd : V ∣ (lastAx axs).ext := Nat.dvd_of_mod_eq_zero hc.1
    rw [hstates V cstep .vstore (fun as => (List.range V).map fun l =>
      (posOf dims axs as + l, flat (axs.map (·.ext)) as + l)) hV hdvd hcs]
    simpa using odo_lanes_vec V hV axs dims hne hlen hc.2 hdvd 0 0
  · rw [hstates 1 1 .scalar (fun as => [(posOf dims axs as, flat (axs.map (·.ext)) as)]) Nat.one_pos (Nat.one_dvd _)
      (Or.inl rfl), flatMap_single]

theorem box_flat (V : Nat) (hV : 0 < V) : ∀ (exts : List Nat), exts ≠ [] → V ∣ exts.getLast! →
    (box (incs exts V)).map (flat exts) = (List.range (box (incs exts V)).length).map (· * V) := by
  intro exts
  induction exts with
  | nil => intro h; exact absurd rfl h
  | cons e es ih =>
    intro _ hd
    cases es with
    | nil =>
      obtain ⟨q, hq⟩ : V ∣ e := hd
      rw [box_length]
      simp only [incs, box, List.map_cons, List.map_nil, List.prod_cons, List.prod_nil, Nat.mul_one]
      rw [hq, Nat.mul_comm V q, forCount_mul q V hV, forRange_mul q V hV, flatMap_single (fun a => [a])]
      simp [List.map_map, Function.comp_def, flat]
    | cons e' es' =>
      have hd' : V ∣ (e' :: es').getLast! := by simpa [List.getLast!, List.getLast] using hd
      have ih' := ih (by simp) hd'
      have hlen := box_len_mul V hV (e' :: es') (by simp) hd'
      rw [incs_cons_cons]
      simp only [box, List.map_flatMap, List.map_map, Function.comp_def, List.length_flatMap, List.length_map]
      rw [forRange_zero_one, sum_const_range, ← range_blocks (fun k => k * V) (box (incs (e' :: es') V)).length e]
      congr 1
      funext x
      -- block `x` of the outer axis: the flat indices of the inner states shifted by `x * prod`
      have : (box (incs (e' :: es') V)).map (fun as => flat (e :: e' :: es') (x :: as)) =
          ((box (incs (e' :: es') V)).map (flat (e' :: es'))).map (fun y => x * (e' :: es').prod + y) := by
        rw [List.map_map]; rfl
      rw [this, ih', List.map_map]
      apply List.map_congr_left
      intro k _
      simp only [Function.comp]
      rw [← hlen, Nat.add_mul, Nat.mul_assoc]

/-- **binders of unequal order**: reading the right-hand side through the running counter is reading it through
    the flat index of the multi-index — the two forms of the n-D loops are the same program -/
theorem odo_flat_eq (V : Nat) (hV : 0 < V) (dims : List Nat) (axs : List Ax) (hne : axs ≠ []) (hext : ∀ a ∈ axs, 0 < a.ext) :
    odoIters V dims axs true V = odoIters V dims axs false V := by
  have hepos : ∀ e ∈ axs.map (·.ext), 0 < e := by
    intro e he; obtain ⟨a, ha, rfl⟩ := List.mem_map.1 he; exact hext a ha
  have hne' : axs.map (·.ext) ≠ [] := by simpa using hne
  -- for either increment `W` dividing the last extent the counter of every emitted state is its flat index
  have key : ∀ W, 0 < W → W ∣ (lastAx axs).ext →
      ∀ st ∈ odoLoop (incs (axs.map (·.ext)) W) (axs.map (·.ext)).prod W (axs.map (·.ext)).prod 0
        ((axs.map (·.ext)).map fun _ => 0), st.2 = flat (axs.map (·.ext)) st.1 := by
    intro W hW hdvd st hst
    have hd' : W ∣ (axs.map (·.ext)).getLast! := by rw [lastAx_ext axs hne]; exact hdvd
    rw [odoLoop_box _ hne' hepos W hW hd' W (Or.inl rfl), ← box_flat W hW _ hne' hd', zip_self_map] at hst
    obtain ⟨a, _, rfl⟩ := List.mem_map.1 hst
    rfl
  unfold odoIters
  simp only
  split
  · next hc =>
    refine List.map_congr_left fun st hst => ?_
    simp only [if_true, Bool.false_eq_true, if_false, key V hV (Nat.dvd_of_mod_eq_zero hc.1) st hst]
  · refine List.map_congr_left fun st hst => ?_
    simp only [if_true, Bool.false_eq_true, if_false, key 1 Nat.one_pos (Nat.one_dvd _) st hst]

end Fastor.ViewWrite
