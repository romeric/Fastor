import Mathlib.Algebra.BigOperators.Group.Finset.Basic
import Mathlib.Algebra.BigOperators.Group.Finset.Piecewise
import Mathlib.Algebra.BigOperators.Group.Finset.Sigma
import Mathlib.Algebra.BigOperators.Ring.Finset
import Mathlib.Algebra.Field.Basic
import Mathlib.Tactic.Ring
/- Sums over `range n` as they occur in matrix products written entry by entry. -/
namespace Fastor
open Finset

variable {K : Type} [Field K]

theorem sum_range_congr {m : Nat} {f g : Nat → K} (h : ∀ k, k < m → f k = g k) :
    ∑ k ∈ range m, f k = ∑ k ∈ range m, g k :=
  sum_congr rfl fun k hk => h k (mem_range.1 hk)

theorem sum_split (n N : Nat) (hN : N ≤ n) (f : Nat → K) :
    ∑ m ∈ range n, f m = ∑ m ∈ range N, f m + ∑ m ∈ range (n - N), f (N + m) := by
  conv_lhs => rw [show n = N + (n - N) by omega]
  exact sum_range_add f N (n - N)

theorem sum_assoc_left (a b : Nat) (f : Nat → K) (g : Nat → Nat → K) (h : Nat → K) :
    ∑ m ∈ range a, f m * (∑ p ∈ range b, g m p * h p) = ∑ p ∈ range b, (∑ m ∈ range a, f m * g m p) * h p := by
  simp_rw [mul_sum, sum_mul]
  rw [sum_comm]
  exact sum_congr rfl fun p _ => sum_congr rfl fun m _ => (mul_assoc _ _ _).symm

theorem sum_assoc_right (a b : Nat) (f : Nat → K) (g : Nat → Nat → K) (h : Nat → K) :
    ∑ m ∈ range a, (∑ p ∈ range b, f p * g p m) * h m = ∑ p ∈ range b, f p * (∑ m ∈ range a, g p m * h m) :=
  (sum_assoc_left b a f g h).symm

theorem sum_delta_mul {n i : Nat} (hi : i < n) (f g : Nat → K) (hf : ∀ p, p < n → f p = if i = p then 1 else 0) :
    ∑ p ∈ range n, f p * g p = g i := by
  rw [sum_range_congr fun p hp => by rw [hf p hp, ite_mul, one_mul, zero_mul], sum_ite_eq, if_pos (mem_range.2 hi)]

theorem sum_mul_delta {n j : Nat} (hj : j < n) (f g : Nat → K) (hg : ∀ p, p < n → g p = if p = j then 1 else 0) :
    ∑ p ∈ range n, f p * g p = f j := by
  rw [sum_range_congr fun p hp => by rw [hg p hp, mul_ite, mul_one, mul_zero], sum_ite_eq', if_pos (mem_range.2 hj)]

theorem sum_range_trunc {n i : Nat} (hi : i < n) (f : Nat → K) (hz : ∀ m, i < m → m < n → f m = 0) :
    ∑ m ∈ range n, f m = ∑ m ∈ range i, f m + f i := by
  have tail : ∑ m ∈ range (n - (i + 1)), f (i + 1 + m) = 0 :=
    sum_eq_zero fun m hm => hz _ (by omega) (by have := mem_range.1 hm; omega)
  rw [sum_split n (i + 1) hi, sum_range_succ, tail, add_zero]

/-- one step of forward substitution against a unit lower triangular row -/
theorem sum_lower_unit {n i : Nat} (hi : i < n) (l x : Nat → K) (b : K) (hd : l i = 1) (hz : ∀ m, i < m → m < n → l m = 0)
    (hx : x i = b - ∑ k ∈ range i, l k * x k) : ∑ k ∈ range n, l k * x k = b := by
  rw [sum_range_trunc hi _ fun m h1 h2 => by rw [hz m h1 h2, zero_mul], hd, hx]
  ring

/-- one step of substitution from the right against an upper triangular column -/
theorem sum_upper_div {n j : Nat} (hj : j < n) (x u : Nat → K) (b : K) (hd : u j ≠ 0) (hz : ∀ m, j < m → m < n → u m = 0)
    (hx : x j = (b - ∑ k ∈ range j, x k * u k) / u j) : ∑ k ∈ range n, x k * u k = b := by
  rw [sum_range_trunc hj _ fun m h1 h2 => by rw [hz m h1 h2, mul_zero], hx, div_mul_cancel₀ _ hd]
  ring

end Fastor
