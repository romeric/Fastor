import FastorModel.Model.Layout
import FastorModel.Core.Grid
/-
  Mixed-radix index arithmetic for C20: row-major / column-major offsets of a multi-index, their inverses,
  reversal, and the index odometer of `tocolumnmajor` / `torowmajor`.
-/
namespace Fastor.Layout

def Box : List Nat → List Nat → Prop
  | [], [] => True
  | d :: ds, i :: is => i < d ∧ Box ds is
  | _, _ => False

/-- row-major offset `Σ_k i_k · Π_{l>k} d_l` -/
def rowFlat : List Nat → List Nat → Nat
  | _ :: ds, i :: is => i * prod ds + rowFlat ds is
  | _, _ => 0

/-- column-major offset in Horner form `i_0 + d_0·(i_1 + d_1·(…))` -/
def colFlat : List Nat → List Nat → Nat
  | d :: ds, i :: is => i + d * colFlat ds is
  | _, _ => 0

/-- column-major offset as the sum `Σ_k i_k · Π_{l<k} d_l`, with the running product `s = Π_{l<k} d_l` -/
def colOffsetFrom (s : Nat) : List Nat → List Nat → Nat
  | d :: ds, i :: is => i * s + colOffsetFrom (s * d) ds is
  | _, _ => 0

def colOffset (dims idx : List Nat) : Nat := colOffsetFrom 1 dims idx
def rowOffset (dims idx : List Nat) : Nat := rowFlat dims idx

theorem colOffsetFrom_eq (s : Nat) (ds is : List Nat) : colOffsetFrom s ds is = s * colFlat ds is := by
  induction ds generalizing s is with
  | nil => cases is <;> simp [colOffsetFrom, colFlat]
  | cons d ds ih =>
    cases is with
    | nil => simp [colOffsetFrom, colFlat]
    | cons i is =>
      simp only [colOffsetFrom, colFlat, ih]
      rw [Nat.mul_add, Nat.mul_assoc, Nat.mul_comm i s]

theorem colOffset_eq (ds is : List Nat) : colOffset ds is = colFlat ds is := by
  simp [colOffset, colOffsetFrom_eq]

theorem Box.length_eq {ds is : List Nat} (h : Box ds is) : is.length = ds.length := by
  induction ds generalizing is with
  | nil => cases is with
    | nil => rfl
    | cons => simp [Box] at h
  | cons d ds ih => cases is with
    | nil => simp [Box] at h
    | cons i is => simp [Box] at h; simp [ih h.2]

theorem prod_append (xs : List Nat) (d : Nat) : prod (xs ++ [d]) = prod xs * d := by
  induction xs with
  | nil => simp [prod]
  | cons x xs ih => simp [prod, ih, Nat.mul_assoc]

theorem prod_reverse (xs : List Nat) : prod xs.reverse = prod xs := by
  induction xs with
  | nil => rfl
  | cons x xs ih => simp [prod_append, prod, ih, Nat.mul_comm]

theorem rowFlat_lt {ds is : List Nat} (h : Box ds is) : rowFlat ds is < prod ds := by
  induction ds generalizing is with
  | nil => cases is with
    | nil => simp [rowFlat, prod]
    | cons => simp [Box] at h
  | cons d ds ih => cases is with
    | nil => simp [Box] at h
    | cons i is => exact pos_lt h.1 (ih h.2)

theorem mul_add_inj {P i j r s : Nat} (hr : r < P) (hs : s < P) (h : i * P + r = j * P + s) : i = j ∧ r = s := by
  have hij : i = j := by
    rcases Nat.lt_trichotomy i j with hlt | heq | hgt
    · have := pos_lt hlt hr; omega
    · exact heq
    · have := pos_lt hgt hs; omega
  subst hij
  exact ⟨rfl, by omega⟩

theorem rowFlat_inj {ds is js : List Nat} (hi : Box ds is) (hj : Box ds js) (h : rowFlat ds is = rowFlat ds js) :
    is = js := by
  induction ds generalizing is js with
  | nil => cases is with
    | nil => cases js with
      | nil => rfl
      | cons => simp [Box] at hj
    | cons => simp [Box] at hi
  | cons d ds ih => cases is with
    | nil => simp [Box] at hi
    | cons i is => cases js with
      | nil => simp [Box] at hj
      | cons j js =>
        simp only [Box] at hi hj
        simp only [rowFlat] at h
        have := mul_add_inj (rowFlat_lt hi.2) (rowFlat_lt hj.2) h
        rw [this.1, ih hi.2 hj.2 this.2]

def unflatRow : List Nat → Nat → List Nat
  | [], _ => []
  | _ :: ds, p => p / prod ds :: unflatRow ds (p % prod ds)

theorem unflatRow_spec {ds : List Nat} {p : Nat} (h : p < prod ds) :
    Box ds (unflatRow ds p) ∧ rowFlat ds (unflatRow ds p) = p := by
  induction ds generalizing p with
  | nil => simp [unflatRow, Box, rowFlat, prod] at *; omega
  | cons d ds ih =>
    simp only [prod] at h
    have hP : 0 < prod ds := Nat.pos_of_mul_pos_left (Nat.zero_lt_of_lt h)
    have hm := ih (Nat.mod_lt p hP)
    refine ⟨⟨?_, hm.1⟩, ?_⟩
    · rw [Nat.div_lt_iff_lt_mul hP]; exact h
    · simp only [unflatRow, rowFlat, hm.2]
      exact Nat.div_add_mod' p (prod ds)

/-! ### reversal: column-major = row-major of the reversed extents and index -/

theorem rowFlat_append {ds is : List Nat} (hl : is.length = ds.length) (d i : Nat) :
    rowFlat (ds ++ [d]) (is ++ [i]) = rowFlat ds is * d + i := by
  induction ds generalizing is with
  | nil => cases is with
    | nil => simp [rowFlat, prod]
    | cons => simp at hl
  | cons e ds ih => cases is with
    | nil => simp at hl
    | cons j is =>
      simp only [List.length_cons, Nat.add_right_cancel_iff] at hl
      simp only [List.cons_append, rowFlat, prod_append, ih hl]
      rw [Nat.add_mul, Nat.mul_assoc, Nat.add_assoc]

theorem colFlat_eq_rowFlat_reverse {ds is : List Nat} (hl : is.length = ds.length) :
    colFlat ds is = rowFlat ds.reverse is.reverse := by
  induction ds generalizing is with
  | nil => cases is <;> simp [colFlat, rowFlat]
  | cons d ds ih => cases is with
    | nil => simp at hl
    | cons i is =>
      simp only [List.length_cons, Nat.add_right_cancel_iff] at hl
      simp only [List.reverse_cons, colFlat]
      rw [rowFlat_append (by simp [hl]), ← ih hl, Nat.mul_comm, Nat.add_comm]

theorem box_append {ds is : List Nat} (hl : is.length = ds.length) (d i : Nat) :
    Box (ds ++ [d]) (is ++ [i]) ↔ Box ds is ∧ i < d := by
  induction ds generalizing is with
  | nil => cases is with
    | nil => simp [Box]
    | cons => simp at hl
  | cons e ds ih => cases is with
    | nil => simp at hl
    | cons j is =>
      simp only [List.length_cons, Nat.add_right_cancel_iff] at hl
      simp only [List.cons_append, Box, ih hl, and_assoc]

theorem box_reverse {ds is : List Nat} (hl : is.length = ds.length) : Box ds.reverse is.reverse ↔ Box ds is := by
  induction ds generalizing is with
  | nil => cases is with
    | nil => simp
    | cons => simp at hl
  | cons d ds ih => cases is with
    | nil => simp at hl
    | cons i is =>
      simp only [List.length_cons, Nat.add_right_cancel_iff] at hl
      simp only [List.reverse_cons]
      rw [box_append (by simp [hl]), ih hl]
      simp only [Box]; exact And.comm

theorem box_reverse' {ds as : List Nat} (h : Box ds.reverse as) : Box ds as.reverse := by
  have hl := h.length_eq
  have : as.reverse.length = ds.length := by simpa using hl
  rw [← box_reverse this]; simpa using h

theorem colFlat_lt {ds is : List Nat} (h : Box ds is) : colFlat ds is < prod ds := by
  rw [colFlat_eq_rowFlat_reverse h.length_eq, ← prod_reverse]
  exact rowFlat_lt ((box_reverse h.length_eq).2 h)

theorem colFlat_inj {ds is js : List Nat} (hi : Box ds is) (hj : Box ds js) (h : colFlat ds is = colFlat ds js) :
    is = js := by
  rw [colFlat_eq_rowFlat_reverse hi.length_eq, colFlat_eq_rowFlat_reverse hj.length_eq] at h
  have := rowFlat_inj ((box_reverse hi.length_eq).2 hi) ((box_reverse hj.length_eq).2 hj) h
  simpa using congrArg List.reverse this

def unflatCol (ds : List Nat) (p : Nat) : List Nat := (unflatRow ds.reverse p).reverse

theorem unflatCol_spec {ds : List Nat} {p : Nat} (h : p < prod ds) :
    Box ds (unflatCol ds p) ∧ colFlat ds (unflatCol ds p) = p := by
  have hs := unflatRow_spec (ds := ds.reverse) (p := p) (by rw [prod_reverse]; exact h)
  have hb := box_reverse' hs.1
  unfold unflatCol
  refine ⟨hb, ?_⟩
  rw [colFlat_eq_rowFlat_reverse hb.length_eq]
  simp only [List.reverse_reverse]
  exact hs.2


theorem rowFlat_eq_dot (ds is : List Nat) : rowFlat ds is = dot (strides ds) is := by
  induction ds generalizing is with
  | nil => cases is <;> simp [rowFlat, strides, dot]
  | cons d ds ih => cases is with
    | nil => simp [rowFlat, strides, dot]
    | cons i is => simp [rowFlat, strides, dot, ih, Nat.mul_comm]

theorem strides_length (ds : List Nat) : (strides ds).length = ds.length := by
  induction ds with
  | nil => rfl
  | cons d ds ih => simp [strides, ih]

theorem dot_append {xs ys : List Nat} (hl : ys.length = xs.length) (x y : Nat) :
    dot (xs ++ [x]) (ys ++ [y]) = dot xs ys + x * y := by
  induction xs generalizing ys with
  | nil => cases ys with
    | nil => simp [dot]
    | cons => simp at hl
  | cons a xs ih => cases ys with
    | nil => simp at hl
    | cons b ys =>
      simp only [List.length_cons, Nat.add_right_cancel_iff] at hl
      simp only [List.cons_append, dot, ih hl, Nat.add_assoc]

theorem dot_reverse {xs ys : List Nat} (hl : ys.length = xs.length) : dot xs.reverse ys.reverse = dot xs ys := by
  induction xs generalizing ys with
  | nil => cases ys <;> simp [dot]
  | cons a xs ih => cases ys with
    | nil => simp at hl
    | cons b ys =>
      simp only [List.length_cons, Nat.add_right_cancel_iff] at hl
      simp only [List.reverse_cons]
      rw [dot_append (by simp [hl]), ih hl]
      simp only [dot]; omega


/-- the body of the increment at one position, given the outcome `r` of the positions to its right -/
def incrStep (d a : Nat) (r : List Nat × Bool) : List Nat × Bool :=
  if r.2 then (if a + 1 < d then ((a + 1) :: r.1, false) else (0 :: r.1, true)) else (a :: r.1, false)

theorem odoIncr_cons (d a : Nat) (ds as : List Nat) : odoIncr (d :: ds) (a :: as) = incrStep d a (odoIncr ds as) := rfl

theorem incrStep_spec (d a v : Nat) (ds : List Nat) (r : List Nat × Bool) (ha : a < d) (hb : Box ds r.1)
    (hv : rowFlat ds r.1 + (if r.2 then prod ds else 0) = v + 1) :
    Box (d :: ds) (incrStep d a r).1 ∧
    rowFlat (d :: ds) (incrStep d a r).1 + (if (incrStep d a r).2 then prod (d :: ds) else 0) = a * prod ds + v + 1 := by
  obtain ⟨as', c⟩ := r
  cases c with
  | false =>
    simp only [incrStep, Bool.false_eq_true, if_false, Box, rowFlat] at hb hv ⊢
    exact ⟨⟨ha, hb⟩, by omega⟩
  | true =>
    simp only [if_true] at hb hv
    by_cases h1 : a + 1 < d
    · simp only [incrStep, if_true, h1, Box, rowFlat, Bool.false_eq_true, if_false]
      refine ⟨⟨trivial, hb⟩, ?_⟩
      rw [Nat.add_mul, Nat.one_mul]; omega
    · simp only [incrStep, if_true, h1, if_false, Box, rowFlat, prod]
      have hd : d = a + 1 := by omega
      refine ⟨⟨by omega, hb⟩, ?_⟩
      rw [hd, Nat.add_mul, Nat.one_mul]; omega

/-- one increment: stays in the box and adds one to the value, the flag reporting the wrap-around -/
theorem odoIncr_spec {dh as : List Nat} (h : Box dh as) :
    Box dh (odoIncr dh as).1 ∧
    rowFlat dh (odoIncr dh as).1 + (if (odoIncr dh as).2 then prod dh else 0) = rowFlat dh as + 1 := by
  induction dh generalizing as with
  | nil => cases as with
    | nil => simp [odoIncr, Box, rowFlat, prod]
    | cons => simp [Box] at h
  | cons d ds ih => cases as with
    | nil => simp [Box] at h
    | cons a as =>
      simp only [Box] at h
      have hr := ih h.2
      rw [odoIncr_cons]
      have := incrStep_spec d a (rowFlat ds as) ds (odoIncr ds as) h.1 hr.1 hr.2
      simpa [rowFlat, Nat.add_assoc] using this

/-- the loop visits the counters `counter, counter+1, …, size-1` in order, and at counter `c` the odometer holds
    the digits of `c` (most significant first w.r.t. `dh`) -/
theorem odoLoop_eq (pr dh : List Nat) (fuel : Nat) (as : List Nat) (counter : Nat)
    (hb : Box dh as) (hv : rowFlat dh as = counter) (hf : prod dh ≤ counter + fuel) :
    odoLoop pr dh (prod dh) fuel as counter =
      (List.range' counter (prod dh - counter)).map fun c => (dot pr (unflatRow dh c), c) := by
  induction fuel generalizing as counter with
  | zero =>
    have : prod dh - counter = 0 := by omega
    simp [odoLoop, this]
  | succ fuel ih =>
    have hlt : counter < prod dh := hv ▸ rowFlat_lt hb
    simp only [odoLoop, hlt, if_true]
    have hspec := odoIncr_spec hb
    have has : as = unflatRow dh counter := by
      have hu := unflatRow_spec hlt
      exact rowFlat_inj hb hu.1 (by rw [hu.2, hv])
    have hsplit : prod dh - counter = (prod dh - (counter + 1)) + 1 := by omega
    rw [hsplit, List.range'_succ]
    simp only [List.map_cons]
    congr 1
    · rw [has]
    · cases hc : (odoIncr dh as).2 with
      | true =>
        simp only [hc, if_true] at hspec
        have : prod dh - (counter + 1) = 0 := by omega
        simp [this]
      | false =>
        simp only [hc, Bool.false_eq_true, if_false] at hspec
        simp only [Bool.false_eq_true, if_false]
        exact ih (odoIncr dh as).1 (counter + 1) hspec.1 (by omega) (by omega)

theorem box_replicate_zero {ds : List Nat} (h : 0 < prod ds) : Box ds (List.replicate ds.length 0) := by
  induction ds with
  | nil => trivial
  | cons d ds ih => exact ⟨Nat.pos_of_mul_pos_right h, ih (Nat.pos_of_mul_pos_left h)⟩

theorem rowFlat_replicate_zero (ds : List Nat) : rowFlat ds (List.replicate ds.length 0) = 0 := by
  induction ds with
  | nil => simp [rowFlat]
  | cons d ds ih => simp [List.replicate_succ, rowFlat, ih]

/-- the odometer's store order: counter `c` of the n-D branch pairs the row-major offset of the multi-index whose
    column-major offset is `c` -/
theorem odoMoves_eq (dims : List Nat) (hpos : 0 < prod dims) :
    odoMoves dims = (List.range (prod dims)).map fun c => (dot (strides dims).reverse (unflatRow dims.reverse c), c) := by
  have hb0 := box_replicate_zero (ds := dims.reverse) (by rw [prod_reverse]; exact hpos)
  have hloop := odoLoop_eq (strides dims).reverse dims.reverse (prod dims) _ 0 hb0 (rowFlat_replicate_zero dims.reverse)
    (by rw [prod_reverse]; omega)
  rw [List.length_reverse, prod_reverse, Nat.sub_zero, ← List.range_eq_range'] at hloop
  exact hloop

/-- **the n-D branch**: the moves are exactly the pairs (row-major offset, column-major offset) of the box -/
theorem mem_odoMoves (dims : List Nat) (m : Nat × Nat) :
    m ∈ odoMoves dims ↔ ∃ i, Box dims i ∧ m = (rowFlat dims i, colFlat dims i) := by
  by_cases hpos : 0 < prod dims
  · rw [odoMoves_eq dims hpos]
    simp only [List.mem_map, List.mem_range]
    constructor
    · rintro ⟨c, hc, rfl⟩
      have hu := unflatRow_spec (ds := dims.reverse) (p := c) (by rw [prod_reverse]; exact hc)
      have hbi := box_reverse' hu.1
      refine ⟨(unflatRow dims.reverse c).reverse, hbi, ?_⟩
      have hl := hbi.length_eq
      have hd := dot_reverse (xs := strides dims) (ys := (unflatRow dims.reverse c).reverse)
        (by rw [strides_length]; exact hl)
      rw [List.reverse_reverse] at hd
      rw [colFlat_eq_rowFlat_reverse hl, List.reverse_reverse, hu.2, rowFlat_eq_dot, hd]
    · rintro ⟨i, hi, rfl⟩
      have hl := hi.length_eq
      refine ⟨colFlat dims i, colFlat_lt hi, ?_⟩
      have hbr := (box_reverse hl).2 hi
      have hu := unflatRow_spec (ds := dims.reverse) (p := colFlat dims i) (by rw [prod_reverse]; exact colFlat_lt hi)
      have : unflatRow dims.reverse (colFlat dims i) = i.reverse :=
        rowFlat_inj hu.1 hbr (by rw [hu.2, colFlat_eq_rowFlat_reverse hl])
      have hd := dot_reverse (xs := strides dims) (ys := i) (by rw [strides_length]; exact hl)
      rw [this, rowFlat_eq_dot, hd]
  · have h0 : prod dims = 0 := by omega
    unfold odoMoves
    rw [h0]
    simp only [odoLoop]
    constructor
    · intro h; simp at h
    · rintro ⟨i, hi, -⟩
      have := rowFlat_lt hi; omega

theorem mem_loop2 (M N : Nat) (m : Nat × Nat) :
    m ∈ loop2 M N ↔ ∃ i, Box [M, N] i ∧ m = (rowFlat [M, N] i, colFlat [M, N] i) := by
  simp only [loop2, List.mem_flatMap, List.mem_map, List.mem_range]
  constructor
  · rintro ⟨i, hi, j, hj, rfl⟩
    exact ⟨[i, j], by simp [Box, hi, hj], by simp [rowFlat, colFlat, prod, Nat.mul_comm, Nat.add_comm]⟩
  · rintro ⟨idx, hb, rfl⟩
    match idx, hb with
    | [i, j], hb =>
      simp only [Box, and_true] at hb
      exact ⟨i, hb.1, j, hb.2, by simp [rowFlat, colFlat, prod, Nat.mul_comm, Nat.add_comm]⟩

/-- **every rank**: the moves of `tocolumnmajor` are exactly the pairs (row-major offset, column-major offset) -/
theorem mem_toColumnMajorMoves (dims : List Nat) (m : Nat × Nat) :
    m ∈ toColumnMajorMoves dims ↔ ∃ i, Box dims i ∧ m = (rowFlat dims i, colFlat dims i) := by
  match dims with
  | [] =>
    simp only [toColumnMajorMoves, List.mem_singleton]
    constructor
    · rintro rfl; exact ⟨[], by simp [Box], by simp [rowFlat, colFlat]⟩
    · rintro ⟨i, hb, rfl⟩
      match i, hb with
      | [], _ => simp [rowFlat, colFlat]
  | [n] =>
    simp only [toColumnMajorMoves, List.mem_map, List.mem_range]
    constructor
    · rintro ⟨p, hp, rfl⟩; exact ⟨[p], by simp [Box, hp], by simp [rowFlat, colFlat, prod]⟩
    · rintro ⟨i, hb, rfl⟩
      match i, hb with
      | [p], hb => simp only [Box, and_true] at hb; exact ⟨p, hb, by simp [rowFlat, colFlat, prod]⟩
  | [M, N] => exact mem_loop2 M N m
  | d0 :: d1 :: d2 :: ds => exact mem_odoMoves _ m

theorem mem_toRowMajorMoves (dims : List Nat) (m : Nat × Nat) :
    m ∈ toRowMajorMoves dims ↔ ∃ i, Box dims i ∧ m = (colFlat dims i, rowFlat dims i) := by
  have key : m ∈ (toColumnMajorMoves dims).map (fun m => (m.2, m.1)) ↔ ∃ i, Box dims i ∧ m = (colFlat dims i, rowFlat dims i) := by
    simp only [List.mem_map]
    constructor
    · rintro ⟨m', hm', rfl⟩
      obtain ⟨i, hi, rfl⟩ := (mem_toColumnMajorMoves dims m').1 hm'
      exact ⟨i, hi, rfl⟩
    · rintro ⟨i, hi, rfl⟩
      exact ⟨(rowFlat dims i, colFlat dims i), (mem_toColumnMajorMoves dims _).2 ⟨i, hi, rfl⟩, rfl⟩
  match dims with
  | [] => simpa [toRowMajorMoves, toColumnMajorMoves] using key
  | [n] =>
    have : toRowMajorMoves [n] = (toColumnMajorMoves [n]).map (fun m => (m.2, m.1)) := by
      simp [toRowMajorMoves, toColumnMajorMoves, Function.comp_def]
    rw [this]; exact key
  | [M, N] => exact key
  | d0 :: d1 :: d2 :: ds => exact key


variable {α : Type}

theorem applyWrites_indexed {ι : Type} {ws : List (Nat × α)} {I : ι → Prop} {dst : ι → Nat} {val : ι → α}
    (hws : ∀ w, w ∈ ws ↔ ∃ i, I i ∧ w = (dst i, val i)) (hinj : ∀ i j, I i → I j → dst i = dst j → i = j)
    (m : Nat → α) :
    (∀ i, I i → applyWrites ws m (dst i) = val i) ∧ (∀ p, (∀ i, I i → dst i ≠ p) → applyWrites ws m p = m p) := by
  refine ⟨fun i hi => ?_, fun p hp => ?_⟩ <;> rw [applyWrites_eq_lastWrite]
  · cases h : lastWrite ws (dst i) with
    | none => exact absurd rfl ((lastWrite_none_iff ws _).1 h _ ((hws _).2 ⟨i, hi, rfl⟩))
    | some v =>
      obtain ⟨j, hj, e⟩ := (hws _).1 (lastWrite_some_mem h)
      rw [Prod.mk.injEq] at e
      rw [e.2, hinj j i hj hi e.1.symm]; rfl
  · rw [(lastWrite_none_iff ws p).2]; rfl
    intro w hw
    obtain ⟨i, hi, rfl⟩ := (hws w).1 hw
    exact hp i hi

/-- a converter whose moves pair the offsets `dst i`, `src i` of the multi-indices of the box, `dst` injective there -/
theorem runMoves_at {moves : List (Nat × Nat)} {dims : List Nat} {dst src : List Nat → Nat}
    (hm : ∀ m, m ∈ moves ↔ ∃ i, Box dims i ∧ m = (dst i, src i))
    (hinj : ∀ {i j}, Box dims i → Box dims j → dst i = dst j → i = j) (a init : Nat → α) {i : List Nat} (hi : Box dims i) :
    runMoves moves a init (dst i) = a (src i) := by
  refine (applyWrites_indexed (val := fun i => a (src i)) (fun w => ?_) (fun _ _ => hinj) init).1 i hi
  simp only [movesWrites, List.mem_map, hm]
  constructor
  · rintro ⟨_, ⟨i, hi, rfl⟩, rfl⟩
    exact ⟨i, hi, rfl⟩
  · rintro ⟨i, hi, rfl⟩
    exact ⟨_, ⟨i, hi, rfl⟩, rfl⟩

end Fastor.Layout
