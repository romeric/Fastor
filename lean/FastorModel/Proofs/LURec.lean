import FastorModel.Proofs.LUBasic
/-
  `recursive_lu_dispatcher`: the right-looking elimination keeps `L * U = A` at every step.
-/
namespace Fastor.LU
open Finset

variable {K : Type} [Field K]

def recState (n : Nat) (A : Mat K) (k : Nat) : Mat K × Mat K :=
  (List.range k).foldl (luRecStep n) (Mat.eye n, Mat.copy n n A)

/-- the strategy is defined on `A`: every pivot `U.data()[k*N+k]` the recursion divides by is non-zero -/
def RecDefined (n : Nat) (A : Mat K) : Prop := ∀ k, k < n - 1 → (recState n A k).2.get k k ≠ 0

/-- after `k` steps: still `L * U = A`; `L` is unit lower triangular and its columns `≥ k` are those of the identity; the
columns `< k` of `U` are eliminated below the diagonal -/
structure RecInv (n k : Nat) (A L U : Mat K) : Prop where
  mul : ∀ i j, i < n → j < n → ∑ m ∈ range n, L.get i m * U.get m j = A.get i j
  diag : ∀ i, i < n → L.get i i = 1
  lzero : ∀ i j, i < n → j < n → i < j → L.get i j = 0
  lid : ∀ i j, i < n → j < n → k ≤ j → i ≠ j → L.get i j = 0
  uzero : ∀ i j, i < n → j < n → j < k → j < i → U.get i j = 0

theorem recStep_L (n k : Nat) (L U : Mat K) (i j : Nat) (hi : i < n) (hj : j < n) :
    (luRecStep n (L, U) k).1.get i j = if j = k ∧ k < i then U.get i k / U.get k k else L.get i j := by
  simp only [luRecStep, Mat.get_ofFn, hi, hj, and_self, if_true]

theorem recStep_U (n k : Nat) (L U : Mat K) (i j : Nat) (hi : i < n) (hj : j < n) (hk : k < n) :
    (luRecStep n (L, U) k).2.get i j =
      if k < i ∧ k < j then U.get i j - (U.get i k / U.get k k) * U.get k j
      else if j = k ∧ k < i then 0 else U.get i j := by
  simp only [luRecStep, Mat.get_ofFn, hi, hj, hk, and_self, if_true]
  by_cases h1 : k < i <;> by_cases h2 : k < j
  · have : j ≠ k := by omega
    simp [h1, h2, this]
  · simp [h1, h2]
  · simp [h1, h2]
  · simp [h1, h2]

theorem recInv_init (n : Nat) (A : Mat K) : RecInv n 0 A (Mat.eye n) (Mat.copy n n A) := by
  refine ⟨fun i j hi hj => ?_, fun i hi => ?_, fun i j hi hj h => ?_, fun i j hi hj _ h => ?_, fun i j _ _ h => by omega⟩
  · rw [sum_delta_mul hi _ _ fun m hm => get_eye n i m hi hm, get_copy n n A i j hi hj]
  · rw [get_eye n i i hi hi, if_pos rfl]
  · rw [get_eye n i j hi hj, if_neg (Nat.ne_of_lt h)]
  · rw [get_eye n i j hi hj, if_neg h]

theorem recStep_inv (n k : Nat) (A L U : Mat K) (h : RecInv n k A L U) (hk : k < n) (hp : U.get k k ≠ 0) :
    RecInv n (k + 1) A (luRecStep n (L, U) k).1 (luRecStep n (L, U) k).2 := by
  obtain ⟨hmul, hdiag, hlz, hlid, huz⟩ := h
  have hL := recStep_L n k L U
  have hU := fun i j hi hj => recStep_U n k L U i j hi hj hk
  generalize (luRecStep n (L, U) k).1 = L' at hL ⊢
  generalize (luRecStep n (L, U) k).2 = U' at hU ⊢
  refine ⟨?_, ?_, ?_, ?_, ?_⟩
  · -- The step is a rank-one update with the column `c` of multipliers: `L' = L + c e_kᵀ`, `U' = U - c (row k of U)`.
    -- As `L c = c` (the columns of `L` right of `k` are still those of the identity) and `c k = 0`, `L' U' = L U`.
    obtain ⟨c, hc⟩ : ∃ c : Nat → K, ∀ i, c i = if k < i then U.get i k / U.get k k else 0 := ⟨_, fun _ => rfl⟩
    have hL' : ∀ i m, i < n → m < n → L'.get i m = L.get i m + if m = k then c i else 0 := by
      intro i m hi hm
      rw [hL i m hi hm, hc]
      by_cases hmk : m = k
      · by_cases hki : k < i
        · rw [if_pos ⟨hmk, hki⟩, if_pos hmk, if_pos hki, hmk, hlid i k hi hk (Nat.le_refl k) (by omega), zero_add]
        · rw [if_neg fun h => hki h.2, if_pos hmk, if_neg hki, add_zero]
      · rw [if_neg fun h => hmk h.1, if_neg hmk, add_zero]
    have hU' : ∀ m j, m < n → j < n → U'.get m j = U.get m j - c m * U.get k j := by
      intro m j hm hj
      rw [hU m j hm hj, hc]
      by_cases hkm : k < m
      · rw [if_pos hkm]
        rcases Nat.lt_trichotomy j k with hjk | hjk | hjk
        · rw [if_neg (by omega), if_neg (by omega), huz k j hk hj hjk hjk, mul_zero, sub_zero]
        · subst hjk
          rw [if_neg (by omega), if_pos ⟨rfl, hkm⟩, div_mul_cancel₀ _ hp, sub_self]
        · rw [if_pos ⟨hkm, hjk⟩]
      · rw [if_neg fun h => hkm h.1, if_neg fun h => hkm h.2, if_neg hkm, zero_mul, sub_zero]
    have hLc : ∀ i, i < n → ∑ m ∈ range n, L.get i m * c m = c i := by
      intro i hi
      rw [sum_range_congr (g := fun m => if i = m then c m else 0) fun m hm => ?_, sum_ite_eq, if_pos (mem_range.2 hi)]
      by_cases hkm : k < m
      · by_cases him : i = m
        · rw [if_pos him, ← him, hdiag i hi, one_mul]
        · rw [if_neg him, hlid i m hi hm (by omega) him, zero_mul]
      · rw [hc m, if_neg hkm, mul_zero, ite_self]
    intro i j hi hj
    have expand : ∀ m, (L.get i m + if m = k then c i else 0) * (U.get m j - c m * U.get k j) =
        L.get i m * U.get m j - L.get i m * c m * U.get k j + if m = k then c i * (U.get m j - c m * U.get k j) else 0 := by
      intro m; split <;> ring
    rw [← hmul i j hi hj, sum_range_congr fun m hm => by rw [hL' i m hi hm, hU' m j hm hj, expand],
      sum_add_distrib, sum_sub_distrib, ← sum_mul, hLc i hi, sum_ite_eq', if_pos (mem_range.2 hk), hc k,
      if_neg (Nat.lt_irrefl k)]
    ring
  · intro i hi
    rw [hL i i hi hi, if_neg (by omega)]
    exact hdiag i hi
  · intro i j hi hj hij
    rw [hL i j hi hj, if_neg (by omega)]
    exact hlz i j hi hj hij
  · intro i j hi hj hkj hne
    rw [hL i j hi hj, if_neg (by omega)]
    exact hlid i j hi hj (by omega) hne
  · intro i j hi hj hjk hji
    rw [hU i j hi hj, if_neg (by omega)]
    by_cases hj' : j = k
    · rw [if_pos ⟨hj', by omega⟩]
    · rw [if_neg fun h => hj' h.1]
      exact huz i j hi hj (by omega) hji

theorem recState_succ (n : Nat) (A : Mat K) (k : Nat) :
    recState n A (k + 1) = luRecStep n (recState n A k) k :=
  foldl_range_succ _ _ k

theorem recState_inv (n : Nat) (A : Mat K) (hdef : RecDefined n A) :
    ∀ k, k ≤ n - 1 → RecInv n k A (recState n A k).1 (recState n A k).2 := by
  intro k
  induction k with
  | zero => intro _; exact recInv_init n A
  | succ k ih =>
    intro hk
    rw [recState_succ]
    exact recStep_inv n k A _ _ (ih (by omega)) (by omega) (hdef k (by omega))

/-- row `k` of `U` is final when step `k` begins: the later steps write below it -/
theorem recState_row_frozen (n : Nat) (A : Mat K) (k j : Nat) (hk : k < n) (hj : j < n) :
    ∀ m, k ≤ m → m < n → (recState n A m).2.get k j = (recState n A k).2.get k j := by
  intro m hkm
  induction m, hkm using Nat.le_induction with
  | base => intro _; rfl
  | succ m hkm ih =>
    intro hm
    rw [recState_succ]
    refine (recStep_U n m _ _ k j hk hj (by omega)).trans ?_
    rw [if_neg (by omega), if_neg (by omega)]
    exact ih (by omega)

theorem recDefined_of_diag (n : Nat) (A : Mat K) (h : ∀ k, k < n - 1 → (recState n A (n - 1)).2.get k k ≠ 0) :
    RecDefined n A := fun k hk => by
  rw [← recState_row_frozen n A k k (by omega) (by omega) (n - 1) (by omega) (by omega)]
  exact h k hk

/-- `recursive_lu_dispatcher` for every size M ≥ 2 -/
theorem luRecursive_isLU (n : Nat) (hn : 2 ≤ n) (A L0 U0 : Mat K) (hdef : RecDefined n A) :
    IsLU n A (luRecursive n A L0 U0).1 (luRecursive n A L0 U0).2 := by
  have h := recState_inv n A hdef (n - 1) (Nat.le_refl _)
  have e : luRecursive n A L0 U0 = recState n A (n - 1) := by
    unfold luRecursive recState
    rw [if_neg (by omega)]
  rw [e]
  exact ⟨h.diag, h.lzero, fun i j hi hj hji => h.uzero i j hi hj (by omega) hji, h.mul⟩

end Fastor.LU
