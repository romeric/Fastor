import Mathlib.Algebra.BigOperators.Intervals
/- Accumulation loops `acc += f k` over a range of `k` as finite sums. -/
namespace Fastor
open Finset

variable {R : Type} [AddCommMonoid R]

/-- the new term on the right (`acc += …`) -/
theorem foldl_add_range' (f : Nat → R) (x : R) (k0 n : Nat) :
    (List.range' k0 n).foldl (fun acc k => acc + f k) x = x + ∑ k ∈ Ico k0 (k0 + n), f k := by
  induction n with
  | zero => simp
  | succ m ih =>
    rw [List.range'_concat, List.foldl_append, ih, ← Nat.add_assoc, Finset.sum_Ico_succ_top (by omega),
      Nat.one_mul, ← add_assoc]
    rfl

/-- the new term on the left (`acc = fmadd(…, acc)`) -/
theorem foldl_add_range'_left (f : Nat → R) (x : R) (k0 n : Nat) :
    (List.range' k0 n).foldl (fun acc k => f k + acc) x = x + ∑ k ∈ Ico k0 (k0 + n), f k :=
  (funext fun acc => funext fun k => add_comm acc (f k) : (fun acc k => acc + f k) = _) ▸ foldl_add_range' f x k0 n

theorem foldl_add_eq_sum (f : Nat → R) (n : Nat) :
    (List.range n).foldl (fun acc k => acc + f k) 0 = ∑ k ∈ range n, f k := by
  rw [List.range_eq_range', foldl_add_range', zero_add, Nat.zero_add, Nat.Ico_zero_eq_range]

end Fastor
