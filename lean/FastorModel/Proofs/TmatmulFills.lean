import FastorModel.Proofs.MatmulFills
import FastorModel.Model.Tmatmul
/-
  Index-level correctness of the triangular kernels: every tile's clipped `k` range contains every
  `k` at which both operands can be non-zero, and the tiles fill the grid.
-/
namespace Fastor.Tmatmul
open Fastor Fastor.Matmul

def lzero : UpLo → Nat → Nat → Prop
  | .general, _, _ => False
  | .lower, r, k => r < k
  | .upper, r, k => k < r
def rzero : UpLo → Nat → Nat → Prop
  | .general, _, _ => False
  | .lower, k, c => k < c
  | .upper, k, c => c < k

/-- the accumulated range `[k0,kk)` misses only terms with a structural zero factor -/
def KRangeOK (lt rt : UpLo) (K r c k0 kk : Nat) : Prop :=
  kk ≤ K ∧ ∀ k, k < K → (k < k0 ∨ kk ≤ k) → (lzero lt r k ∨ rzero rt k c)

def TComplete (lt rt : UpLo) (K : Nat) (e : St) : Prop := KRangeOK lt rt K e.r e.c e.k0 e.kk

/-- **the clipping is sufficient for every cell of a tile, whatever the unroll factors** -/
theorem krange_sufficient (lt rt : UpLo) (K uo ui i j r c : Nat)
    (hr : i ≤ r ∧ r < i + uo) (hc : j ≤ c ∧ c < j + ui) :
    KRangeOK lt rt K r c (kfirst lt rt i j) (klast lt rt K uo ui i j) := by
  unfold KRangeOK
  -- a lower `a` is zero for `k > r`, so `k` may stop at `i + uo > r`; an upper `a` is zero for `k < r`, so `k` may start at
  -- `i ≤ r`.  A lower `b` is zero for `k < c` (start at `j ≤ c`), an upper `b` for `k > c` (stop at `j + ui > c`).
  -- Every tag pair combines one bound for `a` with one for `b`.
  cases lt <;> cases rt <;> simp only [kfirst, klast, lzero, rzero] <;>
    refine ⟨by omega, fun k hk h => ?_⟩ <;> omega

theorem complete_tcomplete (lt rt : UpLo) (K : Nat) (e : St) (h : Complete K e) : TComplete lt rt K e := by
  obtain ⟨h0, hk, _⟩ := h
  unfold TComplete KRangeOK
  rw [h0, hk]
  exact ⟨Nat.le_refl _, fun k hk' h => by omega⟩

variable {N K : Nat} {lt rt : UpLo}

theorem fills_tblock {rows cols : List Nat} {R C : Nat → Prop} (st k0 kk : Nat)
    (hR : ∀ r, r ∈ rows ↔ R r) (hC : ∀ c, c ∈ cols ↔ C c) :
    Fills N (fun e => e.k0 = k0 ∧ e.kk = kk) [tblock rows cols st k0 kk] R C :=
  Fills.cells rfl (fun _ _ => ⟨rfl, rfl⟩) (fun _ _ _ _ => ⟨rfl, rfl⟩) (fun _ h => (List.not_mem_nil h).elim) hR hC

theorem fills_clipped {segs : List Seg} {i j h w uo ui : Nat} (huo : h ≤ uo) (hui : w ≤ ui)
    (hf : Fills N (fun e => e.k0 = kfirst lt rt i j ∧ e.kk = klast lt rt K uo ui i j) segs
      (fun r => i ≤ r ∧ r < i + h) (fun c => j ≤ c ∧ c < j + w)) :
    Fills N (TComplete lt rt K) segs (fun r => i ≤ r ∧ r < i + h) (fun c => j ≤ c ∧ c < j + w) :=
  hf.imp fun e hr hc ⟨h0, hk⟩ => by
    unfold TComplete
    rw [h0, hk]
    exact krange_sufficient lt rt K uo ui i j e.r e.c (by omega) (by omega)

/-- `cs j` lists the columns of the chunk at `j`; the masked remainder chunk, of width `w ≤ V`, clips as a full
    vector does (`ui = V`) -/
theorem tiles_tblock {cs : Nat → List Nat} {w : Nat} (hcs : ∀ j c, c ∈ cs j ↔ j ≤ c ∧ c < j + w)
    (u ui st : Nat) (hw : w ≤ ui) :
    Tiles N (TComplete lt rt K)
      (fun i j => [tblock (rowsFrom i u) (cs j) st (kfirst lt rt i j) (klast lt rt K u ui i j)]) u w :=
  fun _ j => fills_clipped (Nat.le_refl _) hw (fills_tblock st _ _ (fun _ => mem_rowsFrom) (hcs j))

theorem tiles_tinterior (V u nR nC : Nat) (hu : 0 < u) {h w : Nat} (hh : h = nR * u) (hw : w = nC * V) :
    Tiles N (TComplete lt rt K) (fun i j => tinterior lt rt K V i j u nR nC) h w :=
  hh ▸ hw ▸ fun _ _ => fills_clipped (Nat.le_of_eq (Nat.mul_comm nR u)) (Nat.le_refl _)
    (Fills.rowChunks hu fun _ => fills_tblock 0 _ _ (fun _ => mem_rowsFrom) (fun _ => mem_colsAsc))

theorem tiles_tinteriorScalar (u nR : Nat) (hu : 0 < u) :
    Tiles N (TComplete lt rt K) (fun i j => tinteriorScalar lt rt K i j u nR) (nR * u) 1 :=
  fun _ _ => fills_clipped (Nat.le_of_eq (Nat.mul_comm nR u)) (Nat.le_refl _)
    (Fills.rowChunks hu fun _ => fills_tblock 1 _ _ (fun _ => mem_rowsFrom) (fun _ => mem_single))

/-- the unclipped tiles (remainder rows; most of the masked kernel) -/
theorem tiles_complete {t : Nat → Nat → List Seg} {h w : Nat} (ht : Tiles N (Complete K) t h w) :
    Tiles N (TComplete lt rt K) t h w :=
  fun i j => (ht i j).mono (complete_tcomplete lt rt K)

theorem fills_tbase (M V : Nat) (bl : Blocking) (hV : 0 < V) (hu : 0 < bl.u) (hnR : 0 < bl.nR)
    (hnC : 0 < bl.nC) : Fills N (TComplete lt rt K) (tbase lt rt M K N V bl) (· < M) (· < N) :=
  (fills_grid (M := M) hV hu hnR hnC (Nat.one_dvd _)
    (tiles_tinterior V _ _ _ hu rfl rfl) (tiles_tinterior V _ _ 1 hu rfl (Nat.one_mul V).symm)
    (tiles_tinteriorScalar _ _ hu)
    (tiles_tinterior V _ 1 _ hu (Nat.one_mul _).symm rfl)
    (tiles_tblock (fun _ _ => mem_colsAsc) _ V 0 (Nat.le_refl _))
    (tiles_tblock (fun _ _ => mem_single) _ 1 1 (Nat.le_refl _))
    (fun h => tiles_complete (tiles_interior V _ 1 _ h (Nat.one_mul _).symm rfl))
    (tiles_complete (tiles_blockPartial (fun _ _ => mem_colsAsc) _ 0 (by omega)))
    (tiles_complete (tiles_blockPartial (fun _ _ => mem_single) _ 1 (by omega))) :)

theorem fills_tbaseMasked (masks : Bool) (M V : Nat) (bl : Blocking) (hV : 0 < V) (hu : 0 < bl.u)
    (hnR : 0 < bl.nR) (hnC : 0 < bl.nC) :
    Fills N (TComplete lt rt K) (tbaseMasked lt rt masks M K N V bl) (· < M) (· < N) :=
  have hw : N - N / V * V ≤ V := by
    have := Nat.lt_div_mul_add (a := N) hV; omega
  (fills_grid (M := M) hV hu hnR hnC (Nat.dvd_refl _)
    (tiles_complete (tiles_interior V _ _ _ hu rfl rfl))
    (tiles_complete (tiles_interior V _ _ 1 hu rfl (Nat.one_mul V).symm))
    (tiles_complete (tiles_interiorMask masks _ _ _ hu))
    (tiles_complete (tiles_interior V _ 1 _ hu (Nat.one_mul _).symm rfl))
    (tiles_tblock (fun _ _ => mem_colsAsc) _ V 0 (Nat.le_refl _)) (tiles_tblock (fun _ _ => mem_maskCols) _ V 0 hw)
    (fun h => tiles_complete (tiles_interior V _ 1 _ h (Nat.one_mul _).symm rfl))
    (tiles_complete (tiles_blockPartial (fun _ _ => mem_colsAsc) _ 0 (by omega)))
    (tiles_complete (tiles_block (fun _ _ => mem_maskCols) _ 0 (by omega))) :)

theorem fills_tnonPrimitive (M : Nat) :
    Fills N (TComplete lt rt K) (tnonPrimitive lt rt M K N) (· < M) (· < N) :=
  Fills.rangeRows fun i => Fills.rangeColsMap fun j =>
    (fills_clipped (i := i) (j := j) (h := 1) (w := 1) (Nat.le_refl _) (Nat.le_refl _)
      (fills_tblock 1 _ _ (fun _ => mem_single) (fun _ => mem_single))).congr
      (fun r => by omega) (fun c => by omega)

end Fastor.Tmatmul
