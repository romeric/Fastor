import FastorModel.Model.Inverse
import FastorModel.Core.Grid
import FastorModel.Proofs.Sums
import Mathlib.Data.Matrix.Block
import Mathlib.LinearAlgebra.Matrix.NonsingularInverse
import Mathlib.Tactic.Ring
import Mathlib.Tactic.Abel
/-
  The model's matrices as Mathlib matrices (`toMat`), and the block step of the recursive inverse: a matrix assembled
  from the inverse of the leading block and of its Schur complement is a left inverse (`block_left_inv`).
-/
namespace Fastor.Inv
open Matrix

section Basic
variable {α : Type}

theorem flat_div_mod_lt {n k : Nat} (hk : k < n * n) : k / n < n ∧ k % n < n :=
  ⟨Nat.div_lt_of_lt_mul hk, Nat.mod_lt k (Nat.pos_of_ne_zero fun h => by subst h; omega)⟩

theorem memo_eq (n m : Nat) (f : Mat α) : memo n m f = f := by
  rcases f with ⟨g, ⟨⟩⟩
  unfold memo
  simp only
  congr 1
  funext i j
  split
  · rename_i h
    split
    · simp [Array.getElem_ofFn, pos_div h.2, pos_mod h.2]
    · rfl
  · rfl

theorem memoV_eq (n : Nat) (f : Vec α) : memoV n f = f := by
  rcases f with ⟨g, ⟨⟩⟩
  unfold memoV
  simp only
  congr 1
  funext i
  split
  · simp [Array.getElem_ofFn]
  · rfl

end Basic

section Ring
variable {K : Type} [Field K]

/-- the leading `n × m` part of a model matrix as a Mathlib matrix -/
def toMat (n m : Nat) (A : Mat K) : Matrix (Fin n) (Fin m) K := Matrix.of fun i j => A i.val j.val

@[simp] theorem toMat_apply (n m : Nat) (A : Mat K) (i : Fin n) (j : Fin m) : toMat n m A i j = A i.val j.val := rfl

theorem matmul_apply (k : Nat) (A B : Mat K) (i j : Nat) :
    (matmul k A B) i j = ∑ l ∈ Finset.range k, A i l * B l j := by
  show (List.range k).foldl (fun acc l => acc + A i l * B l j) 0 = _
  exact foldl_add_eq_sum (fun l => A i l * B l j) k

theorem toMat_matmul (n k m : Nat) (A B : Mat K) :
    toMat n m (matmul k A B) = toMat n k A * toMat k m B := by
  ext i j
  rw [toMat_apply, matmul_apply, Matrix.mul_apply, ← Fin.sum_univ_eq_sum_range (fun l => A i.val l * B l j.val)]
  rfl

theorem toMat_congr {n m : Nat} {A B : Mat K} (h : ∀ i < n, ∀ j < m, A i j = B i j) :
    toMat n m A = toMat n m B := by
  ext i j; exact h i.val i.isLt j.val j.isLt

theorem toMat_add' (n m : Nat) (A B : Mat K) :
    toMat n m { get := fun i j => A i j + B i j } = toMat n m A + toMat n m B := by ext i j; rfl
theorem toMat_sub' (n m : Nat) (A B : Mat K) :
    toMat n m { get := fun i j => A i j - B i j } = toMat n m A - toMat n m B := by ext i j; rfl
theorem toMat_neg' (n m : Nat) (A : Mat K) :
    toMat n m { get := fun i j => - A i j } = - toMat n m A := by ext i j; rfl
theorem toMat_zero' (n m : Nat) :
    toMat n m ({ get := fun _ _ => (0 : K) } : Mat K) = 0 := by ext i j; rfl

/-- the four fixed views of a `(N+R) × (N+R)` matrix -/
theorem toMat_blocks (N R : Nat) (A : Mat K) :
    toMat (N + R) (N + R) A =
      Matrix.reindex finSumFinEquiv finSumFinEquiv
        (Matrix.fromBlocks (toMat N N (blk A 0 0)) (toMat N R (blk A 0 N))
                           (toMat R N (blk A N 0)) (toMat R R (blk A N N))) := by
  ext i j
  obtain ⟨i', rfl⟩ := finSumFinEquiv.surjective i
  obtain ⟨j', rfl⟩ := finSumFinEquiv.surjective j
  simp only [Matrix.reindex_apply, Matrix.submatrix_apply, Equiv.symm_apply_apply]
  rcases i' with i' | i' <;> rcases j' with j' | j' <;>
    simp [blk, finSumFinEquiv_apply_left, finSumFinEquiv_apply_right]

/-- the four view assignments -/
theorem toMat_assemble (N R : Nat) (aa ab ba bb : Mat K) :
    toMat (N + R) (N + R) (assemble N aa ab ba bb) =
      Matrix.reindex finSumFinEquiv finSumFinEquiv
        (Matrix.fromBlocks (toMat N N aa) (toMat N R ab) (toMat R N ba) (toMat R R bb)) := by
  ext i j
  obtain ⟨i', rfl⟩ := finSumFinEquiv.surjective i
  obtain ⟨j', rfl⟩ := finSumFinEquiv.surjective j
  simp only [Matrix.reindex_apply, Matrix.submatrix_apply, Equiv.symm_apply_apply]
  rcases i' with i' | i' <;> rcases j' with j' | j' <;>
    simp [assemble, finSumFinEquiv_apply_left, finSumFinEquiv_apply_right]

theorem reindex_mul_eq_one {n r : Nat} (X A : Matrix (Fin n ⊕ Fin r) (Fin n ⊕ Fin r) K) (h : X * A = 1) :
    Matrix.reindex finSumFinEquiv finSumFinEquiv X * Matrix.reindex finSumFinEquiv finSumFinEquiv A = 1 := by
  simp only [Matrix.reindex_apply]
  rw [Matrix.submatrix_mul_equiv, h, Matrix.submatrix_one_equiv]

/-- the Schur-complement block inverse (left inverse), for arbitrary block sizes; the parenthesisation is the one
    of the code: `inva_b = inv_a*b`, `bb_c_inva = block_bb*(c*inv_a)` -/
theorem block_left_inv {n r : Nat}
    (a : Matrix (Fin n) (Fin n) K) (b : Matrix (Fin n) (Fin r) K) (c : Matrix (Fin r) (Fin n) K)
    (d : Matrix (Fin r) (Fin r) K) (ia : Matrix (Fin n) (Fin n) K) (is : Matrix (Fin r) (Fin r) K)
    (ha : ia * a = 1) (hs : is * (d - (c * ia) * b) = 1) :
    Matrix.fromBlocks (ia + (ia * b) * (is * (c * ia))) (-((ia * b) * is)) (-(is * (c * ia))) is
      * Matrix.fromBlocks a b c d = 1 := by
  have h2 : is * d = 1 + is * (c * (ia * b)) := by
    have := hs
    rw [Matrix.mul_sub, sub_eq_iff_eq_add] at this
    rw [this, Matrix.mul_assoc c ia b]
  rw [Matrix.fromBlocks_multiply, ← Matrix.fromBlocks_one]
  congr 1
  · simp only [Matrix.add_mul, Matrix.neg_mul, Matrix.mul_assoc, ha, Matrix.mul_one]
    abel
  · simp only [Matrix.add_mul, Matrix.neg_mul, Matrix.mul_assoc, h2, Matrix.mul_add, Matrix.mul_one]
    abel
  · simp only [Matrix.neg_mul, Matrix.mul_assoc, ha, Matrix.mul_one]
    abel
  · simp only [Matrix.neg_mul, Matrix.mul_assoc, h2]
    abel

/-- upper block-triangular inverse: `[[a,b],[0,d]]⁻¹ = [[a⁻¹, -a⁻¹(b d⁻¹)],[0,d⁻¹]]` (`c = 0` in `block_left_inv`) -/
theorem block_upper_left_inv {n r : Nat}
    (a : Matrix (Fin n) (Fin n) K) (b : Matrix (Fin n) (Fin r) K)
    (d : Matrix (Fin r) (Fin r) K) (ia : Matrix (Fin n) (Fin n) K) (id' : Matrix (Fin r) (Fin r) K)
    (ha : ia * a = 1) (hd : id' * d = 1) :
    Matrix.fromBlocks ia (-(ia * (b * id'))) 0 id' * Matrix.fromBlocks a b 0 d = 1 := by
  have h := block_left_inv a b 0 d ia id' ha (by rw [Matrix.zero_mul, Matrix.zero_mul, sub_zero, hd])
  simpa only [Matrix.zero_mul, Matrix.mul_zero, add_zero, neg_zero, Matrix.mul_assoc] using h

/-- lower block-triangular inverse: `[[a,0],[c,d]]⁻¹ = [[a⁻¹,0],[-d⁻¹(c a⁻¹), d⁻¹]]` (`b = 0` in `block_left_inv`) -/
theorem block_lower_left_inv {n r : Nat}
    (a : Matrix (Fin n) (Fin n) K) (c : Matrix (Fin r) (Fin n) K)
    (d : Matrix (Fin r) (Fin r) K) (ia : Matrix (Fin n) (Fin n) K) (id' : Matrix (Fin r) (Fin r) K)
    (ha : ia * a = 1) (hd : id' * d = 1) :
    Matrix.fromBlocks ia 0 (-(id' * (c * ia))) id' * Matrix.fromBlocks a 0 c d = 1 := by
  have h := block_left_inv a 0 c d ia id' ha (by rw [Matrix.mul_zero, sub_zero, hd])
  simpa only [Matrix.zero_mul, Matrix.mul_zero, add_zero, neg_zero] using h

end Ring
end Fastor.Inv
