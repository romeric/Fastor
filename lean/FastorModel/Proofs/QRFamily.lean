import FastorModel.Proofs.QRInv
/-
  C13 — the rational-QR family: if `A0 = Q0 * R0` with `Q0` having orthonormal columns, `R0` upper triangular and
  `sqrt (R0 i i ^ 2) = R0 i i ≠ 0`, then the dispatcher returns exactly `Q0`, `R0`, and the `i`-th argument of `sqrt`
  is `R0 i i ^ 2`.  This is why the exact correspondence runs never meet a non-square.
-/
namespace Fastor.QR
open Finset

variable {K : Type} [Field K]

structure Fam (M N : Nat) (A0 Q0 R0 : Mat K) (sqrt : K → K) : Prop where
  orth : ∀ p q, p < N → q < N → ∑ k ∈ range M, Q0 k p * Q0 k q = if p = q then 1 else 0
  upper : ∀ p j, j < p → R0 p j = 0
  root : ∀ i, i < N → sqrt (R0 i i * R0 i i) = R0 i i ∧ R0 i i ≠ 0
  prod : ∀ k j, k < M → j < N → A0 k j = ∑ p ∈ range N, Q0 k p * R0 p j

/-- after `i` iterations on the family: the first `i` columns of `Q` and rows of `R` are those of `Q0` and `R0`, and the
    remaining columns of the working copy are `Q0` times `R0` with its first `i` rows cleared -/
structure FInv (M N : Nat) (Q0 R0 : Mat K) (i : Nat) (s : St K) : Prop where
  fQ : ∀ k p, k < M → p < i → s.Q k p = Q0 k p
  fR : ∀ p j, p < i → j < N → s.R p j = R0 p j
  fW : ∀ k j, k < M → i ≤ j → j < N → s.W k j = ∑ p ∈ range N, Q0 k p * (if i ≤ p then R0 p j else 0)

theorem finv_step (sqrt : K → K) (M N i : Nat) (A0 Q0 R0 : Mat K) (s : St K) (hf : Fam M N A0 Q0 R0 sqrt)
    (hi : i < N) (hz : ∀ j, s.R i j = 0) (h : FInv M N Q0 R0 i s) :
    colNorm2 M s.W i = R0 i i * R0 i i ∧ FInv M N Q0 R0 (i + 1) (outerStep sqrt M N i s) := by
  -- column `i` of the working copy is `R0 i i` times column `i` of `Q0`, as `R0` is upper triangular
  have hWi : ∀ k, k < M → s.W k i = Q0 k i * R0 i i := by
    intro k hk
    rw [h.fW k i hk (Nat.le_refl i) hi, sum_eq_single i, if_pos (Nat.le_refl i)]
    · intro p _ hpi
      by_cases hip : i ≤ p
      · rw [if_pos hip, hf.upper p i (by omega), mul_zero]
      · rw [if_neg hip, mul_zero]
    · intro hni; exact absurd (mem_range.2 hi) hni
  have hnorm : colNorm2 M s.W i = R0 i i * R0 i i := by
    rw [colNorm2_eq, sum_congr rfl (fun k hk => by
      rw [hWi k (mem_range.1 hk), show Q0 k i * R0 i i * (Q0 k i * R0 i i) = (Q0 k i * Q0 k i) * (R0 i i * R0 i i) by ring]),
      ← sum_mul, hf.orth i i hi hi, if_pos rfl, one_mul]
  refine ⟨hnorm, ?_⟩
  have hr := hf.root i hi
  have hQ := outerStep_Q sqrt M N i s
  have hR := outerStep_R sqrt M N i s
  have hW := outerStep_W sqrt M N i s
  rw [hnorm, hr.1] at hQ hR
  generalize outerStep sqrt M N i s = s' at hQ hR hW
  have hQi : ∀ k, k < M → s'.Q k i = Q0 k i := by
    intro k hk
    rw [hQ, if_pos ⟨rfl, hk⟩, hWi k hk, mul_div_assoc, div_self hr.2, mul_one]
  -- `R(i,j) = Σ_k Q0(k,i) W(k,j)`: column `i` of `Q0` against `Q0 * (…)` picks row `i`
  have hRij : ∀ j, i + 1 ≤ j → j < N → s'.R i j = R0 i j := by
    intro j h1 h2
    rw [hR, if_pos ⟨rfl, h1, h2⟩, set2_get, if_neg (by omega), hz j, zero_add,
      sum_range_congr fun k hk => by rw [hQi k hk, h.fW k j hk (by omega) h2],
      sum_assoc_left, sum_delta_mul hi _ _ fun p hp => hf.orth i p hi hp, if_pos (Nat.le_refl i)]
  refine ⟨?_, ?_, ?_⟩
  · intro k p hk hp
    rcases Nat.lt_succ_iff_lt_or_eq.1 hp with hp | rfl
    · rw [hQ, if_neg (by omega)]; exact h.fQ k p hk hp
    · exact hQi k hk
  · intro p j hp hj
    rcases Nat.lt_succ_iff_lt_or_eq.1 hp with hp | rfl
    · rw [hR, if_neg (by omega), set2_get, if_neg (by omega)]; exact h.fR p j hp hj
    · rcases Nat.lt_trichotomy j p with hlt | rfl | hgt
      · rw [hR, if_neg (by omega), set2_get, if_neg (by omega), hz j, hf.upper p j hlt]
      · rw [hR, if_neg (by omega), set2_get, if_pos ⟨rfl, rfl⟩]
      · exact hRij j (by omega) hj
  · intro k j hk h1 h2
    rw [hW, if_pos ⟨hk, h1, h2⟩, hQi k hk, hRij j h1 h2, h.fW k j hk (by omega) h2]
    have hsplit : ∀ p, Q0 k p * (if i ≤ p then R0 p j else 0)
        = (if p = i then Q0 k i * R0 i j else 0) + Q0 k p * (if i + 1 ≤ p then R0 p j else 0) := by
      intro p
      by_cases h3 : p = i
      · subst h3; rw [if_pos (Nat.le_refl p), if_pos rfl, if_neg (by omega), mul_zero, add_zero]
      · by_cases h4 : i ≤ p
        · rw [if_pos h4, if_neg h3, if_pos (by omega), zero_add]
        · rw [if_neg h4, if_neg h3, if_neg (by omega), zero_add]
    rw [sum_congr rfl (fun p _ => hsplit p), sum_add_distrib, sum_ite_eq' (range N) i, if_pos (mem_range.2 hi)]
    ring

/-- on the family the state after `i` iterations holds the first `i` columns of `Q0` and rows of `R0`, and the
    arguments of `sqrt` so far were the squares `R0 t t ^ 2` -/
theorem finv_stateAt (sqrt : K → K) (M N : Nat) (A0 Qin Q0 R0 : Mat K) (hf : Fam M N A0 Q0 R0 sqrt) (i : Nat) (hi : i ≤ N) :
    FInv M N Q0 R0 i (stateAt sqrt M N A0 Qin i)
    ∧ ∀ t, t < i → normArg sqrt M N A0 Qin t = R0 t t * R0 t t := by
  induction i with
  | zero =>
    refine ⟨⟨by intro k p _ hp; omega, by intro p j hp; omega, ?_⟩, by intro t ht; omega⟩
    intro k j hk _ hj
    show A0 k j = _
    rw [hf.prod k j hk hj]
    exact sum_congr rfl (fun p _ => by rw [if_pos (Nat.zero_le p)])
  | succ n ih =>
    obtain ⟨h1, h2⟩ := ih (by omega)
    have hstep := finv_step sqrt M N n A0 Q0 R0 _ hf (by omega)
      (fun j => rzero_stateAt sqrt M N A0 Qin n n j (Or.inr (Nat.le_refl n))) h1
    rw [stateAt_succ]
    refine ⟨hstep.2, ?_⟩
    intro t ht
    rcases Nat.lt_succ_iff_lt_or_eq.1 ht with ht | rfl
    · exact h2 t ht
    · exact hstep.1

end Fastor.QR
