import FastorModel.Proofs.TmatmulFills
import FastorModel.Proofs.MatmulVal
/-
  For operands that vanish outside their tagged triangle, the clipped accumulation of a
  `TComplete` event equals the full dot product.
-/
namespace Fastor.Tmatmul
open Finset

variable {R : Type} [CommSemiring R]

/-- `a` vanishes outside the `lt` triangle, `b` outside the `rt` triangle -/
def TriA (lt : UpLo) (K : Nat) (a : Nat → R) : Prop := ∀ r k, k < K → lzero lt r k → a (r * K + k) = 0
def TriB (rt : UpLo) (N : Nat) (b : Nat → R) : Prop := ∀ k c, c < N → rzero rt k c → b (k * N + c) = 0

theorem sum_clip (f : Nat → R) (K k0 kk : Nat) (hkk : kk ≤ K)
    (hz : ∀ k, k < K → (k < k0 ∨ kk ≤ k) → f k = 0) :
    ∑ k ∈ Ico k0 (k0 + (kk - k0)), f k = ∑ k ∈ range K, f k := by
  apply Finset.sum_subset
  · intro k hk
    simp only [mem_Ico, mem_range] at hk ⊢
    omega
  · intro k hk hnk
    simp only [mem_Ico, mem_range] at hk hnk
    exact hz k hk (by omega)

theorem tval_final (lt rt : UpLo) (a b : Nat → R) (K N : Nat) (ha : TriA lt K a) (hb : TriB rt N b)
    (e : St) (hc : e.c < N) (h : TComplete lt rt K e) :
    tval a b K N e = ∑ k ∈ range K, a (e.r * K + k) * b (k * N + e.c) := by
  obtain ⟨hkk, hz⟩ := h
  have hzero : ∀ k, k < K → (k < e.k0 ∨ e.kk ≤ k) → a (e.r * K + k) * b (k * N + e.c) = 0 := by
    intro k hk hout
    rcases hz k hk hout with h1 | h1
    · rw [ha _ _ hk h1, zero_mul]
    · rw [hb _ _ hc h1, mul_zero]
  unfold tval
  split
  · rw [dotFmaR, foldl_add_range'_left, zero_add]
    exact sum_clip _ K e.k0 e.kk hkk hzero
  · rw [dotAccR, foldl_add_range', zero_add]
    exact sum_clip _ K e.k0 e.kk hkk hzero

end Fastor.Tmatmul
