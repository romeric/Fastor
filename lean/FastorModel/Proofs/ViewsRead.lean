import FastorModel.Proofs.Views
import FastorModel.Proofs.Loops
/-
  Lemmas for C04, part 2: row-major offsets, scalar indexing, the un-flatten loop and the evaluators of
  the views against the documented element of a slice.
-/
namespace Fastor.Views

/-- Horner evaluation `((i0*d1 + i1)*d2 + i2)…`: the offset of the element with multi-index `idx` -/
def horner : Nat → List Nat → List Nat → Nat
  | acc, d :: ds, i :: is => horner (acc * d + i) ds is
  | acc, _, _ => acc

def rowMajor (dims idx : List Nat) : Nat := horner 0 dims idx

def InRange : List Nat → List Nat → Prop
  | d :: ds, i :: is => i < d ∧ InRange ds is
  | [], [] => True
  | _, _ => False

theorem horner_eq (acc : Nat) (ds is : List Nat) (h : ds.length = is.length) :
    horner acc ds is = acc * lprod ds + rowMajor ds is := by
  induction ds generalizing acc is with
  | nil => cases is <;> simp [horner, rowMajor, lprod]
  | cons d ds ih =>
    cases is with
    | nil => simp at h
    | cons i is =>
      simp only [List.length_cons, Nat.add_right_cancel_iff] at h
      simp only [rowMajor, horner, lprod]
      rw [ih _ _ h, ih (0 * d + i) _ h]
      ring

theorem rowMajor_cons (d : Nat) (ds : List Nat) (i : Nat) (is : List Nat) (h : ds.length = is.length) :
    rowMajor (d :: ds) (i :: is) = i * lprod ds + rowMajor ds is := by
  show horner (0 * d + i) ds is = _
  rw [horner_eq _ _ _ h, Nat.zero_mul, Nat.zero_add]

theorem inRange_length {ds is : List Nat} (h : InRange ds is) : ds.length = is.length := by
  induction ds generalizing is with
  | nil => cases is <;> simp_all [InRange]
  | cons d ds ih =>
    cases is with
    | nil => simp [InRange] at h
    | cons i is => simp [ih h.2]

theorem inRange_pos {ds is : List Nat} (h : InRange ds is) : ∀ d ∈ ds, 0 < d := by
  induction ds generalizing is with
  | nil => simp
  | cons d ds ih =>
    cases is with
    | nil => simp [InRange] at h
    | cons i is =>
      intro x hx
      rcases List.mem_cons.1 hx with rfl | hx
      · exact Nat.zero_lt_of_lt h.1
      · exact ih h.2 x hx

theorem lprod_pos {ds : List Nat} (h : ∀ d ∈ ds, 0 < d) : 0 < lprod ds := by
  induction ds with
  | nil => exact Nat.one_pos
  | cons d ds ih => exact Nat.mul_pos (h d (by simp)) (ih (fun x hx => h x (by simp [hx])))

theorem rowMajor_lt {ds is : List Nat} (h : InRange ds is) : rowMajor ds is < lprod ds := by
  induction ds generalizing is with
  | nil => cases is <;> simp_all [InRange, rowMajor, horner, lprod]
  | cons d ds ih =>
    cases is with
    | nil => simp [InRange] at h
    | cons i is =>
      rw [rowMajor_cons _ _ _ _ (inRange_length h.2)]
      calc i * lprod ds + rowMajor ds is < i * lprod ds + lprod ds := Nat.add_lt_add_left (ih h.2) _
        _ = (i + 1) * lprod ds := (Nat.add_one_mul _ _).symm
        _ ≤ d * lprod ds := Nat.mul_le_mul_right _ h.1

/-- each argument is a valid (possibly negative) index of its axis -/
def ValidArgs : List Nat → List Int → Prop
  | d :: ds, a :: as => -(d : Int) ≤ a ∧ a < d ∧ ValidArgs ds as
  | [], [] => True
  | _, _ => False

/-- the documented element: negative indices count from the end -/
def wrapNat (d : Nat) (a : Int) : Nat := (if a < 0 then (d : Int) + a else a).toNat

theorem wrap_valid {ds : List Nat} {as : List Int} (h : ValidArgs ds as) :
    List.zipWith wrapIdx ds as = (List.zipWith wrapNat ds as).map (fun (i : Nat) => (i : Int)) ∧
    InRange ds (List.zipWith wrapNat ds as) ∧ inBounds ds (List.zipWith wrapIdx ds as) = true := by
  induction ds generalizing as with
  | nil => cases as <;> simp_all [ValidArgs, InRange, inBounds]
  | cons d ds ih =>
    cases as with
    | nil => simp [ValidArgs] at h
    | cons a as =>
      obtain ⟨h1, h2, h3⟩ := h
      obtain ⟨i1, i2, i3⟩ := ih h3
      have hw : wrapIdx d a = ((wrapNat d a : Nat) : Int) := by
        unfold wrapIdx wrapNat; split <;> omega
      have hlt : wrapNat d a < d := by unfold wrapNat; split <;> omega
      refine ⟨?_, ⟨hlt, i2⟩, ?_⟩
      · simp only [List.zipWith_cons_cons, List.map_cons, hw, i1]
      · simp only [List.zipWith_cons_cons, inBounds, hw, i3, Bool.and_true, Bool.and_eq_true, decide_eq_true_eq]
        omega

/-- the products sum of `get_flat_index` on natural indices is the row-major offset -/
theorem dotProds_cast (ds is : List Nat) (h : ds.length = is.length) :
    dotProds (prods ds) (is.map (fun (i : Nat) => (i : Int))) = (rowMajor ds is : Nat) := by
  induction ds generalizing is with
  | nil => cases is <;> simp [prods, dotProds, rowMajor, horner]
  | cons d ds ih =>
    cases is with
    | nil => simp at h
    | cons i is =>
      simp only [List.length_cons, Nat.add_right_cancel_iff] at h
      rw [rowMajor_cons _ _ _ _ h]
      simp only [prods, List.map_cons, dotProds, ih is h]
      push_cast
      ring

theorem scalarIndex_generic (chk : Bool) (ds : List Nat) (as : List Int) (h : ValidArgs ds as) :
    scalarIndex chk ds as = some (dotProds (prods ds) (List.zipWith wrapIdx ds as)) := by
  obtain ⟨_, _, hb⟩ := wrap_valid h
  unfold scalarIndex
  simp only [hb, Bool.not_true, Bool.and_false, Bool.false_eq_true, if_false]
  -- split by rank up to 5 (unequal ranks contradict `h`): the four written-out forms agree with the generic sum
  rcases ds with _ | ⟨d0, _ | ⟨d1, _ | ⟨d2, _ | ⟨d3, _ | ⟨d4, ds⟩⟩⟩⟩⟩ <;>
    rcases as with _ | ⟨a0, _ | ⟨a1, _ | ⟨a2, _ | ⟨a3, _ | ⟨a4, as⟩⟩⟩⟩⟩ <;>
    simp only [ValidArgs, and_false] at h
  · rfl
  · simp [prods, lprod, dotProds]
  · simp [prods, lprod, dotProds]; ring
  · simp [prods, lprod, dotProds]; ring
  · simp [prods, lprod, dotProds]; ring
  · rfl

theorem scalarIndex_valid (chk : Bool) (ds : List Nat) (as : List Int) (h : ValidArgs ds as) :
    scalarIndex chk ds as = some ((rowMajor ds (List.zipWith wrapNat ds as) : Nat) : Int) := by
  obtain ⟨hw, hr, _⟩ := wrap_valid h
  rw [scalarIndex_generic chk ds as h, hw, dotProds_cast _ _ (inRange_length hr)]

/-- with the bounds assertion compiled in, an index outside `[-d, d)` on an axis of a tensor whose
    rank matches is rejected before any access -/
theorem scalarIndex_checked_oob (ds : List Nat) (as : List Int)
    (h : inBounds ds (List.zipWith wrapIdx ds as) = false) : scalarIndex true ds as = none := by
  unfold scalarIndex
  simp [h]

/-- documented parent offset of element `j` of the slice: `A(first0 + j0*step0, first1 + j1*step1, …)` -/
def specOff (pdims : List Nat) (axs : List Ax) (j : List Nat) : Nat :=
  rowMajor pdims (List.zipWith (fun (a : Ax) i => a.first + i * a.step) axs j)

theorem specOff_cons (d : Nat) (ds : List Nat) (a : Ax) (axs : List Ax) (i : Nat) (is : List Nat)
    (h1 : ds.length = axs.length) (h2 : axs.length = is.length) :
    specOff (d :: ds) (a :: axs) (i :: is) = (a.first + i * a.step) * lprod ds + specOff ds axs is := by
  unfold specOff
  rw [List.zipWith_cons_cons, rowMajor_cons _ _ _ _ (by rw [List.length_zipWith]; omega)]

theorem flatIdx_eq (pd : List Nat) (axs : List Ax) (j : List Nat)
    (h1 : pd.length = axs.length) (h2 : axs.length = j.length) :
    flatIdx (prods pd) axs j = specOff pd axs j := by
  induction pd generalizing axs j with
  | nil =>
    cases axs <;> cases j <;> simp_all [flatIdx, prods, specOff, rowMajor, horner]
  | cons d ds ih =>
    cases axs with
    | nil => simp at h1
    | cons a axs =>
      cases j with
      | nil => simp at h2
      | cons i is =>
        simp only [List.length_cons, Nat.add_right_cancel_iff] at h1 h2
        rw [specOff_cons _ _ _ _ _ _ h1 h2, ← ih axs is h1 h2]
        simp only [prods, flatIdx]
        ring

/-- the loop recovers the multi-index of a row-major position (also when `idx` runs past the size: the
    leading quotient is reduced modulo its extent) -/
theorem unflat_rowMajor_add {ds j : List Nat} (h : InRange ds j) (k : Nat) :
    unflat ds (lprod ds) (rowMajor ds j + k * lprod ds) = j := by
  induction ds generalizing j k with
  | nil => cases j <;> simp_all [InRange, unflat]
  | cons d ds ih =>
    cases j with
    | nil => simp [InRange] at h
    | cons i is =>
      have hP : 0 < lprod ds := lprod_pos (inRange_pos h.2)
      rw [rowMajor_cons _ _ _ _ (inRange_length h.2)]
      simp only [unflat, lprod]
      rw [Nat.mul_div_cancel_left _ (Nat.zero_lt_of_lt h.1)]
      have e1 : i * lprod ds + rowMajor ds is + k * (d * lprod ds) = rowMajor ds is + (i + k * d) * lprod ds := by ring
      rw [e1, ih h.2, Nat.add_mul_div_right _ _ hP, Nat.div_eq_of_lt (rowMajor_lt h.2), Nat.zero_add,
        Nat.add_mul_mod_self_right, Nat.mod_eq_of_lt h.1]

theorem unflat_rowMajor {ds j : List Nat} (h : InRange ds j) : unflat ds (lprod ds) (rowMajor ds j) = j := by
  simpa using unflat_rowMajor_add h 0

/-- the class matches the rank (what the overloads of `operator()` guarantee) -/
def View.WF (v : View) : Prop :=
  v.pdims.length = v.axs.length ∧
  match v.cls with
  | .dyn1 => v.axs.length = 1
  | .fix1 => v.axs.length = 1
  | .dyn2 => v.axs.length = 2
  | .fix2 => v.axs.length = 2
  | _ => True

def is2D : Cls → Prop
  | .dyn2 => True
  | .fix2 => True
  | _ => False

/-- a well-formed view is a 1-D view of a vector, a 2-D view of a matrix or an n-D view; the dynamic and the
    fixed class of each rank differ only in how their evaluators associate the same sum -/
theorem View.wf_cases {P : (v : View) → v.WF → Prop}
    (h1 : ∀ cls n a (_ : cls = .dyn1 ∨ cls = .fix1) hwf, P ⟨cls, [n], [a]⟩ hwf)
    (h2 : ∀ cls m n a0 a1 (_ : is2D cls) hwf, P ⟨cls, [m, n], [a0, a1]⟩ hwf)
    (hN : ∀ cls pd axs (_ : cls = .dynN ∨ cls = .fixN) hwf, P ⟨cls, pd, axs⟩ hwf)
    (v : View) (hwf : v.WF) : P v hwf := by
  obtain ⟨cls, pd, axs⟩ := v
  obtain ⟨hlen, hcls⟩ := hwf
  cases cls
  case dynN => exact hN _ pd axs (Or.inl rfl) _
  case fixN => exact hN _ pd axs (Or.inr rfl) _
  case dyn1 => match axs, pd, hlen, hcls with | [a], [n], _, _ => exact h1 _ n a (Or.inl rfl) _
  case fix1 => match axs, pd, hlen, hcls with | [a], [n], _, _ => exact h1 _ n a (Or.inr rfl) _
  case dyn2 => match axs, pd, hlen, hcls with | [a0, a1], [m, n], _, _ => exact h2 .dyn2 m n a0 a1 trivial _
  case fix2 => match axs, pd, hlen, hcls with | [a0, a1], [m, n], _, _ => exact h2 .fix2 m n a0 a1 trivial _

theorem vdims_length (axs : List Ax) : (vdims axs).length = axs.length := by simp [vdims]

/-- **`teval_s(as)`** reads the documented element `as` -/
theorem tevalS_correct (v : View) (hwf : v.WF) (as : List Nat) (hl : v.axs.length = as.length) :
    v.tevalS as = specOff v.pdims v.axs as := by
  induction v, hwf using View.wf_cases with
  | h1 cls n a hc hwf =>
    match as, hl with
    | [i], _ => rcases hc with rfl | rfl <;> simp [View.tevalS, specOff, rowMajor, horner] <;> ring
  | h2 cls m n a0 a1 hc hwf =>
    match as, hl with
    | [i, k], _ => cases cls <;> simp only [is2D] at hc <;> simp [View.tevalS, specOff, rowMajor, horner] <;> ring
  | hN cls pd axs hc hwf =>
    rcases hc with rfl | rfl <;> exact flatIdx_eq pd axs as hwf.1 hl

/-- **flat vector evaluator**: lane `l` of `eval(idx)` is `eval_s(idx + l)` (strided gather for the 1-D
    views, per-lane un-flatten and index gather for the others) -/
theorem evalV_eq (v : View) (hwf : v.WF) (V idx : Nat) :
    v.evalV V idx = (List.range V).map fun l => v.evalS (idx + l) := by
  induction v, hwf using View.wf_cases with
  | h1 cls n a hc hwf =>
    rcases hc with rfl | rfl <;> simp only [View.evalV, View.evalS] <;>
      exact List.map_congr_left (fun l _ => by ring)
  | h2 cls m n a0 a1 hc hwf => cases cls <;> simp only [is2D] at hc <;> rfl
  | hN cls pd axs hc hwf => rcases hc with rfl | rfl <;> rfl

theorem evalV_length (v : View) (V idx : Nat) : (v.evalV V idx).length = V := by
  unfold View.evalV
  split <;> simp

/-- **`eval_s(i,j)`** of a 2-D view reads the documented element `(i,j)` -/
theorem eval2S_correct (cls : Cls) (h2 : is2D cls) (m n : Nat) (a0 a1 : Ax) (i j : Nat) :
    (View.mk cls [m, n] [a0, a1]).eval2S i j = specOff [m, n] [a0, a1] [i, j] := by
  cases cls <;> simp only [is2D] at h2 <;> simp [View.eval2S, specOff, rowMajor, horner] <;> ring

/-- **`eval(i,j)`**: lane `l` is `eval_s(i,j+l)` on both routes, and the route is the contiguous load
    exactly when the last step is 1 -/
theorem eval2V_eq (cls : Cls) (h2 : is2D cls) (m n : Nat) (a0 a1 : Ax) (V i j : Nat) :
    ((View.mk cls [m, n] [a0, a1]).eval2V V i j).2 =
      (List.range V).map fun l => (View.mk cls [m, n] [a0, a1]).eval2S i (j + l) := by
  by_cases hs : a1.step = 1 <;> cases cls <;> simp only [is2D] at h2 <;>
    simp only [View.eval2V, View.eval2S, hs, if_true, if_false] <;>
    exact List.map_congr_left (fun l _ => by ring)

theorem eval2V_length (cls : Cls) (h2 : is2D cls) (m n : Nat) (a0 a1 : Ax) (V i j : Nat) :
    ((View.mk cls [m, n] [a0, a1]).eval2V V i j).2.length = V := by
  rw [eval2V_eq cls h2, List.length_map, List.length_range]

theorem eval2V_lane (cls : Cls) (h2 : is2D cls) (m n : Nat) (a0 a1 : Ax) (V i j l : Nat) (hl : l < V) :
    let r := (View.mk cls [m, n] [a0, a1]).eval2V V i j
    r.2[l]? = some ((View.mk cls [m, n] [a0, a1]).eval2S i (j + l)) ∧ (r.1 = true ↔ a1.step = 1) := by
  refine ⟨by rw [eval2V_eq cls h2, List.getElem?_map, List.getElem?_range hl, Option.map_some], ?_⟩
  cases cls <;> simp only [is2D] at h2 <;> simp only [View.eval2V] <;> split <;> simp [*]

def bumpLast : List Nat → Nat → List Nat
  | [], _ => []
  | [a], l => [a + l]
  | a :: as, l => a :: bumpLast as l

theorem bumpLast_length (as : List Nat) (l : Nat) : (bumpLast as l).length = as.length := by
  induction as with
  | nil => rfl
  | cons a as ih =>
    cases as with
    | nil => rfl
    | cons b bs => simp only [bumpLast, List.length_cons] at ih ⊢; omega

theorem specOff_bumpLast (pd : List Nat) (axs : List Ax) (as : List Nat) (l : Nat)
    (h1 : pd.length = axs.length) (h2 : axs.length = as.length) (hne : as ≠ []) :
    specOff pd axs (bumpLast as l) = specOff pd axs as + l * (lastAx axs).step := by
  induction pd generalizing axs as with
  | nil =>
    rw [List.length_nil] at h1
    exact absurd (List.eq_nil_of_length_eq_zero (h2 ▸ h1.symm)) hne
  | cons d ds ih =>
    match axs, as, h1, h2 with
    | [a], [i], h1, _ =>
      have hd : ds = [] := List.eq_nil_of_length_eq_zero (by simpa using h1)
      subst hd
      simp [bumpLast, specOff, rowMajor, horner, lastAx]
      ring
    | a :: a2 :: axs2, i :: i2 :: is2, h1, h2 =>
      simp only [List.length_cons, Nat.add_right_cancel_iff] at h1 h2
      have h1' : ds.length = (a2 :: axs2).length := by simpa using h1
      have h2' : (a2 :: axs2).length = (i2 :: is2).length := by simpa using h2
      have hla : lastAx (a :: a2 :: axs2) = lastAx (a2 :: axs2) := by simp [lastAx]
      show specOff (d :: ds) (a :: a2 :: axs2) (i :: bumpLast (i2 :: is2) l) = _
      rw [specOff_cons _ _ _ _ _ _ h1' (by rw [bumpLast_length]; exact h2'), specOff_cons _ _ _ _ _ _ h1' h2',
        ih (a2 :: axs2) (i2 :: is2) h1' h2' (by simp), hla]
      ring

theorem route_contiguous_step (v : View) (hwf : v.WF) (V : Nat) (h : v.route V = .contiguous) :
    (lastAx v.axs).step = 1 := by
  induction v, hwf using View.wf_cases with
  | h1 cls n a hc hwf => rcases hc with rfl | rfl <;> simp [View.route] at h
  | h2 cls m n a0 a1 hc hwf =>
    cases cls <;> simp only [is2D] at hc <;> simp only [View.route] at h <;> split at h <;>
      first | simpa [lastAx] | cases h
  | hN cls pd axs hc hwf =>
    have h' : routeND axs V = .contiguous := by rcases hc with rfl | rfl <;> simpa [View.route] using h
    unfold routeND at h'
    simp only at h'
    split at h'
    · split at h'
      · assumption
      · cases h'
    · cases h'

/-- **`teval(as)`, contiguous-load and strided-gather routes**: lane `l` reads the documented element
    `(as_0, …, as_last + l)` — the two routes agree with each other and with `teval_s` -/
theorem tevalV_row (v : View) (hwf : v.WF) (V : Nat) (as : List Nat) (hl : v.axs.length = as.length)
    (hne : as ≠ []) (hr : v.route V ≠ .gather) :
    v.tevalV V as = (List.range V).map fun l => specOff v.pdims v.axs (bumpLast as l) := by
  simp only [specOff_bumpLast _ _ _ _ hwf.1 hl hne, ← tevalS_correct v hwf as hl]
  unfold View.tevalV
  cases hroute : v.route V
  case gather => exact absurd hroute hr
  case contiguous => simp only [route_contiguous_step v hwf V hroute, Nat.mul_one]
  case strided => rfl

theorem tevalV_length (v : View) (V : Nat) (as : List Nat) : (v.tevalV V as).length = V := by
  unfold View.tevalV
  split <;> simp

/-- the per-lane gather route computes each lane with the same index sum as `teval_s`, at the
    multi-index reached by `l` unit steps of the odometer -/
theorem tevalV_lane_gather (v : View) (V : Nat) (as : List Nat) (l : Nat) (hlV : l < V)
    (hr : v.route V = .gather) :
    (v.tevalV V as)[l]? = some (flatIdx (prods v.pdims) v.axs (odoIter (vdims v.axs) l as)) := by
  unfold View.tevalV
  rw [hr]
  simp only [List.getElem?_map, List.getElem?_range hlV, Option.map_some]

/-! ### consumer loops: vector body over `ROUND_DOWN(n,V)` followed by a scalar tail -/

theorem laneWrites_range (dst V : Nat) (g : Nat → Nat) :
    laneWrites dst ((List.range V).map g) = (List.range V).map fun l => (dst + l, g l) :=
  laneStores_range dst V g

/-- **`trivial_assign*(dst, view)`** (1-D views, and every view on the `+=`-family and inside flat
    expressions) stores `eval_s(p)` at `p` for `p = 0 … size()-1`, once each and in this order -/
theorem trivialWrites_eq (v : View) (hwf : v.WF) (V : Nat) (hV : 0 < V) :
    v.trivialWrites V = (List.range v.size).map fun i => (i, v.evalS i) :=
  vecTail_eq v.size V hV _ (fun i => (i, v.evalS i)) (fun i => by rw [evalV_eq v hwf, laneWrites_range])

/-- **the two-index constructor loop** over a 2-D view stores `eval_s(i,j)` at `i*N + j`, row by row, once each -/
theorem ctor2Writes_eq (cls : Cls) (h2 : is2D cls) (m n : Nat) (a0 a1 : Ax) (V M N : Nat) (hV : 0 < V) :
    (View.mk cls [m, n] [a0, a1]).ctor2Writes V M N =
      (List.range M).flatMap fun i => (List.range N).map fun j => (i * N + j, (View.mk cls [m, n] [a0, a1]).eval2S i j) := by
  unfold View.ctor2Writes
  congr 1
  funext i
  exact vecTail_eq N V hV _ (fun j => (i * N + j, (View.mk cls [m, n] [a0, a1]).eval2S i j))
    (fun j => by rw [eval2V_eq cls h2, laneWrites_range]; simp only [Nat.add_assoc])

theorem ctor2Writes_exact (cls : Cls) (h2 : is2D cls) (m n : Nat) (a0 a1 : Ax) (V M N : Nat) (hV : 0 < V) :
    WritesExactly ((View.mk cls [m, n] [a0, a1]).ctor2Writes V M N) (fun p => p < M * N)
      (fun p => (View.mk cls [m, n] [a0, a1]).eval2S (p / N) (p % N)) := by
  rw [ctor2Writes_eq cls h2 m n a0 a1 V M N hV]
  exact writesExactly_rows M N _

end Fastor.Views
