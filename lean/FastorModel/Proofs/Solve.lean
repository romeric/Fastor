import FastorModel.Proofs.LUBlock
import FastorModel.Proofs.LUPivot
import FastorModel.Model.Solve
/- C12: forward / backward substitution solve their triangular systems; LU-based solve. -/
namespace Fastor.LU
open Finset

variable {K : Type} [Field K]

theorem forwardSubs_get (n c : Nat) (L B : Mat K) (p : Nat → Nat) (i j : Nat) (hi : i < n) (hj : j < c) :
    (forwardSubs n c L B p).get i j = (forwardCol n L B p j).get i 0 := by
  simp [forwardSubs, Mat.get_ofFn, hi, hj, Array.getD]

theorem backwardSubs_get (n c : Nat) (U Y : Mat K) (i j : Nat) (hi : i < n) (hj : j < c) :
    (backwardSubs n c U Y).get i j = (backwardCol n U Y j).get i 0 := by
  simp [backwardSubs, Mat.get_ofFn, hi, hj, Array.getD]

/-- `forward_subs_impl`, read as equations between the final entries: `y(i) = B(p(i),j) - Σ_{k<i} L(i,k) y(k)` -/
theorem forwardCol_spec (n : Nat) (L B : Mat K) (p : Nat → Nat) (j i : Nat) (hi : i < n) :
    (forwardCol n L B p j).get i 0 = B.get (p i) j - ∑ k ∈ range i, L.get i k * (forwardCol n L B p j).get k 0 := by
  obtain ⟨_, _, h3⟩ := foldl_set_col 0 (fun y i => B.get (p i) j - sumTo i (fun k => L.get i k * y.get k 0)) 0 n (Mat.zero n 1)
    (forwardCol n L B p j) (by rw [forwardCol, List.range_eq_range'])
    (fun M M' t h => by rw [sumTo_congr fun k hk => by rw [h k 0 (Or.inr hk)]])
    (fun t _ ht => (has_zero n 1 t 0).2 ⟨by omega, Nat.one_pos⟩)
  exact (h3 i (Nat.zero_le i) (by omega)).trans (by rw [sumTo_eq])

theorem forwardCol_solves (n : Nat) (L B : Mat K) (p : Nat → Nat) (j : Nat)
    (hdiag : ∀ i, i < n → L.get i i = 1) (hlz : ∀ i k, i < n → k < n → i < k → L.get i k = 0) (i : Nat) (hi : i < n) :
    ∑ k ∈ range n, L.get i k * (forwardCol n L B p j).get k 0 = B.get (p i) j :=
  sum_lower_unit hi (fun k => L.get i k) (fun k => (forwardCol n L B p j).get k 0) _ (hdiag i hi)
    (fun m h1 h2 => hlz i m hi h2 h1) (forwardCol_spec n L B p j i hi)

/-- `backward_subs_impl` after `m` iterations (rows `n-1, …, n-m`): the rows above are still the initial zeros, the rows done
solve their equations.  The code's inner product runs from the diagonal, so it includes `U(i,i) * x(i)` with `x(i)` not yet
written: that term vanishes because `x` was zero-initialised. -/
theorem backwardCol_spec (n : Nat) (U Y : Mat K) (j : Nat) (hd : ∀ i, i < n → U.get i i ≠ 0) (i : Nat) (hi : i < n) :
    ∑ k ∈ range (n - i), U.get i (i + k) * (backwardCol n U Y j).get (i + k) 0 = Y.get i j := by
  refine (foldl_range_induction _ (Mat.zero n 1) n
    (fun m (x : Mat K) => (∀ i c, x.has i c ↔ i < n ∧ c < 1) ∧ (∀ i, i < n - m → x.get i 0 = 0) ∧
      ∀ i, n - m ≤ i → i < n → ∑ k ∈ range (n - i), U.get i (i + k) * x.get (i + k) 0 = Y.get i j)
    ⟨has_zero n 1, fun i _ => get_zero n 1 i 0, fun i h1 h2 => by omega⟩ ?_).2.2 i (by omega) hi
  intro m x hm ⟨h1, h2, h3⟩
  dsimp only
  generalize hr : n - 1 - m = r
  generalize hv : (Y.get r j - sumTo (n - r) fun k => U.get r (r + k) * x.get (r + k) 0) / U.get r r = v
  have other : ∀ k, k ≠ r → (x.set r 0 v).get k 0 = x.get k 0 := fun k hk => by
    rw [Mat.get_set, if_neg fun h => hk h.1]
  refine ⟨fun i c => by rw [Mat.has_set]; exact h1 i c, fun i hi => ?_, fun i hi1 hi2 => ?_⟩
  · rw [other i (by omega)]; exact h2 i (by omega)
  · by_cases hir : i = r
    · subst hir
      obtain ⟨d, hd'⟩ : ∃ d, n - i = d + 1 := ⟨n - i - 1, by omega⟩
      have hvi : (x.set i 0 v).get i 0 = v := by rw [Mat.get_set, if_pos ⟨rfl, rfl, (h1 i 0).2 ⟨hi2, Nat.one_pos⟩⟩]
      rw [hd'] at hv ⊢
      rw [sum_range_succ', Nat.add_zero, hvi, sum_range_congr fun k _ => by rw [other _ (by omega)], ← hv, sumTo_eq,
        sum_range_succ', Nat.add_zero, h2 i (by omega), mul_zero, add_zero, mul_div_cancel₀ _ (hd i hi2)]
      ring
    · rw [← h3 i (by omega) hi2]
      exact sum_range_congr fun k _ => by rw [other _ (by omega)]

theorem backwardCol_solves (n : Nat) (U Y : Mat K) (j : Nat)
    (huz : ∀ i k, i < n → k < n → k < i → U.get i k = 0) (hd : ∀ i, i < n → U.get i i ≠ 0) (i : Nat) (hi : i < n) :
    ∑ k ∈ range n, U.get i k * (backwardCol n U Y j).get k 0 = Y.get i j := by
  rw [sum_split n i (by omega), sum_eq_zero, zero_add, backwardCol_spec n U Y j hd i hi]
  intro k hk
  rw [huz i k hi (by have := mem_range.1 hk; omega) (mem_range.1 hk), zero_mul]

theorem luSolve_solves (n c : Nat) (PA L U B : Mat K) (p : Nat → Nat) (h : IsLU n PA L U) (hd : ∀ i, i < n → U.get i i ≠ 0)
    (i j : Nat) (hi : i < n) (hj : j < c) :
    ∑ k ∈ range n, PA.get i k * (luSolve n c L U B p).get k j = B.get (p i) j := by
  rw [sum_range_congr fun k hk => by rw [← h.mul i k hi hk, luSolve, backwardSubs_get _ _ _ _ _ _ hk hj], sum_assoc_right,
    sum_range_congr fun m hm => by rw [backwardCol_solves n U _ j h.uzero hd m hm, forwardSubs_get _ _ _ _ _ _ _ hm hj]]
  exact forwardCol_solves n L B p j h.diag h.lzero i hi

/-- `p` is the row map the substitution reads `B` through: `perm` itself for the pivoted strategies, the identity for the
others. -/
theorem luSolve_perm_solves (n c : Nat) (A L U B : Mat K) (perm : Array Nat) (p : Nat → Nat)
    (hp : ∀ i, i < n → p i = perm.getD i 0) (h : IsLU n (applyPivotV n A perm) L U) (hd : ∀ i, i < n → U.get i i ≠ 0)
    (hsurj : ∀ v, v < n → ∃ i, i < n ∧ perm.getD i 0 = v) (r j : Nat) (hr : r < n) (hj : j < c) :
    ∑ k ∈ range n, A.get r k * (luSolve n c L U B p).get k j = B.get r j := by
  obtain ⟨i, hi, e⟩ := hsurj r hr
  have := luSolve_solves n c (applyPivotV n A perm) L U B p h hd i j hi hj
  rw [hp i hi, e] at this
  rw [← this]
  exact sum_range_congr fun k hk => by rw [applyPivotV_get n A perm i k hi hk, e]

theorem reconstructColwise_get (n : Nat) (A : Mat K) (perm : Array Nat)
    (hlt : ∀ i, i < n → perm.getD i 0 < n)
    (hinj : ∀ i j, i < n → j < n → perm.getD i 0 = perm.getD j 0 → i = j)
    (r i : Nat) (hr : r < n) (hi : i < n) :
    (reconstructColwise n A perm).get r (perm.getD i 0) = A.get r i := by
  exact scatter_get n (fun i => perm.getD i 0) (fun c => A.get r c) (fun (C : Mat K) c => C.get r c)
    (fun C i => Mat.ofFn n n fun r c => if c = perm.getD i 0 then A.get r i else C.get r c) _
    hlt hinj (fun c hc => get_copy n n A r c hr hc) (fun C i c _ hc => by rw [Mat.get_ofFn, if_pos ⟨hr, hc⟩]) i hi

/-- `solve<SimpleInvPiv>(A,B) = matmul(reconstruct_colwise(inverse(P*A), p), B)`, vector and matrix overloads alike -/
theorem solve_invPiv_solves (n c : Nat) (A B invPA : Mat K) (perm : Array Nat)
    (hlt : ∀ i, i < n → perm.getD i 0 < n)
    (hinj : ∀ i j, i < n → j < n → perm.getD i 0 = perm.getD j 0 → i = j)
    (hsurj : ∀ v, v < n → ∃ i, i < n ∧ perm.getD i 0 = v)
    (hinv : ∀ i m, i < n → m < n → ∑ k ∈ range n, (applyPivotV n A perm).get i k * invPA.get k m = if i = m then 1 else 0)
    (r j : Nat) (hr : r < n) (hj : j < c) :
    ∑ k ∈ range n, A.get r k * (Mat.mul n n c (reconstructColwise n invPA perm) B).get k j = B.get r j := by
  obtain ⟨i, hi, ei⟩ := hsurj r hr
  -- row `r` of `A` is row `i` of `P*A`, and column `p(t)` of the scattered inverse is column `t` of `inverse(P*A)`
  rw [sum_range_congr fun k hk => by rw [get_mul _ _ _ _ _ _ _ hk hj], sum_assoc_left]
  refine sum_delta_mul hr _ _ fun m hm => ?_
  obtain ⟨t, ht, et⟩ := hsurj m hm
  rw [sum_range_congr fun k hk => by
    rw [← ei, ← applyPivotV_get n A perm i k hi hk, ← et, reconstructColwise_get n invPA perm hlt hinj k t hk ht],
    hinv i t hi ht]
  by_cases hit : i = t
  · rw [if_pos hit, if_pos (by rw [← ei, ← et, hit])]
  · rw [if_neg hit, if_neg fun h => hit (hinj i t hi ht (by rw [ei, et, h]))]

end Fastor.LU
