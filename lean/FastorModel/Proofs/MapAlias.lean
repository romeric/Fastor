import FastorModel.Model.MapAlias
import FastorModel.Props.C02
import FastorModel.Proofs.Layout
import FastorModel.Proofs.Loops
/-
  In-place evaluation (what plain `=` does on a map) versus evaluation into a temporary (what it does on an owning
  tensor), for element-wise expressions: both leave `op(m p, e(p))` at every `p < n` and nothing else changes.
-/
namespace Fastor.MapAlias
open Fastor Fastor.Expr Fastor.Layout

variable {α : Type}

/-- a threaded loop over `k` consecutive chunks of width `W` starting at `lo`, each chunk leaving `F` on its
    positions provided the memory still has the original contents `m` from the chunk on -/
theorem chunkFold_spec (stepW : (Nat → α) → Nat → List (Nat × α)) (W : Nat) (F m : Nat → α)
    (hstep : ∀ cur i, (∀ q, i ≤ q → cur q = m q) →
      ∀ q, applyWrites (stepW cur i) cur q = if i ≤ q ∧ q < i + W then F q else cur q)
    (k lo : Nat) (cur : Nat → α) (hcur : ∀ q, lo ≤ q → cur q = m q) (q : Nat) :
    applyWrites (chunkFold stepW ((List.range k).map fun t => lo + t * W) cur) cur q =
      if lo ≤ q ∧ q < lo + k * W then F q else cur q := by
  induction k generalizing lo cur with
  | zero => simp [chunkFold, applyWrites]; omega
  | succ k ih =>
    have hlist : (List.range (k + 1)).map (fun t => lo + t * W) =
        lo :: (List.range k).map (fun t => (lo + W) + t * W) := by
      rw [List.range_succ_eq_map]
      simp only [List.map_cons, List.map_map, Nat.zero_mul, Nat.add_zero]
      congr 1
      apply List.map_congr_left
      intro t _
      simp only [Function.comp]
      rw [Nat.succ_mul]; omega
    rw [hlist]
    simp only [chunkFold]
    rw [applyWrites_append]
    have hs := hstep cur lo hcur
    have hcur' : ∀ q, lo + W ≤ q → applyWrites (stepW cur lo) cur q = m q := by
      intro q hq
      rw [hs q, if_neg (by omega)]
      exact hcur q (by omega)
    rw [ih (lo + W) _ hcur', hs q]
    have hmul : (k + 1) * W = k * W + W := Nat.succ_mul k W
    by_cases h1 : lo + W ≤ q ∧ q < lo + W + k * W
    · rw [if_pos h1, if_pos (by omega)]
    · rw [if_neg h1]
      by_cases h2 : lo ≤ q ∧ q < lo + W
      · rw [if_pos h2, if_pos (by omega)]
      · rw [if_neg h2, if_neg (by omega)]

variable [Add α] [Sub α] [Mul α] [Neg α]

/-- an element-wise expression evaluated at `p` only looks at position `p` of its operands -/
theorem evalS_congr_at (ofInt : Int → α) (env1 env2 : Nat → Nat → α) (e : E) (p : Nat)
    (h : ∀ w, env1 w p = env2 w p) : evalS ofInt env1 e p = evalS ofInt env2 e p := by
  induction e with
  | t w => simp [evalS, h]
  | c k => simp [evalS]
  | bin op l r ihl ihr => simp [evalS, ihl, ihr]
  | neg e ih => simp [evalS, ih]

/-- the stores of one vector step, lane by lane -/
theorem vecStep_eq (ofInt : Int → α) (opnd : Nat → Nat → α) (op : AOp) (e : E) (V : Nat) (cur : Nat → α) (i : Nat) :
    vecStep ofInt opnd op e V cur i =
      (List.range V).map fun l => (i + l, op.ap (cur (i + l)) (evalS ofInt (envOf opnd cur) e (i + l))) := by
  unfold vecStep
  apply List.ext_getElem?
  intro k
  by_cases hk : k < V
  · have hl := C02.lanes_of_evalV ofInt (envOf opnd cur) V e i k hk
    simp only [List.getElem?_map, List.getElem?_range hk]
    rw [show ((evalV ofInt (envOf opnd cur) V e i).zip (List.range V))[k]? =
      some (evalS ofInt (envOf opnd cur) e (i + k), k) from by
        rw [List.getElem?_zip_eq_some]; exact ⟨hl, by simp [hk]⟩]
    simp
  · have h1 : ((evalV ofInt (envOf opnd cur) V e i).zip (List.range V)).length ≤ k := by
      simp [C02.evalV_length]; omega
    have h2 : (List.range V).length ≤ k := by simp; omega
    simp only [List.getElem?_map]
    rw [List.getElem?_eq_none h1, List.getElem?_eq_none h2]; rfl

/-- **in-place evaluation is evaluation of the snapshot**: a `trivial_assign*` pass executed in place (every step
    reading the memory as it is by then) leaves `op(m p, e(p))` — `e` evaluated on the ORIGINAL contents — at every
    `p < n`, and nothing else changes; for every element-wise expression, size and power-of-two width -/
theorem passInPlace_spec (ofInt : Int → α) (opnd : Nat → Nat → α) (op : AOp) (e : E) (n ex : Nat)
    (hn : n < 2 ^ 64) (hex : ex ≤ 64) (m : Nat → α) (q : Nat) :
    passInPlace ofInt opnd op e n (2 ^ ex) m q =
      if q < n then op.ap (m q) (evalS ofInt (envOf opnd m) e q) else m q := by
  have hV : 0 < 2 ^ ex := Nat.pow_pos (by omega)
  unfold passInPlace passWrites
  rw [C02.roundDown_pow2 n ex hn hex]
  simp only []
  have hR : n / 2 ^ ex * 2 ^ ex ≤ n := Nat.div_mul_le_self _ _
  have hexit : forExit 0 (n / 2 ^ ex * 2 ^ ex) (2 ^ ex) = n / 2 ^ ex * 2 ^ ex :=
    forExit_div_mul hV
  rw [hexit, applyWrites_append]
  let F : Nat → α := fun q => op.ap (m q) (evalS ofInt (envOf opnd m) e q)
  have hcong : ∀ (cur : Nat → α) (q : Nat), cur q = m q →
      op.ap (cur q) (evalS ofInt (envOf opnd cur) e q) = F q := by
    intro cur q hq
    show op.ap (cur q) _ = op.ap (m q) _
    rw [hq, evalS_congr_at ofInt (envOf opnd cur) (envOf opnd m) e q (by intro w; simp [envOf, hq])]
  -- the vector body
  have hvec : ∀ cur i, (∀ q, i ≤ q → cur q = m q) →
      ∀ q, applyWrites (vecStep ofInt opnd op e (2 ^ ex) cur i) cur q = if i ≤ q ∧ q < i + 2 ^ ex then F q else cur q := by
    intro cur i hc q
    rw [vecStep_eq, applyWrites_range_offset i (2 ^ ex) (fun p => op.ap (cur p) (evalS ofInt (envOf opnd cur) e p)) cur q]
    by_cases h : i ≤ q ∧ q < i + 2 ^ ex
    · rw [if_pos h, if_pos h]; exact hcong cur q (hc q h.1)
    · rw [if_neg h, if_neg h]
  have hsc : ∀ cur i, (∀ q, i ≤ q → cur q = m q) →
      ∀ q, applyWrites (scalStep ofInt opnd op e cur i) cur q = if i ≤ q ∧ q < i + 1 then F q else cur q := by
    intro cur i hc q
    simp only [scalStep, applyWrites, List.foldl]
    by_cases h : q = i
    · subst h; rw [if_pos rfl, if_pos (by omega)]; exact hcong cur q (hc q (Nat.le_refl _))
    · rw [if_neg h, if_neg (by omega)]
  have hcount : forCount 0 (n / 2 ^ ex * 2 ^ ex) (2 ^ ex) = n / 2 ^ ex := forCount_mul _ _ hV
  have hbody := chunkFold_spec (vecStep ofInt opnd op e (2 ^ ex)) (2 ^ ex) F m hvec
    (forCount 0 (n / 2 ^ ex * 2 ^ ex) (2 ^ ex)) 0 m (fun _ _ => rfl)
  have hbody' : ∀ q, applyWrites (chunkFold (vecStep ofInt opnd op e (2 ^ ex)) (forRange 0 (n / 2 ^ ex * 2 ^ ex) (2 ^ ex)) m) m q
      = if q < n / 2 ^ ex * 2 ^ ex then F q else m q := by
    intro q
    have := hbody q
    rw [hcount] at this
    unfold forRange
    rw [hcount, this]
    simp
  have hcount2 : forCount (n / 2 ^ ex * 2 ^ ex) n 1 = n - n / 2 ^ ex * 2 ^ ex := forCount_one _ _
  have htail := chunkFold_spec (scalStep ofInt opnd op e) 1 F m hsc
    (forCount (n / 2 ^ ex * 2 ^ ex) n 1) (n / 2 ^ ex * 2 ^ ex)
    (applyWrites (chunkFold (vecStep ofInt opnd op e (2 ^ ex)) (forRange 0 (n / 2 ^ ex * 2 ^ ex) (2 ^ ex)) m) m)
    (fun q hq => by rw [hbody' q, if_neg (by omega)]) q
  have hbodyU := hbody'
  unfold forRange at hbodyU htail ⊢
  rw [htail, hcount2, hbodyU q]
  by_cases h1 : q < n
  · rw [if_pos h1]
    by_cases h2 : q < n / 2 ^ ex * 2 ^ ex
    · rw [if_neg (by omega), if_pos h2]
    · rw [if_pos (by omega)]
  · rw [if_neg h1, if_neg (by omega), if_neg (by omega)]

/-- plain `=` on an owning tensor (temporary, then copy) -/
theorem assignViaTemp_spec (ofInt : Int → α) (opnd : Nat → Nat → α) (e : E) (n ex : Nat)
    (hn : n < 2 ^ 64) (hex : ex ≤ 64) (cur dst tmp0 : Nat → α) (q : Nat) :
    assignViaTemp ofInt opnd e n (2 ^ ex) cur dst tmp0 q =
      if q < n then evalS ofInt (envOf opnd cur) e q else dst q := by
  simp only [assignViaTemp, viaTempWrites, applyWrites_range]
  by_cases h : q < n
  · rw [if_pos h, if_pos h]
    exact (C02.assign_memory ofInt (envOf opnd cur) .set tmp0 e n ex hn hex q).1 h
  · rw [if_neg h, if_neg h]

end Fastor.MapAlias
