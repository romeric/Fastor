import FastorModel.Proofs.ViewsRead
/-
  Lemmas for C04, part 3: the odometer (`for jt = DIMS-1 .. 0: as[jt] += …; if (as[jt] < dims[jt]) break; else as[jt] = 0`)
  used by the per-lane gather route of `teval` and by the constructors of rank >= 3.
-/
namespace Fastor.Views

/-- the last component can take the increment without skipping the end of its axis
    (`inc = 1` always; `inc = V` when the last extent and the last index are multiples of `V`) -/
def LastFits : List Nat → List Nat → Nat → Prop
  | [d], [a], inc => a + inc ≤ d
  | _ :: d2 :: ds, _ :: a2 :: as, inc => LastFits (d2 :: ds) (a2 :: as) inc
  | _, _, _ => False

theorem rowMajor_single (d a : Nat) : rowMajor [d] [a] = a := by simp [rowMajor, horner]

/-- one odometer step in one equation: the position advances by the increment, a carry out of the first axis
    counting for the whole size — and the odometer is then back at position 0 -/
theorem odoInc_val (inc : Nat) (ds as : List Nat) (h : InRange ds as) (hf : LastFits ds as inc) :
    InRange ds (odoInc ds as inc).1 ∧
    rowMajor ds (odoInc ds as inc).1 + (if (odoInc ds as inc).2 then lprod ds else 0) = rowMajor ds as + inc ∧
    ((odoInc ds as inc).2 = true → rowMajor ds (odoInc ds as inc).1 = 0) := by
  induction ds generalizing as with
  | nil => cases as <;> exact hf.elim
  | cons d ds ih =>
    rcases as with _ | ⟨a, as⟩
    · exact h.elim
    rcases ds with _ | ⟨d2, ds'⟩ <;> rcases as with _ | ⟨a2, as'⟩
    · -- the last axis takes the increment
      simp only [InRange, LastFits] at h hf
      simp only [odoInc, lprod, Nat.mul_one]
      by_cases hlt : a + inc < d <;>
        simp only [hlt, if_true, if_false, InRange, rowMajor_single, Bool.false_eq_true, false_imp_iff, true_imp_iff]
      · exact ⟨⟨trivial, trivial⟩, rfl, trivial⟩
      · exact ⟨⟨by omega, trivial⟩, by omega, trivial⟩
    · exact h.2.elim
    · exact h.2.elim
    · -- an outer axis moves only on a carry from the axes below it
      obtain ⟨i1, i2, i3⟩ := ih (a2 :: as') h.2 hf
      have hlen' := inRange_length i1
      rw [rowMajor_cons _ _ _ _ (inRange_length h.2)]
      cases hc : (odoInc (d2 :: ds') (a2 :: as') inc).2 <;>
        simp only [odoInc, hc, if_true, if_false, Bool.false_eq_true, false_imp_iff, true_imp_iff] at i2 i3 ⊢
      · rw [rowMajor_cons _ _ _ _ hlen']
        exact ⟨⟨h.1, i1⟩, by omega, trivial⟩
      · by_cases hup : a + 1 < d <;>
          simp only [hup, if_true, if_false, Bool.false_eq_true, false_imp_iff, true_imp_iff] <;>
          rw [rowMajor_cons _ _ _ _ hlen']
        · exact ⟨⟨hup, i1⟩, by rw [Nat.add_one_mul]; omega, trivial⟩
        · have hd : d = a + 1 := by have := h.1; omega
          refine ⟨⟨by omega, i1⟩, ?_, by rw [i3, Nat.zero_mul]⟩
          show 0 * lprod (d2 :: ds') + _ + d * lprod (d2 :: ds') = _
          rw [hd, Nat.add_one_mul]
          omega

/-- **one odometer step** advances the row-major position by the increment, or runs over exactly at the end -/
theorem odoInc_spec (inc : Nat) (ds as : List Nat) (h : InRange ds as) (hf : LastFits ds as inc) :
    InRange ds (odoInc ds as inc).1 ∧
    (rowMajor ds as + inc < lprod ds →
      (odoInc ds as inc).2 = false ∧ rowMajor ds (odoInc ds as inc).1 = rowMajor ds as + inc) ∧
    (¬ rowMajor ds as + inc < lprod ds →
      (odoInc ds as inc).2 = true ∧ rowMajor ds (odoInc ds as inc).1 = 0 ∧ rowMajor ds as + inc = lprod ds) := by
  obtain ⟨i1, i2, i3⟩ := odoInc_val inc ds as h hf
  have hlt := rowMajor_lt i1
  cases hc : (odoInc ds as inc).2 <;> simp only [hc, if_true, if_false, Bool.false_eq_true, true_imp_iff] at i2 i3
  · exact ⟨i1, fun _ => ⟨rfl, by omega⟩, fun hn => by omega⟩
  · exact ⟨i1, fun hl => by omega, fun _ => ⟨rfl, i3, by omega⟩⟩

theorem dvd_lprod_of_last {ds : List Nat} {V : Nat} (hne : ds ≠ []) (hd : V ∣ ds.getLast hne) : V ∣ lprod ds := by
  induction ds with
  | nil => exact absurd rfl hne
  | cons d ds ih =>
    rcases ds with _ | ⟨d2, ds'⟩
    · exact Dvd.dvd.mul_right hd _
    · exact Dvd.dvd.mul_left (ih (by simp) (by rwa [List.getLast_cons_cons] at hd)) _

/-- the increment fits when it divides the row-major position and the last extent
    (`V = 1`; or `V` the vector width, the loop starting from position 0 and advancing by `V`) -/
theorem lastFits_of_dvd {ds as : List Nat} {V : Nat} (h : InRange ds as) (hne : ds ≠ [])
    (hd : V ∣ ds.getLast hne) (ha : V ∣ rowMajor ds as) : LastFits ds as V := by
  induction ds generalizing as with
  | nil => exact absurd rfl hne
  | cons d ds ih =>
    rcases as with _ | ⟨a, as⟩
    · exact h.elim
    rcases ds with _ | ⟨d2, ds'⟩ <;> rcases as with _ | ⟨a2, as'⟩
    · rw [rowMajor_single] at ha
      obtain ⟨⟨x, rfl⟩, ⟨y, hy⟩⟩ := ha, hd
      simp only [List.getLast_singleton] at hy
      subst hy
      have hxy : x < y := Nat.lt_of_mul_lt_mul_left h.1
      show V * x + V ≤ V * y
      calc V * x + V = V * (x + 1) := (Nat.mul_add_one _ _).symm
        _ ≤ V * y := Nat.mul_le_mul_left _ hxy
    · exact h.2.elim
    · exact h.2.elim
    · have hd' : V ∣ (d2 :: ds').getLast (by simp) := by rwa [List.getLast_cons_cons] at hd
      rw [rowMajor_cons _ _ _ _ (inRange_length h.2)] at ha
      exact ih h.2 (by simp) hd' ((Nat.dvd_add_right (Dvd.dvd.mul_left (dvd_lprod_of_last _ hd') a)).1 ha)

theorem odoIter_spec (ds : List Nat) (hne : ds ≠ []) (l : Nat) (as : List Nat) (h : InRange ds as)
    (hl : rowMajor ds as + l < lprod ds) :
    InRange ds (odoIter ds l as) ∧ rowMajor ds (odoIter ds l as) = rowMajor ds as + l := by
  induction l generalizing as with
  | zero => exact ⟨h, rfl⟩
  | succ k ih =>
    obtain ⟨i1, i2, _⟩ := odoInc_spec 1 ds as h (lastFits_of_dvd h hne (Nat.one_dvd _) (Nat.one_dvd _))
    obtain ⟨_, c2⟩ := i2 (by omega)
    have := ih (odoInc ds as 1).1 i1 (by omega)
    exact ⟨this.1, by rw [odoIter, this.2, c2, Nat.add_assoc, Nat.add_comm 1 k]⟩


theorem odoLoop_succ (v : View) (V : Nat) (vec : Bool) (rd : List Nat) (size fuel counter : Nat) (as : List Nat)
    (hc : counter < size) :
    odoLoop v V vec rd size (fuel + 1) counter as =
      (let here : Run :=
        if vec then ⟨laneWrites counter (v.tevalV V as), if v.route V == .contiguous then 1 else 0⟩
        else ⟨[(counter, v.tevalS as)], 0⟩
       let nx := odoInc rd as (if vec then V else 1)
       if nx.2 then here else here.append (odoLoop v V vec rd size fuel (counter + (if vec then V else 1)) nx.1)) := by
  rw [odoLoop]
  simp only [hc, if_true]

theorem bumpLast_spec {ds as : List Nat} {V : Nat} (h : InRange ds as) (hf : LastFits ds as V) (l : Nat) (hl : l < V) :
    InRange ds (bumpLast as l) ∧ rowMajor ds (bumpLast as l) = rowMajor ds as + l := by
  induction ds generalizing as with
  | nil => cases as <;> exact hf.elim
  | cons d ds ih =>
    rcases as with _ | ⟨a, as⟩
    · exact h.elim
    rcases ds with _ | ⟨d2, ds'⟩ <;> rcases as with _ | ⟨a2, as'⟩
    · have : a + V ≤ d := hf
      exact ⟨⟨by omega, trivial⟩, by simp only [bumpLast, rowMajor_single]⟩
    · exact h.2.elim
    · exact h.2.elim
    · obtain ⟨r1, r2⟩ := ih h.2 hf
      show InRange _ (a :: bumpLast (a2 :: as') l) ∧ rowMajor _ (a :: bumpLast (a2 :: as') l) = _
      rw [rowMajor_cons _ _ _ _ (inRange_length r1), rowMajor_cons _ _ _ _ (inRange_length h.2), r2]
      exact ⟨⟨h.1, r1⟩, (Nat.add_assoc _ _ _).symm⟩

/-- **the odometer constructors** (`while (counter < size) { store at dst[counter]; counter += inc; odometer }` —
    `teval(as)` and `inc = V` when vectorised, which requires a route other than the per-lane gather and a last
    extent that is a multiple of `V`; `teval_s(as)` and `inc = 1` otherwise): started at the multi-index of a position
    `counter` that is a multiple of `inc`, exactly the positions `counter ≤ p < size` are written, position `p` from
    the documented element at the multi-index of `p` -/
theorem odoLoop_exact (v : View) (hwf : v.WF) (V : Nat) (vec : Bool) (hvec : vec = true → 0 < V ∧ v.route V ≠ .gather)
    (rd : List Nat) (hrd : rd.length = v.axs.length) (hne : rd ≠ [])
    (hd : (if vec then V else 1) ∣ rd.getLast hne) (fuel counter : Nat) (as : List Nat) (has : InRange rd as)
    (hc : counter = rowMajor rd as) (hal : (if vec then V else 1) ∣ counter) (hfuel : lprod rd - counter ≤ fuel) :
    WritesExactly (odoLoop v V vec rd (lprod rd) fuel counter as).writes
      (fun p => counter ≤ p ∧ p < lprod rd) (fun p => specOff v.pdims v.axs (unflat rd (lprod rd) p)) := by
  have hinc : 0 < (if vec then V else 1) := by
    cases vec
    · exact Nat.one_pos
    · exact (hvec rfl).1
  induction fuel generalizing counter as with
  | zero =>
    have := rowMajor_lt has
    omega
  | succ fuel ih =>
    have hlt : counter < lprod rd := hc ▸ rowMajor_lt has
    have hfit := lastFits_of_dvd has hne hd (hc ▸ hal)
    have haslen : v.axs.length = as.length := hrd ▸ inRange_length has
    obtain ⟨i1, i2, i3⟩ := odoInc_spec _ rd as has hfit
    rw [odoLoop_succ _ _ _ _ _ _ _ _ hlt]
    generalize hhere : (if vec then (⟨laneWrites counter (v.tevalV V as), if v.route V == .contiguous then 1 else 0⟩ : Run)
      else ⟨[(counter, v.tevalS as)], 0⟩) = here
    -- the block stored in this iteration: one element, or the `V` elements `as_last … as_last + V-1` of the row
    have hblock : WritesExactly here.writes (fun p => counter ≤ p ∧ p < counter + (if vec then V else 1))
        (fun p => specOff v.pdims v.axs (unflat rd (lprod rd) p)) := by
      subst hhere
      cases vec
      · refine writesExactly_range counter 1 (fun _ => v.tevalS as) _ (fun j hj => ?_)
        rw [Nat.lt_one_iff.1 hj, Nat.add_zero, hc, unflat_rowMajor has, tevalS_correct v hwf as haslen]
      · have hasne : as ≠ [] := fun h0 => hne (List.eq_nil_of_length_eq_zero (by rw [inRange_length has, h0]; rfl))
        simp only [if_true, tevalV_row v hwf V as haslen hasne (hvec rfl).2, laneWrites_range]
        refine writesExactly_range counter V _ _ (fun l hl => ?_)
        obtain ⟨b1, b2⟩ := bumpLast_spec has hfit l hl
        rw [hc, ← b2, unflat_rowMajor b1]
    simp only
    by_cases hnext : rowMajor rd as + (if vec then V else 1) < lprod rd
    · obtain ⟨c1, c2⟩ := i2 hnext
      rw [c1, if_neg Bool.false_ne_true]
      have hrec := ih (counter + (if vec then V else 1)) (odoInc rd as (if vec then V else 1)).1 i1 (by rw [c2, hc])
        ((Nat.dvd_add_right hal).2 (Nat.dvd_refl _)) (by omega)
      refine writesExactly_congr (writesExactly_append hblock hrec) (fun p => ?_)
      omega
    · obtain ⟨c1, _, c3⟩ := i3 hnext
      rw [c1, if_pos rfl]
      refine writesExactly_congr hblock (fun p => ?_)
      omega

theorem unflat_length (ds : List Nat) (rem idx : Nat) : (unflat ds rem idx).length = ds.length := by
  induction ds generalizing rem with
  | nil => rfl
  | cons d ds ih => simp [unflat, ih]

theorem zeros_inRange (ds : List Nat) (h : ∀ d ∈ ds, 0 < d) : InRange ds (ds.map fun _ => 0) := by
  induction ds with
  | nil => trivial
  | cons d ds ih => exact ⟨h d (by simp), ih (fun x hx => h x (by simp [hx]))⟩

theorem zeros_rowMajor (ds : List Nat) : rowMajor ds (ds.map fun _ => 0) = 0 := by
  induction ds with
  | nil => rfl
  | cons d ds ih => rw [List.map_cons, rowMajor_cons _ _ _ _ (by simp), ih, Nat.zero_mul]

/-- **the constructors of rank >= 3** (`ctorN`: vectorised odometer when the view is (strided-)vectorisable and
    the caller allows it, scalar odometer otherwise): exactly the positions below `size()` are written,
    position `p` from the documented element at the multi-index of `p` -/
theorem ctorN_exact (v : View) (hwf : v.WF) (hcls : v.cls = .dynN ∨ v.cls = .fixN) (hne : v.axs ≠ [])
    (hpos : ∀ d ∈ vdims v.axs, 0 < d) (V : Nat) (hV : 0 < V) (vecAllowed : Bool) :
    WritesExactly (v.ctorN V vecAllowed (vdims v.axs)).writes (fun p => p < v.size)
      (fun p => specOff v.pdims v.axs (unflat (vdims v.axs) v.size p)) := by
  have hne' : vdims v.axs ≠ [] := by simpa [vdims] using hne
  have hlast : (vdims v.axs).getLast hne' = (lastAx v.axs).dim := by
    simp only [vdims, List.getLast_map, lastAx, List.getLast?_eq_some_getLast hne, Option.getD_some]
  -- vectorised only off the gather route, which the n-D classes take unless the last extent is a multiple of `V`
  have hvec : (vecAllowed && (v.route V != .gather)) = true → 0 < V ∧ v.route V ≠ .gather := by
    intro h
    rw [Bool.and_eq_true] at h
    exact ⟨hV, fun heq => by rw [heq] at h; exact absurd h.2 (by decide)⟩
  have hd : (if (vecAllowed && (v.route V != .gather)) then V else 1) ∣ (vdims v.axs).getLast hne' := by
    split
    · next h =>
      have hroute : v.route V = routeND v.axs V := by
        obtain ⟨cls, pd, axs⟩ := v
        rcases hcls with h | h <;> (simp only at h; subst h; simp [View.route])
      have hr := (hvec h).2
      rw [hroute, routeND] at hr
      rw [hlast]
      apply Nat.dvd_of_mod_eq_zero
      by_contra hcon
      simp [hcon] at hr
    · exact Nat.one_dvd _
  have h := odoLoop_exact v hwf V _ hvec (vdims v.axs) (vdims_length _) hne' hd (lprod (vdims v.axs)) 0 _
    (zeros_inRange _ hpos) (zeros_rowMajor _).symm (Nat.dvd_zero _) (by omega)
  exact writesExactly_congr h (fun p => by simp [View.size, vsize])

end Fastor.Views
