import FastorModel.Proofs.LUInv
/-
  Lemma-level export of C11 for other properties (C10: LU-based inverses, C12: solve, C16: determinant):
  `Fastor.LU.LUDefined`, `Fastor.LU.lu_core_correct`, `Fastor.LU.lu_correct` (component form), `Fastor.LU.LUPost` /
  `Fastor.LU.lu_post` (one structure) and the hypothesis-free `Fastor.LU.lu_post_exec` (for the inverses `execOps`).
-/
namespace Fastor.LU
open Finset

variable {K : Type} [Field K]

def blocked : Strategy → Bool
  | .block | .blockPiv => true
  | _ => false

def CoreDefined (ops : InvOps K) (blk : Bool) (n : Nat) (A : Mat K) : Prop :=
  if blk then BlockDefined ops n A else (if n ≤ 8 then UnrolledDefined n A else SimpleDefined n A)

/-- the strategy is defined on A (the pivoted strategies factorise the row-permuted matrix) -/
def LUDefined (ops : InvOps K) (gt : K → K → Bool) (s : Strategy) (n : Nat) (A : Mat K) : Prop :=
  CoreDefined ops (blocked s) n (if s.pivoted then applyPivotV n A (pivotPerm gt n A) else A)

/-- the factorisation kernel behind each public strategy, EVERY n: `L.fill(0); U.fill(0); lu_block_dispatcher` (unrolled 1..8,
recursive 9..32, blocked 33..64 with split `(M/8*8)/2`, blocked > 64 with split `(M/16*16)/2` and the sub-dispatch of
`useless::lu_block_simple_dispatcher`) and `lu_simple_dispatcher` (unrolled 1..8, Doolittle loops above) -/
theorem lu_core_correct (ops : InvOps K) (hops : InvSpec ops) (blk : Bool) (n : Nat) (A : Mat K) (hdef : CoreDefined ops blk n A) :
    IsLU n A (luCore ops blk n A).1 (luCore ops blk n A).2 := by
  unfold CoreDefined at hdef
  unfold luCore
  cases blk with
  | true =>
    simp only [if_true] at hdef ⊢
    exact luBlock_isLU ops hops n A _ _ (fun i j _ _ _ => get_zero n n i j) (fun i j _ _ _ => get_zero n n i j) hdef
  | false =>
    simp only [Bool.false_eq_true, if_false] at hdef ⊢
    unfold luSimple
    by_cases h8 : n ≤ 8
    · rw [if_pos h8] at hdef ⊢; exact lufactUnrolled_isLU n A hdef
    · rw [if_neg h8] at hdef ⊢; exact luSimpleLoops_isLU n A hdef

theorem range_getD (n i : Nat) (hi : i < n) : (Array.range n).getD i 0 = i := by
  simp [Array.getD, hi]

/-- the four entry points in one formula: the factors are those of the kernel run on the row-permuted matrix (pivoted
strategies) or on `A` itself, the permutation is the static pivot or the identity -/
theorem luPublicV_eq (ops : InvOps K) (gt : K → K → Bool) (s : Strategy) (n : Nat) (A : Mat K) :
    (luPublicV ops gt s n A).L = (luCore ops (blocked s) n (if s.pivoted then applyPivotV n A (pivotPerm gt n A) else A)).1 ∧
    (luPublicV ops gt s n A).U = (luCore ops (blocked s) n (if s.pivoted then applyPivotV n A (pivotPerm gt n A) else A)).2 ∧
    (luPublicV ops gt s n A).perm = if s.pivoted then pivotPerm gt n A else Array.range n := by
  cases s <;> exact ⟨rfl, rfl, rfl⟩

theorem luPublicV_perm_bijection (ops : InvOps K) (gt : K → K → Bool) (s : Strategy) (n : Nat) (A : Mat K) :
    (∀ i, i < n → (luPublicV ops gt s n A).perm.getD i 0 < n) ∧
    (∀ i j, i < n → j < n → (luPublicV ops gt s n A).perm.getD i 0 = (luPublicV ops gt s n A).perm.getD j 0 → i = j) ∧
    (∀ v, v < n → ∃ i, i < n ∧ (luPublicV ops gt s n A).perm.getD i 0 = v) := by
  rw [(luPublicV_eq ops gt s n A).2.2]
  split
  · exact (pivotPerm_bijection gt n A).2
  · exact (perm_range_bijection _ n (by rw [Array.toList_range])).2

theorem luPublicV_input_get (ops : InvOps K) (gt : K → K → Bool) (s : Strategy) (n : Nat) (A : Mat K) (i j : Nat)
    (hi : i < n) (hj : j < n) :
    (if s.pivoted then applyPivotV n A (pivotPerm gt n A) else A).get i j = A.get ((luPublicV ops gt s n A).perm.getD i 0) j := by
  rw [(luPublicV_eq ops gt s n A).2.2]
  split
  · exact applyPivotV_get n A _ i j hi hj
  · rw [range_getD n i hi]

structure LUPost (n : Nat) (A L U : Mat K) (perm : Array Nat) : Prop where
  diag : ∀ i, i < n → L.get i i = 1
  lzero : ∀ i j, i < n → j < n → i < j → L.get i j = 0
  uzero : ∀ i j, i < n → j < n → j < i → U.get i j = 0
  mul : ∀ i j, i < n → j < n → ∑ m ∈ range n, L.get i m * U.get m j = A.get (perm.getD i 0) j
  inrange : ∀ i, i < n → perm.getD i 0 < n
  inj : ∀ i j, i < n → j < n → perm.getD i 0 = perm.getD j 0 → i = j
  surj : ∀ v, v < n → ∃ i, i < n ∧ perm.getD i 0 = v

/-- `L*U = P*A` etc. for every strategy and size, given exact triangular inverses (`InvSpec ops`) -/
theorem lu_post (ops : InvOps K) (hops : InvSpec ops) (gt : K → K → Bool) (s : Strategy) (n : Nat) (A : Mat K)
    (hdef : LUDefined ops gt s n A) :
    LUPost n A (luPublicV ops gt s n A).L (luPublicV ops gt s n A).U (luPublicV ops gt s n A).perm := by
  have h := lu_core_correct ops hops (blocked s) n _ hdef
  rw [← (luPublicV_eq ops gt s n A).1, ← (luPublicV_eq ops gt s n A).2.1] at h
  obtain ⟨b1, b2, b3⟩ := luPublicV_perm_bijection ops gt s n A
  exact ⟨h.diag, h.lzero, h.uzero, fun i j hi hj => (h.mul i j hi hj).trans (luPublicV_input_get ops gt s n A i j hi hj),
    b1, b2, b3⟩

/-- **lu_correct** — `lu<LUCompType::S>(A, L, U[, p])` for EVERY strategy S (BlockLU, SimpleLU, BlockLUPiv, SimpleLUPiv), EVERY
size n and every A on which S is defined: L unit lower triangular with exact zeros above the diagonal, U upper triangular with
exact zeros below it, `L*U = P*A` (`(P*A)(i,j) = A(p(i),j)`; p = identity for the unpivoted strategies), p a bijection. -/
theorem lu_correct (ops : InvOps K) (hops : InvSpec ops) (gt : K → K → Bool) (s : Strategy) (n : Nat) (A : Mat K)
    (hdef : LUDefined ops gt s n A) :
    let r := luPublicV ops gt s n A
    (∀ i, i < n → r.L.get i i = 1) ∧ (∀ i j, i < n → j < n → i < j → r.L.get i j = 0) ∧
    (∀ i j, i < n → j < n → j < i → r.U.get i j = 0) ∧
    (∀ i j, i < n → j < n → ∑ m ∈ range n, r.L.get i m * r.U.get m j = A.get (r.perm.getD i 0) j) ∧
    (∀ i, i < n → r.perm.getD i 0 < n) ∧
    (∀ i j, i < n → j < n → r.perm.getD i 0 = r.perm.getD j 0 → i = j) ∧
    (∀ v, v < n → ∃ i, i < n ∧ r.perm.getD i 0 = v) :=
  have h := lu_post ops hops gt s n A hdef
  ⟨h.diag, h.lzero, h.uzero, h.mul, h.inrange, h.inj, h.surj⟩

/-- hypothesis-free (apart from "the strategy is defined on A") for the executed inverses -/
theorem lu_post_exec (gt : K → K → Bool) (s : Strategy) (n : Nat) (A : Mat K)
    (hdef : LUDefined (execOps : InvOps K) gt s n A) :
    LUPost n A (luPublicV execOps gt s n A).L (luPublicV execOps gt s n A).U (luPublicV execOps gt s n A).perm :=
  lu_post execOps execOps_spec gt s n A hdef

theorem LUPost.isLU {n : Nat} {A L U : Mat K} {perm : Array Nat} (h : LUPost n A L U perm) :
    IsLU n (applyPivotV n A perm) L U :=
  ⟨h.diag, h.lzero, h.uzero, fun i j hi hj => by rw [h.mul i j hi hj, applyPivotV_get n A perm i j hi hj]⟩

end Fastor.LU
