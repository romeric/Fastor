import FastorModel.Proofs.LUSimple
/-
  `_lufact<T,N>` (backend/lufact.h), the unrolled kernels: row s of U, then column s of L, for s = 0..N-1, then the stores
  with literal ones and zeros.  Correct for every N (the code exists for N = 1..8).
-/
namespace Fastor.LU
open Finset

variable {K : Type} [Field K]

/-- one sweep `s` of the unrolled kernel on the local constants -/
def unrolledStep (n : Nat) (A : Mat K) (st : Mat K × Mat K) (s : Nat) : Mat K × Mat K :=
  let U := (List.range' s (n - s)).foldl (fun (U : Mat K) j =>
              U.set s j (subLoop s (fun k => st.1.get s k * U.get k j) (A.get s j))) st.2
  let L := (List.range' (s + 1) (n - (s + 1))).foldl (fun (L : Mat K) i =>
              L.set i s (subLoop s (fun k => L.get i k * U.get k s) (A.get i s) / U.get s s)) st.1
  (L, U)

def unrolledState (n : Nat) (A : Mat K) (s : Nat) : Mat K × Mat K :=
  (List.range s).foldl (unrolledStep n A) (Mat.zero n n, Mat.zero n n)

/-- the kernel is defined on A: the pivots `U_ss`, s < N-1, it divides by are non-zero -/
def UnrolledDefined (n : Nat) (A : Mat K) : Prop := ∀ s, s + 1 < n → (unrolledState n A (s + 1)).2.get s s ≠ 0

structure UnrolledInv (n s : Nat) (A L U : Mat K) : Prop where
  hasL : ∀ i c, L.has i c ↔ i < n ∧ c < n
  hasU : ∀ i c, U.has i c ↔ i < n ∧ c < n
  ueq : ∀ r j, r < s → r ≤ j → j < n → DooU A L U r j
  leq : ∀ i c, c < s → c < i → i < n → DooL A L U i c
  piv : ∀ c, c < s → c + 1 < n → U.get c c ≠ 0

theorem unrolledStep_inv (n s : Nat) (A L U : Mat K) (h : UnrolledInv n s A L U) (hs : s < n)
    (hp : s + 1 < n → (unrolledStep n A (L, U) s).2.get s s ≠ 0) :
    UnrolledInv n (s + 1) A (unrolledStep n A (L, U) s).1 (unrolledStep n A (L, U) s).2 := by
  obtain ⟨hasL, hasU, ueq, leq, piv⟩ := h
  obtain ⟨U', hU'⟩ : ∃ M, M = (List.range' s (n - s)).foldl (fun (U : Mat K) j =>
      U.set s j (subLoop s (fun k => L.get s k * U.get k j) (A.get s j))) U := ⟨_, rfl⟩
  obtain ⟨L', hL'⟩ : ∃ M, M = (List.range' (s + 1) (n - (s + 1))).foldl (fun (L : Mat K) i =>
      L.set i s (subLoop s (fun k => L.get i k * U'.get k s) (A.get i s) / U'.get s s)) L := ⟨_, rfl⟩
  have e : unrolledStep n A (L, U) s = (L', U') := by rw [hL', hU']; rfl
  rw [e] at hp ⊢
  dsimp only at hp ⊢
  obtain ⟨u1, u2, u3⟩ := foldl_set_row s (fun M j => subLoop s (fun k => L.get s k * M.get k j) (A.get s j)) s (n - s) U U' hU'
    (fun M M' t h => subLoop_congr _ fun k hk => by rw [h k t (Or.inl (by omega))])
    (fun t _ ht => (hasU s t).2 ⟨hs, by omega⟩)
  obtain ⟨l1, l2, l3⟩ := foldl_set_col s (fun M i => subLoop s (fun k => M.get i k * U'.get k s) (A.get i s) / U'.get s s)
    (s + 1) (n - (s + 1)) L L' hL' (fun M M' t h => by rw [subLoop_congr _ fun k hk => by rw [h t k (Or.inl (by omega))]])
    (fun t _ ht => (hasL t s).2 ⟨by omega, hs⟩)
  have getL' : ∀ i c, c ≠ s → L'.get i c = L.get i c := fun i c hc => l2 i c (Or.inl hc)
  have getU' : ∀ r j, r ≠ s → U'.get r j = U.get r j := fun r j hr => u2 r j (Or.inl hr)
  refine ⟨fun i c => by rw [l1]; exact hasL i c, fun i c => by rw [u1]; exact hasU i c, ?_, ?_, ?_⟩
  · intro r j hr hrj hj
    by_cases hrs : r = s
    · subst hrs
      exact (dooU_of_subLoop (u3 j hrj (by omega))).congr (fun k hk => getL' r k (by omega)) (fun k _ => rfl)
    · exact (ueq r j (by omega) hrj hj).congr (fun k hk => getL' r k (by omega)) (fun k hk => getU' k j (by omega))
  · intro i c hc hci hi
    by_cases hcs : c = s
    · subst hcs
      exact dooL_of_subLoop (l3 i hci (by omega))
    · exact (leq i c (by omega) hci hi).congr (fun k hk => getL' i k (by omega)) (fun k hk => getU' k c (by omega))
  · intro c hc hc1
    by_cases hcs : c = s
    · subst hcs; exact hp hc1
    · rw [getU' c c hcs]; exact piv c (by omega) hc1

theorem unrolledState_succ (n : Nat) (A : Mat K) (s : Nat) :
    unrolledState n A (s + 1) = unrolledStep n A (unrolledState n A s) s :=
  foldl_range_succ _ _ s

theorem unrolledState_inv (n : Nat) (A : Mat K) (hdef : UnrolledDefined n A) :
    ∀ s, s ≤ n → UnrolledInv n s A (unrolledState n A s).1 (unrolledState n A s).2 := by
  intro s
  induction s with
  | zero =>
    intro _
    refine ⟨has_zero n n, has_zero n n, ?_, ?_, ?_⟩ <;> intros <;> omega
  | succ s ih =>
    intro hs
    have hd := hdef s
    rw [unrolledState_succ] at hd ⊢
    exact unrolledStep_inv n s A _ _ (ih (by omega)) (by omega) hd

/-- `_lufact<T,N>`: for every N, the stored L and U are the LU factorisation, with the ones and zeros stored as literals -/
theorem lufactUnrolled_isLU (n : Nat) (A : Mat K) (hdef : UnrolledDefined n A) :
    IsLU n A (lufactUnrolled n A).1 (lufactUnrolled n A).2 := by
  have h := unrolledState_inv n A hdef n (Nat.le_refl _)
  obtain ⟨L, hL⟩ : ∃ M : Mat K, M = Mat.ofFn n n fun i j =>
      if i = j then 1 else if j < i then (unrolledState n A n).1.get i j else 0 := ⟨_, rfl⟩
  obtain ⟨U, hU⟩ : ∃ M : Mat K, M = Mat.ofFn n n fun i j => if i ≤ j then (unrolledState n A n).2.get i j else 0 := ⟨_, rfl⟩
  have e : lufactUnrolled n A = (L, U) := by rw [hL, hU]; rfl
  rw [e]
  have gL : ∀ i j, i < n → j < n →
      L.get i j = if i = j then 1 else if j < i then (unrolledState n A n).1.get i j else 0 :=
    fun i j hi hj => by rw [hL, Mat.get_ofFn, if_pos ⟨hi, hj⟩]
  have gU : ∀ i j, i < n → j < n → U.get i j = if i ≤ j then (unrolledState n A n).2.get i j else 0 :=
    fun i j hi hj => by rw [hU, Mat.get_ofFn, if_pos ⟨hi, hj⟩]
  -- the stores keep the strict lower part of `L` and the upper part of `U`, which is all the equations read
  have lowL : ∀ i k, i < n → k < i → L.get i k = (unrolledState n A n).1.get i k :=
    fun i k hi hk => by rw [gL i k hi (by omega), if_neg (by omega), if_pos hk]
  have upU : ∀ k j, k ≤ j → j < n → U.get k j = (unrolledState n A n).2.get k j :=
    fun k j hk hj => by rw [gU k j (by omega) hj, if_pos hk]
  apply doolittle_equations_isLU n A L U
  · intro i hi; rw [gL i i hi hi, if_pos rfl]
  · intro i j hi hj hij; rw [gL i j hi hj, if_neg (by omega), if_neg (by omega)]
  · intro i j hi hj hji; rw [gU i j hi hj, if_neg (by omega)]
  · intro i j hi hj hij
    exact (h.ueq i j hi hij hj).congr (fun k hk => lowL i k hi hk) (fun k hk => upU k j (by omega) hj)
  · intro i j hi hj hji
    exact (h.leq i j hj hji hi).congr (fun k hk => lowL i k hi (by omega)) (fun k hk => upU k j hk hj)
  · intro j hj
    rw [upU j j (Nat.le_refl j) (by omega)]
    exact h.piv j (by omega) hj

end Fastor.LU
