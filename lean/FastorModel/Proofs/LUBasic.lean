import FastorModel.Model.LU
import FastorModel.Proofs.RangeLoop
import FastorModel.Proofs.RangeSum
/-
  Helper lemmas for C11 / C12: the accumulation loops as sums, the entries of the matrix constructors, the specification
  predicate `IsLU`.
-/
namespace Fastor.LU
open Finset

section ring
variable {K : Type} [Field K]

theorem subLoop_eq (m : Nat) (f : Nat → K) (a : K) : subLoop m f a = a - ∑ k ∈ range m, f k := by
  unfold subLoop
  induction m with
  | zero => simp
  | succ m ih => rw [foldl_range_succ, ih, sum_range_succ]; ring

theorem sumTo_eq (m : Nat) (f : Nat → K) : sumTo m f = ∑ k ∈ range m, f k := by
  unfold sumTo
  induction m with
  | zero => simp
  | succ m ih => rw [foldl_range_succ, ih, sum_range_succ]

theorem subLoop_congr {m : Nat} {f g : Nat → K} (a : K) (h : ∀ k, k < m → f k = g k) : subLoop m f a = subLoop m g a := by
  rw [subLoop_eq, subLoop_eq, sum_range_congr h]

theorem sumTo_congr {m : Nat} {f g : Nat → K} (h : ∀ k, k < m → f k = g k) : sumTo m f = sumTo m g := by
  rw [sumTo_eq, sumTo_eq, sum_range_congr h]

theorem get_zero (r c i j : Nat) : (Mat.zero r c : Mat K).get i j = 0 := by
  rw [Mat.zero, Mat.get_ofFn, ite_self]

theorem has_zero (r c i j : Nat) : (Mat.zero r c : Mat K).has i j ↔ i < r ∧ j < c :=
  Mat.has_ofFn r c _ i j

theorem get_eye (n i j : Nat) (hi : i < n) (hj : j < n) : (Mat.eye n : Mat K).get i j = if i = j then 1 else 0 := by
  rw [Mat.eye, Mat.get_ofFn, if_pos ⟨hi, hj⟩]

theorem get_copy (r c : Nat) (A : Mat K) (i j : Nat) (hi : i < r) (hj : j < c) : (Mat.copy r c A).get i j = A.get i j := by
  rw [Mat.copy, Mat.get_ofFn, if_pos ⟨hi, hj⟩]

theorem get_block (A : Mat K) (r0 c0 r c i j : Nat) (hi : i < r) (hj : j < c) :
    (A.block r0 c0 r c).get i j = A.get (r0 + i) (c0 + j) := by
  rw [Mat.block, Mat.get_ofFn, if_pos ⟨hi, hj⟩]

theorem get_sub (r c : Nat) (A B : Mat K) (i j : Nat) (hi : i < r) (hj : j < c) :
    (Mat.sub r c A B).get i j = A.get i j - B.get i j := by
  rw [Mat.sub, Mat.get_ofFn, if_pos ⟨hi, hj⟩]

theorem get_mul (r k c : Nat) (A B : Mat K) (i j : Nat) (hi : i < r) (hj : j < c) :
    (Mat.mul r k c A B).get i j = ∑ m ∈ range k, A.get i m * B.get m j := by
  rw [Mat.mul, Mat.get_ofFn, if_pos ⟨hi, hj⟩, sumTo_eq]

/-- the specification: `L` unit lower triangular with exact zeros above the diagonal, `U` upper triangular with exact
zeros below it, `L * U = A` (all on the leading n×n part) -/
structure IsLU (n : Nat) (A L U : Mat K) : Prop where
  diag : ∀ i, i < n → L.get i i = 1
  lzero : ∀ i j, i < n → j < n → i < j → L.get i j = 0
  uzero : ∀ i j, i < n → j < n → j < i → U.get i j = 0
  mul : ∀ i j, i < n → j < n → ∑ m ∈ range n, L.get i m * U.get m j = A.get i j

end ring
end Fastor.LU
