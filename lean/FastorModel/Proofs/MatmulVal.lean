import FastorModel.Proofs.Sums
import Mathlib.Algebra.Ring.Defs
import Mathlib.Tactic.Ring
import FastorModel.Model.Matmul
/-
  In a commutative semiring every accumulation order used by the matmul kernels computes the
  partial dot product `∑ k < kk, a (r*K+k) * b (k*N+c)`.
-/
namespace Fastor.Matmul
open Finset

variable {R : Type} [CommSemiring R]

/-- the specification: the `(r,c)` entry of the product of row-major `a (M×K)` and `b (K×N)` -/
def dotSpec (a b : Nat → R) (K N r c : Nat) : R := ∑ k ∈ range K, a (r * K + k) * b (k * N + c)

theorem dotFma_eq (a b : Nat → R) (K N r c kk : Nat) :
    dotFma a b K N r c kk = ∑ k ∈ range kk, a (r * K + k) * b (k * N + c) := by
  unfold dotFma
  rw [List.range_eq_range', foldl_add_range'_left, zero_add, Nat.zero_add, Nat.Ico_zero_eq_range]

theorem dotAcc_eq (a b : Nat → R) (K N r c kk : Nat) :
    dotAcc a b K N r c kk = ∑ k ∈ range kk, a (r * K + k) * b (k * N + c) := by
  unfold dotAcc
  rw [List.range_eq_range', foldl_add_range', zero_add, Nat.zero_add, Nat.Ico_zero_eq_range]

theorem dotMulFirst_eq (a b : Nat → R) (K N r c kk : Nat) :
    dotMulFirst a b K N r c kk = ∑ k ∈ range kk, a (r * K + k) * b (k * N + c) := by
  cases kk with
  | zero => rfl
  | succ n =>
    rw [dotMulFirst, List.range_eq_range', foldl_add_range'_left (fun k => a (r * K + (k + 1)) * b ((k + 1) * N + c)),
      Nat.zero_add, Nat.Ico_zero_eq_range, Finset.sum_range_succ', add_comm, Nat.add_zero, Nat.zero_mul, Nat.zero_add]

/-- a complete event of style ≤ 2 carries the specified entry -/
theorem val_final (a b : Nat → R) (K N : Nat) (e : St) (hk : e.kk = K) (hs : e.style ≤ 2) :
    val a b K N e = dotSpec a b K N e.r e.c := by
  unfold val dotSpec
  rcases e with ⟨r, c, kk, st, k0⟩
  simp only at hk hs ⊢
  subst hk
  match st, hs with
  | 0, _ => exact dotFma_eq ..
  | 1, _ => exact dotAcc_eq ..
  | 2, _ => exact dotMulFirst_eq ..

end Fastor.Matmul
