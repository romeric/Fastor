import FastorModel.Model.SimdIntrinsics
import FastorModel.Proofs.SimdAttr
/-! Lemmas about `Model/SimdIntrinsics.lean`: 64-bit lanes as pairs of 32-bit lanes, the bit identities behind the emulated
    integer operations, and the simp set `lane` through which proofs about translated intrinsic code read a register. -/
namespace Fastor.Simd

theorem lo32_append (h l : BitVec 32) : lo32 (h ++ l) = l := by
  apply BitVec.eq_of_getLsbD_eq; intro i hi
  simp only [lo32, BitVec.getLsbD_extractLsb', Nat.zero_add]
  rw [BitVec.getLsbD_append]; simp [hi]

theorem hi32_append (h l : BitVec 32) : hi32 (h ++ l) = h := by
  apply BitVec.eq_of_getLsbD_eq; intro i hi
  simp only [hi32, BitVec.getLsbD_extractLsb']
  rw [BitVec.getLsbD_append]; simp [hi]

theorem hi32_lo32 (x : BitVec 64) : hi32 x ++ lo32 x = x := by
  apply BitVec.eq_of_getLsbD_eq; intro i hi
  simp only [hi32, lo32, BitVec.getLsbD_append, BitVec.getLsbD_extractLsb']
  by_cases h : i < 32
  · simp [h]
  · have : 32 + (i - 32) = i := by omega
    have h' : i - 32 < 32 := by omega
    simp only [h, h', this, decide_true, Bool.true_and, if_false]

theorem lo32_mul (a b : BitVec 32) : lo32 (a.setWidth 64 * b.setWidth 64) = a * b := by
  have : lo32 (a.setWidth 64 * b.setWidth 64) = (a.setWidth 64 * b.setWidth 64).setWidth 32 := by
    ext i hi; simp [lo32, BitVec.getElem_extractLsb', BitVec.getElem_setWidth]
  rw [this]; simp [BitVec.setWidth_mul]

private theorem two_mul_add_one_div (m : Nat) : (2 * m + 1) / 2 = m := by omega
private theorem two_mul_div (m : Nat) : 2 * m / 2 = m := by omega
private theorem two_mul_add_one_mod (m : Nat) : (2 * m + 1) % 2 = 1 := by omega
private theorem two_mul_mod (m : Nat) : 2 * m % 2 = 0 := by omega

theorem lane64_of64 (f : Nat → BitVec 64) (j : Nat) : lane64 (of64 f) j = f j := by
  simp only [lane64, of64, two_mul_add_one_mod, two_mul_mod, two_mul_add_one_div, two_mul_div, Nat.one_ne_zero, if_true, if_false,
    hi32_lo32]

theorem of64_lane64 (a : Reg) (k : Nat) : of64 (lane64 a) k = a k := by
  simp only [lane64, of64]
  rcases Nat.mod_two_eq_zero_or_one k with h | h
  · have : 2 * (k / 2) = k := by omega
    simp [h, this, lo32_append]
  · have : 2 * (k / 2) + 1 = k := by omega
    simp [h, this, hi32_append]

/-! SSE2 integer abs: `(x ^^^ (x >>s 31)) - (x >>s 31)` is the two's complement absolute value -/
theorem sshift31 (x : BitVec 32) : x.sshiftRight 31 = if x.msb then 4294967295#32 else 0#32 := by
  have ones_bits : ∀ i, i < 32 → (4294967295#32).getLsbD i = true := by decide
  apply BitVec.eq_of_getLsbD_eq; intro i hi
  rw [BitVec.getLsbD_sshiftRight]
  have hd : decide (32 ≤ i) = false := decide_eq_false (by omega)
  rw [hd]
  have hm31 : x.getLsbD 31 = x.msb := by rw [BitVec.msb_eq_getLsbD_last]
  have hm31' : x[31] = x.msb := by rw [← BitVec.getLsbD_eq_getElem]; exact hm31
  by_cases h0 : i = 0
  · subst h0
    cases hm : x.msb
    · rw [hm] at hm31'; simp [hm31']
    · rw [hm] at hm31'; simp [hm31']
  · have : ¬ (31 + i < 32) := by omega
    cases hm : x.msb
    · simp [this]
    · simp only [this, if_false, if_true, Bool.not_false, Bool.true_and]; exact (ones_bits i hi).symm
theorem abs32_by_sign (x : BitVec 32) : (x ^^^ x.sshiftRight 31) - x.sshiftRight 31 = abs32 x := by
  unfold abs32
  rw [sshift31, BitVec.slt_zero_eq_msb]
  cases h : x.msb
  · simp
  · simp only [if_true]
    have : (4294967295#32) = BitVec.allOnes 32 := by decide
    rw [this, BitVec.xor_allOnes, BitVec.neg_eq_not_add, BitVec.sub_eq_add_neg]
    congr 1

theorem msb_append32 (h l : BitVec 32) : (h ++ l).msb = h.msb := by rw [BitVec.msb_append]; simp
theorem msb_ones32 : (4294967295#32).msb = true := by decide
theorem msb_zero32 : (0#32).msb = false := by decide
theorem msb_ones64 : (18446744073709551615#64).msb = true := by decide
theorem msb_zero64 : (0#64).msb = false := by decide
theorem lo32_ones : lo32 18446744073709551615#64 = 4294967295#32 := by decide

/-! SSE2 has no 64-bit arithmetic shift: the sign word is `srai_epi32 .. 31` of the high half -/
theorem abs64_by_sign (h l : BitVec 32) :
    ((h ^^^ h.sshiftRight 31) ++ (l ^^^ h.sshiftRight 31)) - (h.sshiftRight 31 ++ h.sshiftRight 31) = abs64 (h ++ l) := by
  unfold abs64
  rw [sshift31, BitVec.slt_zero_eq_msb]
  rw [msb_append32]
  cases hh : h.msb
  · simp
  · simp only [if_true]
    have e1 : (4294967295#32) = BitVec.allOnes 32 := by decide
    have e2 : (BitVec.allOnes 32 ++ BitVec.allOnes 32) = BitVec.allOnes 64 := by decide
    rw [e1, BitVec.xor_allOnes, BitVec.xor_allOnes, e2, ← BitVec.not_append, BitVec.neg_eq_not_add, BitVec.sub_eq_add_neg]
    congr 1

/-- the sign word written twice is `shuffle_epi32 (srai_epi32 a 31) 245` -/
theorem abs64_by_sign_xor (h l : BitVec 32) :
    ((h ++ l) ^^^ (h.sshiftRight 31 ++ h.sshiftRight 31)) - (h.sshiftRight 31 ++ h.sshiftRight 31) = abs64 (h ++ l) := by
  rw [← abs64_by_sign, BitVec.xor_append]

/-! A 32-bit lane of a register is the register applied to `j`, so the intrinsics on 32-bit lanes are in `lane` as
unfolding rules.  For those on 64-bit lanes the lemmas say what `lane64 · j` of the result is: a proof that reads a 64-bit
result only through `lane64` never sees the two halves.  The side conditions `off % 2 = 0` are closed by `Nat.reduceMod`
on literals.  The facts about the words `2 * j` and `2 * j + 1` come from one `omega` call, as a conjunction: a call per
fact would each time pay again for the context. -/

theorem lane64_zip64 (f : BitVec 64 → BitVec 64 → BitVec 64) (a b : Reg) (j : Nat) :
    lane64 (zip64 f a b) j = f (lane64 a j) (lane64 b j) := by rw [zip64, lane64_of64]
theorem lane64_map64 (f : BitVec 64 → BitVec 64) (a : Reg) (j : Nat) : lane64 (map64 f a) j = f (lane64 a j) := by
  rw [map64, lane64_of64]
theorem lane64_setzero (j : Nat) : lane64 setzero j = 0#64 := by simp only [lane64, setzero]; decide
theorem lane64_set1_64 (x : BitVec 64) (j : Nat) : lane64 (set1_64 x) j = x := by rw [set1_64, lane64_of64]
theorem lane64_setr64 (xs : List (BitVec 64)) (j : Nat) : lane64 (setr64 xs) j = xs.getD j 0 := by rw [setr64, lane64_of64]
theorem lane64_set64 (xs : List (BitVec 64)) (j : Nat) : lane64 (set64 xs) j = xs.reverse.getD j 0 := by
  rw [set64, lane64_setr64]
theorem lane64_fmadd_pd (fo : FOps) (a b c : Reg) (j : Nat) :
    lane64 (fmadd_pd fo a b c) j = fo.fma64 (lane64 a j) (lane64 b j) (lane64 c j) := by rw [fmadd_pd, lane64_of64]
theorem lane64_fmsub_pd (fo : FOps) (a b c : Reg) (j : Nat) :
    lane64 (fmsub_pd fo a b c) j = fo.fma64 (lane64 a j) (lane64 b j) (lane64 c j ^^^ sign64) := by rw [fmsub_pd, lane64_of64]
theorem lane64_fnmadd_pd (fo : FOps) (a b c : Reg) (j : Nat) :
    lane64 (fnmadd_pd fo a b c) j = fo.fma64 (lane64 a j ^^^ sign64) (lane64 b j) (lane64 c j) := by rw [fnmadd_pd, lane64_of64]
theorem lane64_mul_epu32 (a b : Reg) (j : Nat) :
    lane64 (mul_epu32 a b) j = (a (2 * j)).setWidth 64 * (b (2 * j)).setWidth 64 := by rw [mul_epu32, lane64_of64]
theorem lane64_mul_epi32 (a b : Reg) (j : Nat) :
    lane64 (mul_epi32 a b) j = (a (2 * j)).signExtend 64 * (b (2 * j)).signExtend 64 := by rw [mul_epi32, lane64_of64]
theorem lane64_hadd_pd (fo : FOps) (a b : Reg) (m : Nat) :
    lane64 (hadd_pd fo a b) m =
      fo.add64 (lane64 (if m % 2 = 0 then a else b) (m / 2 * 2)) (lane64 (if m % 2 = 0 then a else b) (m / 2 * 2 + 1)) := by
  rw [hadd_pd, lane64_of64]
theorem lane64_low64 (f : BitVec 64 → BitVec 64 → BitVec 64) (a b : Reg) (j : Nat) :
    lane64 (low64 f a b) j = if j = 0 then f (lane64 a 0) (lane64 b 0) else lane64 a j := by
  by_cases h : j = 0
  · subst h; simp [lane64, low64, of64, hi32_lo32]
  · obtain ⟨h1, h2⟩ : ¬ 2 * j + 1 < 2 ∧ ¬ 2 * j < 2 := by omega
    simp only [lane64, low64, h, h1, h2, if_false]

theorem lane64_movehl_ps (a b : Reg) (j : Nat) : lane64 (movehl_ps a b) j = if j = 0 then lane64 b 1 else lane64 a j := by
  by_cases h : j = 0
  · subst h; rfl
  · obtain ⟨h1, h2⟩ : ¬ 2 * j + 1 < 2 ∧ ¬ 2 * j < 2 := by omega
    simp only [lane64, movehl_ps, h, h1, h2, if_false]
theorem mul_epu32_apply (a b : Reg) (k : Nat) (h : k % 2 = 0) : mul_epu32 a b k = a k * b k := by
  have e : 2 * (k / 2) = k := by omega
  simp only [mul_epu32, of64, h, if_true, e, lo32_mul]

theorem ite_slt_eq_smin32 (a b : BitVec 32) : (if a.slt b then a else b) = smin32 a b := rfl
theorem ite_slt_eq_smax32 (a b : BitVec 32) : (if b.slt a then a else b) = smax32 a b := rfl

theorem lane64_xor_si (a b : Reg) (j : Nat) : lane64 (xor_si a b) j = lane64 a j ^^^ lane64 b j := by
  simp only [lane64, xor_si, zip32, ← BitVec.xor_append]
theorem lane64_and_si (a b : Reg) (j : Nat) : lane64 (and_si a b) j = lane64 a j &&& lane64 b j := by
  simp only [lane64, and_si, zip32, ← BitVec.and_append]
theorem lane64_or_si (a b : Reg) (j : Nat) : lane64 (or_si a b) j = lane64 a j ||| lane64 b j := by
  simp only [lane64, or_si, zip32, ← BitVec.or_append]
theorem lane64_andnot_si (a b : Reg) (j : Nat) : lane64 (andnot_si a b) j = ~~~lane64 a j &&& lane64 b j := by
  simp only [lane64, andnot_si, zip32, ← BitVec.not_append, ← BitVec.and_append]

theorem lane64_loadw (m : Reg) (off j : Nat) (h : off % 2 = 0) : lane64 (loadw m off) j = lane64 m (off / 2 + j) := by
  obtain ⟨e1, e2⟩ : off + (2 * j + 1) = 2 * (off / 2 + j) + 1 ∧ off + 2 * j = 2 * (off / 2 + j) := by omega
  simp only [lane64, loadw, e1, e2]
theorem lane64_loadw_sd (m : Reg) (off j : Nat) (h : off % 2 = 0) :
    lane64 (loadw_sd m off) j = if j = 0 then lane64 m (off / 2) else 0#64 := by
  by_cases hj : j = 0
  · subst hj
    have e : off + 1 = 2 * (off / 2) + 1 := by omega
    have e' : off = 2 * (off / 2) := by omega
    simp only [lane64, loadw_sd, Nat.mul_zero, Nat.zero_add, Nat.add_zero, Nat.lt_add_one, Nat.zero_lt_two, if_true, e]
    rw [← e']
  · obtain ⟨h1, h2⟩ : ¬ 2 * j + 1 < 2 ∧ ¬ 2 * j < 2 := by omega
    simp only [lane64, loadw_sd, hj, h1, h2, if_false]; decide
theorem lane64_storew (m : Reg) (off n : Nat) (r : Reg) (j : Nat) (ho : off % 2 = 0) (hn : n % 2 = 0) :
    lane64 (storew m off n r) j = if off / 2 ≤ j ∧ j < off / 2 + n / 2 then lane64 r (j - off / 2) else lane64 m j := by
  by_cases h : off / 2 ≤ j ∧ j < off / 2 + n / 2
  · obtain ⟨h1, h2, e1, e2⟩ : (off ≤ 2 * j + 1 ∧ 2 * j + 1 < off + n) ∧ (off ≤ 2 * j ∧ 2 * j < off + n) ∧
        2 * j + 1 - off = 2 * (j - off / 2) + 1 ∧ 2 * j - off = 2 * (j - off / 2) := by omega
    simp only [lane64, storew, h, h1, h2, e1, e2, and_self, if_true]
  · obtain ⟨h1, h2⟩ : ¬ (off ≤ 2 * j + 1 ∧ 2 * j + 1 < off + n) ∧ ¬ (off ≤ 2 * j ∧ 2 * j < off + n) := by omega
    simp only [lane64, storew, h, h1, h2, if_false]
/-- the generated form of a store through an offset pointer: `t` is the memory from word `o` on -/
theorem lane64_tail (o : Nat) (t out : Reg) (j : Nat) (ho : o % 2 = 0) :
    lane64 (fun w => if o ≤ w then t (w - o) else out w) j = if o / 2 ≤ j then lane64 t (j - o / 2) else lane64 out j := by
  by_cases h : o / 2 ≤ j
  · obtain ⟨h1, h2, e1, e2⟩ : o ≤ 2 * j + 1 ∧ o ≤ 2 * j ∧ 2 * j + 1 - o = 2 * (j - o / 2) + 1 ∧
        2 * j - o = 2 * (j - o / 2) := by omega
    simp only [lane64, h, h1, h2, e1, e2, if_true]
  · obtain ⟨h1, h2⟩ : ¬ o ≤ 2 * j + 1 ∧ ¬ o ≤ 2 * j := by omega
    simp only [lane64, h, h1, h2, if_false]
theorem lane64_maskload64 (m mask : Reg) (j : Nat) :
    lane64 (maskload64 m mask) j = if (lane64 mask j).msb then lane64 m j else 0#64 := by
  simp only [lane64, maskload64, two_mul_add_one_div, two_mul_div, msb_append32]
  split <;> rfl
theorem lane64_maskstore64 (m : Reg) (off n : Nat) (mask r : Reg) (j : Nat) (ho : off % 2 = 0) (hn : n % 2 = 0) :
    lane64 (maskstore64 m off n mask r) j =
      if off / 2 ≤ j ∧ j < off / 2 + n / 2 ∧ (lane64 mask (j - off / 2)).msb then lane64 r (j - off / 2) else lane64 m j := by
  by_cases h : off / 2 ≤ j ∧ j < off / 2 + n / 2
  · obtain ⟨h1, h2, e1, e2⟩ : (off ≤ 2 * j + 1 ∧ 2 * j + 1 < off + n) ∧ (off ≤ 2 * j ∧ 2 * j < off + n) ∧
        2 * j + 1 - off = 2 * (j - off / 2) + 1 ∧ 2 * j - off = 2 * (j - off / 2) := by omega
    simp only [lane64, maskstore64, h, h1, h2, e1, e2, two_mul_add_one_div, two_mul_div, true_and, msb_append32]
    split <;> rfl
  · obtain ⟨h1, h2⟩ : ¬ (off ≤ 2 * j + 1 ∧ 2 * j + 1 < off + n ∧ (mask (2 * ((2 * j + 1 - off) / 2) + 1)).msb = true) ∧
        ¬ (off ≤ 2 * j ∧ 2 * j < off + n ∧ (mask (2 * ((2 * j - off) / 2) + 1)).msb = true) := by omega
    have h3 : ¬ (off / 2 ≤ j ∧ j < off / 2 + n / 2 ∧ (lane64 mask (j - off / 2)).msb = true) := fun hh => h ⟨hh.1, hh.2.1⟩
    rw [if_neg h3]
    simp only [lane64, maskstore64, h1, h2, if_false]
theorem lane64_kload64 (src : Reg) (k : Nat) (m : Reg) (j : Nat) :
    lane64 (kload64 src k m) j = if (k >>> j) % 2 = 1 then lane64 m j else lane64 src j := by
  simp only [lane64, kload64, two_mul_add_one_div, two_mul_div]
  split <;> rfl
theorem lane64_kstore64 (m : Reg) (off n k : Nat) (r : Reg) (j : Nat) (ho : off % 2 = 0) (hn : n % 2 = 0) :
    lane64 (kstore64 m off n k r) j =
      if off / 2 ≤ j ∧ j < off / 2 + n / 2 ∧ (k >>> (j - off / 2)) % 2 = 1 then lane64 r (j - off / 2) else lane64 m j := by
  by_cases h : off / 2 ≤ j ∧ j < off / 2 + n / 2
  · obtain ⟨h1, h2, e1, e2⟩ : (off ≤ 2 * j + 1 ∧ 2 * j + 1 < off + n) ∧ (off ≤ 2 * j ∧ 2 * j < off + n) ∧
        2 * j + 1 - off = 2 * (j - off / 2) + 1 ∧ 2 * j - off = 2 * (j - off / 2) := by omega
    simp only [lane64, kstore64, h, h1, h2, e1, e2, two_mul_add_one_div, two_mul_div, true_and]
    split <;> rfl
  · obtain ⟨h1, h2⟩ : ¬ (off ≤ 2 * j + 1 ∧ 2 * j + 1 < off + n ∧ (k >>> ((2 * j + 1 - off) / 2)) % 2 = 1) ∧
        ¬ (off ≤ 2 * j ∧ 2 * j < off + n ∧ (k >>> ((2 * j - off) / 2)) % 2 = 1) := by omega
    have h3 : ¬ (off / 2 ≤ j ∧ j < off / 2 + n / 2 ∧ (k >>> (j - off / 2)) % 2 = 1) := fun hh => h ⟨hh.1, hh.2.1⟩
    rw [if_neg h3]
    simp only [lane64, kstore64, h1, h2, if_false]

theorem lane64_shuffle_pd (a b : Reg) (imm m : Nat) :
    lane64 (shuffle_pd a b imm) m = lane64 (if m % 2 = 0 then a else b) (m / 2 * 2 + (imm >>> m) % 2) := by
  simp only [lane64, shuffle_pd, two_mul_add_one_div, two_mul_div, two_mul_add_one_mod, two_mul_mod, Nat.add_zero]
theorem lane64_unpacklo_epi64 (a b : Reg) (m : Nat) :
    lane64 (unpacklo_epi64 a b) m = lane64 (if m % 2 = 0 then a else b) (m / 2 * 2) := by
  rcases Nat.mod_two_eq_zero_or_one m with h | h
  · obtain ⟨c1, c2, e1, e2⟩ : (2 * m + 1) % 4 < 2 ∧ 2 * m % 4 < 2 ∧
        (2 * m + 1) / 4 * 4 + (2 * m + 1) % 4 = 2 * (m / 2 * 2) + 1 ∧
        2 * m / 4 * 4 + 2 * m % 4 = 2 * (m / 2 * 2) := by omega
    simp only [lane64, unpacklo_epi64, h, c1, c2, e1, e2, if_true]
  · obtain ⟨c1, c2, e1, e2⟩ : ¬ (2 * m + 1) % 4 < 2 ∧ ¬ 2 * m % 4 < 2 ∧
        (2 * m + 1) / 4 * 4 + (2 * m + 1) % 4 - 2 = 2 * (m / 2 * 2) + 1 ∧
        2 * m / 4 * 4 + 2 * m % 4 - 2 = 2 * (m / 2 * 2) := by omega
    simp only [lane64, unpacklo_epi64, h, c1, c2, e1, e2, if_false, Nat.one_ne_zero]
theorem lane64_unpackhi_epi64 (a b : Reg) (m : Nat) :
    lane64 (unpackhi_epi64 a b) m = lane64 (if m % 2 = 0 then a else b) (m / 2 * 2 + 1) := by
  rcases Nat.mod_two_eq_zero_or_one m with h | h
  · obtain ⟨c1, c2, e1, e2⟩ : (2 * m + 1) % 4 < 2 ∧ 2 * m % 4 < 2 ∧
        (2 * m + 1) / 4 * 4 + 2 + (2 * m + 1) % 4 = 2 * (m / 2 * 2 + 1) + 1 ∧
        2 * m / 4 * 4 + 2 + 2 * m % 4 = 2 * (m / 2 * 2 + 1) := by omega
    simp only [lane64, unpackhi_epi64, h, c1, c2, e1, e2, if_true]
  · obtain ⟨c1, c2, e1, e2⟩ : ¬ (2 * m + 1) % 4 < 2 ∧ ¬ 2 * m % 4 < 2 ∧
        (2 * m + 1) / 4 * 4 + (2 * m + 1) % 4 = 2 * (m / 2 * 2 + 1) + 1 ∧
        2 * m / 4 * 4 + 2 * m % 4 = 2 * (m / 2 * 2 + 1) := by omega
    simp only [lane64, unpackhi_epi64, h, c1, c2, e1, e2, if_false, Nat.one_ne_zero]
theorem lane64_permute4x64 (a : Reg) (imm m : Nat) : lane64 (permute4x64 a imm) m = lane64 a ((imm >>> (2 * m)) % 4) := by
  simp only [lane64, permute4x64, two_mul_add_one_div, two_mul_div, two_mul_add_one_mod, two_mul_mod, Nat.add_zero]
theorem lane64_extractf128 (a : Reg) (imm m : Nat) : lane64 (extractf128 a imm) m = lane64 a (m + 2 * (imm % 2)) := by
  obtain ⟨e1, e2⟩ : 2 * m + 1 + 4 * (imm % 2) = 2 * (m + 2 * (imm % 2)) + 1 ∧
      2 * m + 4 * (imm % 2) = 2 * (m + 2 * (imm % 2)) := by omega
  simp only [lane64, extractf128, e1, e2]
theorem lane64_insertf128 (a b : Reg) (imm m : Nat) :
    lane64 (insertf128 a b imm) m =
      if 2 * (imm % 2) ≤ m ∧ m < 2 * (imm % 2) + 2 then lane64 b (m - 2 * (imm % 2)) else lane64 a m := by
  simp only [lane64, insertf128]
  generalize imm % 2 = c
  by_cases h : 2 * c ≤ m ∧ m < 2 * c + 2
  · obtain ⟨h1, h2, e1, e2⟩ : (4 * c ≤ 2 * m + 1 ∧ 2 * m + 1 < 4 * c + 4) ∧ (4 * c ≤ 2 * m ∧ 2 * m < 4 * c + 4) ∧
        2 * m + 1 - 4 * c = 2 * (m - 2 * c) + 1 ∧ 2 * m - 4 * c = 2 * (m - 2 * c) := by omega
    simp only [h, h1, h2, e1, e2, and_self, if_true]
  · obtain ⟨h1, h2⟩ : ¬ (4 * c ≤ 2 * m + 1 ∧ 2 * m + 1 < 4 * c + 4) ∧ ¬ (4 * c ≤ 2 * m ∧ 2 * m < 4 * c + 4) := by omega
    simp only [h, h1, h2, if_false]
theorem lane64_cast128_256 (a : Reg) (m : Nat) (h : m < 2) : lane64 (cast128_256 a) m = lane64 a m := by
  obtain ⟨h1, h2⟩ : 2 * m + 1 < 4 ∧ 2 * m < 4 := by omega
  simp only [lane64, cast128_256, h1, h2, if_true]
theorem lane64_permutexvar64 (idx a : Reg) (m : Nat) :
    lane64 (permutexvar64 idx a) m = lane64 a ((lane64 idx m).toNat % 8) := by
  simp only [lane64, permutexvar64, two_mul_add_one_div, two_mul_div, two_mul_add_one_mod, two_mul_mod, Nat.add_zero]
theorem lane64_permutex2var64 (a idx b : Reg) (m : Nat) :
    lane64 (permutex2var64 a idx b) m =
      lane64 (if ((lane64 idx m).toNat >>> 3) % 2 = 1 then b else a) ((lane64 idx m).toNat % 8) := by
  by_cases hc : ((lane64 idx m).toNat >>> 3) % 2 = 1
  · rw [if_pos hc]; simp only [lane64, permutex2var64, two_mul_add_one_div, two_mul_div, two_mul_add_one_mod, two_mul_mod, Nat.add_zero] at hc ⊢; rw [if_pos hc]
  · rw [if_neg hc]; simp only [lane64, permutex2var64, two_mul_add_one_div, two_mul_div, two_mul_add_one_mod, two_mul_mod, Nat.add_zero] at hc ⊢; rw [if_neg hc]

theorem lane64_sel2f128 (a b : Reg) (c m : Nat) :
    lane64 (sel2f128 a b c) m = if (c >>> 3) % 2 = 1 then 0#64 else lane64 (if c % 4 < 2 then a else b) (2 * (c % 2) + m) := by
  obtain ⟨e1, e2⟩ : 4 * (c % 2) + (2 * m + 1) = 2 * (2 * (c % 2) + m) + 1 ∧
      4 * (c % 2) + 2 * m = 2 * (2 * (c % 2) + m) := by omega
  simp only [lane64, sel2f128, e1, e2]
  split
  · rfl
  · rfl

theorem lane64_permute2f128 (a b : Reg) (imm m : Nat) :
    lane64 (permute2f128 a b imm) m =
      if m < 2 then lane64 (sel2f128 a b (imm % 16)) m else lane64 (sel2f128 a b ((imm >>> 4) % 16)) (m - 2) := by
  by_cases h : m < 2
  · obtain ⟨h1, h2⟩ : 2 * m + 1 < 4 ∧ 2 * m < 4 := by omega
    simp only [lane64, permute2f128, h, h1, h2, if_true]
  · obtain ⟨h1, h2, e1, e2⟩ : ¬ 2 * m + 1 < 4 ∧ ¬ 2 * m < 4 ∧ 2 * m + 1 - 4 = 2 * (m - 2) + 1 ∧
        2 * m - 4 = 2 * (m - 2) := by omega
    simp only [lane64, permute2f128, h, h1, h2, e1, e2, if_false]

/-! Operations that occur both under `lane64` and applied to a word index are in `lane` in applied form.  An unfolding rule
    rewrites the constant also where it is unapplied, as the argument of another intrinsic (`loadw (storew …) …`), and the
    register becomes a `fun` that no `lane64` lemma matches; the applied form fires only where a word is read. -/
theorem setzero_apply (k : Nat) : setzero k = 0#32 := rfl
theorem xor_si_apply (a b : Reg) (k : Nat) : xor_si a b k = a k ^^^ b k := rfl
theorem and_si_apply (a b : Reg) (k : Nat) : and_si a b k = a k &&& b k := rfl
theorem or_si_apply (a b : Reg) (k : Nat) : or_si a b k = a k ||| b k := rfl
theorem andnot_si_apply (a b : Reg) (k : Nat) : andnot_si a b k = ~~~a k &&& b k := rfl
theorem loadw_apply (m : Reg) (off : Nat) (k : Nat) : loadw m off k = m (off + k) := rfl
theorem loadw_sd_apply (m : Reg) (off : Nat) (k : Nat) : loadw_sd m off k = if k < 2 then m (off + k) else 0 := rfl
theorem storew_apply (m : Reg) (off n : Nat) (r : Reg) (w : Nat) :
    storew m off n r w = if off ≤ w ∧ w < off + n then r (w - off) else m w := rfl
theorem maskload64_apply (m mask : Reg) (k : Nat) :
    maskload64 m mask k = if (mask (2 * (k / 2) + 1)).msb then m k else 0 := rfl
theorem maskstore64_apply (m : Reg) (off n : Nat) (mask r : Reg) (w : Nat) :
    maskstore64 m off n mask r w = if off ≤ w ∧ w < off + n ∧ (mask (2 * ((w - off) / 2) + 1)).msb then r (w - off) else m w := rfl
theorem kload64_apply (src : Reg) (k : Nat) (m : Reg) (i : Nat) :
    kload64 src k m i = if (k >>> (i / 2)) % 2 = 1 then m i else src i := rfl
theorem kstore64_apply (m : Reg) (off n k : Nat) (r : Reg) (w : Nat) :
    kstore64 m off n k r w = if off ≤ w ∧ w < off + n ∧ (k >>> ((w - off) / 2)) % 2 = 1 then r (w - off) else m w := rfl
theorem shuffle_pd_apply (a b : Reg) (imm k : Nat) :
    shuffle_pd a b imm k = (if k / 2 % 2 = 0 then a else b) (2 * (k / 2 / 2 * 2 + (imm >>> (k / 2)) % 2) + k % 2) := rfl
theorem unpacklo_epi64_apply (a b : Reg) (k : Nat) :
    unpacklo_epi64 a b k = if k % 4 < 2 then a (k / 4 * 4 + k % 4) else b (k / 4 * 4 + k % 4 - 2) := rfl
theorem unpackhi_epi64_apply (a b : Reg) (k : Nat) :
    unpackhi_epi64 a b k = if k % 4 < 2 then a (k / 4 * 4 + 2 + k % 4) else b (k / 4 * 4 + k % 4) := rfl
theorem permute4x64_apply (a : Reg) (imm k : Nat) : permute4x64 a imm k = a (2 * ((imm >>> (2 * (k / 2))) % 4) + k % 2) := rfl
theorem extractf128_apply (a : Reg) (imm k : Nat) : extractf128 a imm k = a (k + 4 * (imm % 2)) := rfl
theorem insertf128_apply (a b : Reg) (imm k : Nat) :
    insertf128 a b imm k = if 4 * (imm % 2) ≤ k ∧ k < 4 * (imm % 2) + 4 then b (k - 4 * (imm % 2)) else a k := rfl
theorem cast128_256_apply (a : Reg) (k : Nat) : cast128_256 a k = if k < 4 then a k else junk k := rfl
theorem permutexvar64_apply (idx a : Reg) (k : Nat) :
    permutexvar64 idx a k = a (2 * ((lane64 idx (k / 2)).toNat % 8) + k % 2) := rfl
theorem permutex2var64_apply (a idx b : Reg) (k : Nat) :
    permutex2var64 a idx b k =
      (if ((lane64 idx (k / 2)).toNat >>> 3) % 2 = 1 then b else a) (2 * ((lane64 idx (k / 2)).toNat % 8) + k % 2) := rfl
theorem movehl_ps_apply (a b : Reg) (k : Nat) : movehl_ps a b k = if k < 2 then b (k + 2) else a k := rfl
theorem permute2f128_apply (a b : Reg) (imm k : Nat) :
    permute2f128 a b imm k = if k < 4 then sel2f128 a b (imm % 16) k else sel2f128 a b ((imm >>> 4) % 16) (k - 4) := rfl

/-! `for k < n: p[k] = f(k, p[k])`, unrolled in the generated definitions -/
theorem scalar_loop32 (f : Nat → BitVec 32 → BitVec 32) (n : Nat) (v : Reg) (j : Nat) :
    (List.range n).foldl (fun val k => storew val k 1 (set1_32 (f k (val k)))) v j = if j < n then f j (v j) else v j := by
  induction n generalizing j with
  | zero => rfl
  | succ n ih =>
    rw [List.range_succ, List.foldl_append, List.foldl_cons, List.foldl_nil, storew_apply]
    by_cases h : j = n
    · subst h
      simp only [Nat.le_refl, Nat.lt_add_one, and_self, if_true, set1_32, ih, Nat.lt_irrefl, if_false]
    · have h1 : ¬ (n ≤ j ∧ j < n + 1) := by omega
      have h2 : (j < n + 1) = (j < n) := by simp only [eq_iff_iff]; omega
      rw [if_neg h1, ih]
      simp only [h2]
theorem scalar_loop64 (f : Nat → BitVec 64 → BitVec 64) (n : Nat) (v : Reg) (j : Nat) :
    lane64 ((List.range n).foldl (fun val k => storew val (2 * k) 2 (set1_64 (f k (lane64 val k)))) v) j =
      if j < n then f j (lane64 v j) else lane64 v j := by
  induction n generalizing j with
  | zero => rfl
  | succ n ih =>
    rw [List.range_succ, List.foldl_append, List.foldl_cons, List.foldl_nil, lane64_storew _ _ _ _ _ (two_mul_mod n) rfl, two_mul_div]
    by_cases h : j = n
    · subst h
      simp only [Nat.le_refl, Nat.reduceDiv, Nat.lt_add_one, and_self, if_true, lane64_set1_64, ih, Nat.lt_irrefl, if_false]
    · have h1 : ¬ (n ≤ j ∧ j < n + 2 / 2) := by omega
      have h2 : (j < n + 1) = (j < n) := by simp only [eq_iff_iff]; omega
      rw [if_neg h1, ih]
      simp only [h2]

/- `↓`: a store sequence is read from the outside, lane by lane, and only the lanes that are asked for are ever computed.
   `of64` and `lane64` are never unfolded. -/
attribute [lane ↓] lane64_of64 lane64_zip64 lane64_map64 lane64_setzero lane64_set1_64 lane64_setr64 lane64_set64
  lane64_fmadd_pd lane64_fmsub_pd lane64_fnmadd_pd lane64_mul_epu32 lane64_mul_epi32 lane64_hadd_pd lane64_low64
  lane64_xor_si lane64_and_si lane64_or_si lane64_andnot_si
  lane64_loadw lane64_loadw_sd lane64_storew lane64_tail lane64_maskload64 lane64_maskstore64 lane64_kload64 lane64_kstore64
  lane64_shuffle_pd lane64_unpacklo_epi64 lane64_unpackhi_epi64 lane64_permute4x64 lane64_extractf128 lane64_insertf128
  lane64_cast128_256 lane64_permutexvar64 lane64_permutex2var64 lane64_movehl_ps lane64_sel2f128 lane64_permute2f128

attribute [lane] of64_lane64 mul_epu32_apply
  setzero_apply xor_si_apply and_si_apply or_si_apply andnot_si_apply loadw_apply loadw_sd_apply storew_apply
  maskload64_apply maskstore64_apply kload64_apply kstore64_apply shuffle_pd_apply unpacklo_epi64_apply unpackhi_epi64_apply
  permute4x64_apply extractf128_apply insertf128_apply cast128_256_apply permutexvar64_apply permutex2var64_apply
  movehl_ps_apply permute2f128_apply sel2f128

attribute [lane] cvt64 cvt32
  add_epi64 sub_epi64 mullo_epi64 abs_epi64 min_epi64 max_epi64
  add_pd sub_pd mul_pd div_pd min_pd max_pd sqrt_pd add_sd sub_sd mul_sd
  add_epi32 sub_epi32 mullo_epi32 abs_epi32 min_epi32 max_epi32
  add_ps sub_ps mul_ps div_ps min_ps max_ps sqrt_ps add_ss sub_ss mul_ss

attribute [lane] map32 zip32 low32 set1_32 setr32 set32
  srai_epi32 srli_epi32 slli_epi32 slli_si128
  shuffle_epi32 shuffle_ps unpacklo_epi32 unpackhi_epi32 movelh_ps movehdup_ps blend_ps
  permutexvar32 permutex2var32 hadd_ps fmadd_ps fmsub_ps fnmadd_ps
  loadw_ss maskload32 maskstore32 kload32 kstore32 loadl_pi

attribute [lane] msb_ones64 msb_zero64 msb_ones32 msb_zero32

/- What the simprocs leave once literal indices are compared: a lane of a list literal (`set*` / `setr*`), and the range
   conditions of the stores and inserts. -/
attribute [lane] List.getD_cons_zero List.getD_cons_succ List.reverse_cons List.reverse_nil List.nil_append List.cons_append
  true_and and_true false_and and_false and_self

/-- `hw` comes first so that `storew_beyond hw` is a rewrite rule for that `w` -/
theorem storew_beyond {w tot : Nat} (hw : tot ≤ w) (m : Reg) (off n : Nat) (r : Reg) (h : off + n ≤ tot) :
    storew m off n r w = m w := by
  have hc : ¬ (off ≤ w ∧ w < off + n) := by omega
  rw [storew_apply, if_neg hc]

/-! Row `c / N` of an `M × N` result in memory is the words `c + j`, `j < N`.  `hj` comes first so that `storew_row hj` is
    a rewrite rule for that `j`. -/
theorem storew_row {j N : Nat} (hj : j < N) (m : Reg) (c n : Nat) (r : Reg) (hn : N ≤ n) : storew m c n r (c + j) = r j := by
  have hc : c ≤ c + j ∧ c + j < c + n := by omega
  rw [storew_apply, if_pos hc, Nat.add_sub_cancel_left]
theorem storew_above {j N : Nat} (hj : j < N) (m : Reg) (c off n : Nat) (r : Reg) (h : c + N ≤ off) :
    storew m off n r (c + j) = m (c + j) := by
  have hc : ¬ (off ≤ c + j ∧ c + j < off + n) := by omega
  rw [storew_apply, if_neg hc]
theorem lane64_storew_row {j N : Nat} (hj : j < N) (m : Reg) (c off n : Nat) (r : Reg) (ho : off = 2 * c) (hn : 2 * N ≤ n) :
    lane64 (storew m off n r) (c + j) = lane64 r j := by
  obtain ⟨h1, h2, e1, e2⟩ : (off ≤ 2 * (c + j) + 1 ∧ 2 * (c + j) + 1 < off + n) ∧
      (off ≤ 2 * (c + j) ∧ 2 * (c + j) < off + n) ∧ 2 * (c + j) + 1 - off = 2 * j + 1 ∧
      2 * (c + j) - off = 2 * j := by omega
  simp only [lane64, storew, h1, h2, e1, e2, and_self, if_true]
theorem lane64_storew_above {j N : Nat} (hj : j < N) (m : Reg) (c off n : Nat) (r : Reg) (h : 2 * (c + N) ≤ off) :
    lane64 (storew m off n r) (c + j) = lane64 m (c + j) := by
  obtain ⟨h1, h2⟩ : ¬ (off ≤ 2 * (c + j) + 1 ∧ 2 * (c + j) + 1 < off + n) ∧
      ¬ (off ≤ 2 * (c + j) ∧ 2 * (c + j) < off + n) := by omega
  simp only [lane64, storew, h1, h2, if_false]

/-- the store through an offset pointer of `lane64_tail`, on 32-bit lanes: applied to the word, the `if` is what is left -/
theorem tail_row (c j : Nat) (t : Reg) (y : BitVec 32) : (if c ≤ c + j then t (c + j - c) else y) = t j := by
  rw [if_pos (Nat.le_add_right c j), Nat.add_sub_cancel_left]
theorem tail_above {j N : Nat} (hj : j < N) (c o : Nat) (x y : BitVec 32) (h : c + N ≤ o) : (if o ≤ c + j then x else y) = y :=
  if_neg (by omega)
theorem lane64_tail_row (c o j : Nat) (t out : Reg) (ho : o = 2 * c) :
    lane64 (fun w => if o ≤ w then t (w - o) else out w) (c + j) = lane64 t j := by
  obtain ⟨hc, e⟩ : o / 2 ≤ c + j ∧ c + j - o / 2 = j := by omega
  rw [lane64_tail _ _ _ _ (by omega), if_pos hc, e]
theorem lane64_tail_above {j N : Nat} (hj : j < N) (c o : Nat) (t out : Reg) (h : 2 * (c + N) ≤ o) :
    lane64 (fun w => if o ≤ w then t (w - o) else out w) (c + j) = lane64 out (c + j) := by
  obtain ⟨h1, h2⟩ : ¬ o ≤ 2 * (c + j) + 1 ∧ ¬ o ≤ 2 * (c + j) := by omega
  simp only [lane64, h1, h2, if_false]

/-- an fmadd chain accumulates like the `List.foldl` of the specifications: the accumulator is the left operand -/
theorem fma32_acc {fo : FOps} (hfma : ∀ x y z, fo.fma32 x y z = fo.add32 (fo.mul32 x y) z)
    (hcomm : ∀ x y, fo.add32 x y = fo.add32 y x) (x y z : BitVec 32) : fo.fma32 x y z = fo.add32 z (fo.mul32 x y) := by
  rw [hfma, hcomm]
theorem fma64_acc {fo : FOps} (hfma : ∀ x y z, fo.fma64 x y z = fo.add64 (fo.mul64 x y) z)
    (hcomm : ∀ x y, fo.add64 x y = fo.add64 y x) (x y z : BitVec 64) : fo.fma64 x y z = fo.add64 z (fo.mul64 x y) := by
  rw [hfma, hcomm]

end Fastor.Simd
