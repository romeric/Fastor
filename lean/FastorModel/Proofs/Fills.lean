import FastorModel.Core.Grid
/-
  `Fills N P segs R C`: the segment list `segs` is well formed, all its final events satisfy the
  completeness predicate `P` (for matmul: `k0 = 0`, `kk = K`, accumulation style ≤ 2) and lie in the
  rectangle `R × C`, and every cell of `R × C` is the target of a final event.  A calculus of such facts over
  appends and loops, from one segment (`cells`) to `for` loops of chunks (`colLoop`, `rowLoop`); `writesExactly`
  turns a filled `M × N` grid into the memory-level statement.
-/
namespace Fastor

structure Fills (N : Nat) (P : St → Prop) (segs : List Seg) (R C : Nat → Prop) : Prop where
  ok : ∀ s ∈ segs, SegOK N s
  inside : ∀ s ∈ segs, ∀ e ∈ s.fin, R e.r ∧ C e.c ∧ P e
  cover : ∀ r c, R r → C c → ∃ s ∈ segs, ∃ e ∈ s.fin, e.r = r ∧ e.c = c

namespace Fills
variable {N : Nat} {P : St → Prop}

theorem empty {R C : Nat → Prop} (h : ∀ r c, R r → C c → False) : Fills N P [] R C :=
  ⟨by simp, by simp, fun r c hr hc => (h r c hr hc).elim⟩

theorem nil : Fills N P [] (fun _ => False) (fun _ => False) :=
  empty fun _ _ h _ => h

theorem single {s : Seg} {R C : Nat → Prop} (hok : SegOK N s) (hin : ∀ e ∈ s.fin, R e.r ∧ C e.c ∧ P e)
    (hcov : ∀ r c, R r → C c → ∃ e ∈ s.fin, e.r = r ∧ e.c = c) : Fills N P [s] R C :=
  ⟨fun _ h => List.mem_singleton.1 h ▸ hok, fun _ h => List.mem_singleton.1 h ▸ hin,
    fun r c hr hc => ⟨s, List.mem_singleton.2 rfl, hcov r c hr hc⟩⟩

theorem cells {s : Seg} {rows cols : List Nat} {mk : Nat → Nat → St} {R C : Nat → Prop}
    (hfin : s.fin = rows.flatMap fun r => cols.map fun c => mk r c)
    (hmk : ∀ r c, (mk r c).r = r ∧ (mk r c).c = c) (hP : ∀ r ∈ rows, ∀ c ∈ cols, P (mk r c))
    (hpre : ∀ e ∈ s.pre, ∃ r ∈ rows, ∃ c ∈ cols, e.pos N = r * N + c)
    (hR : ∀ r, r ∈ rows ↔ R r) (hC : ∀ c, c ∈ cols ↔ C c) : Fills N P [s] R C := by
  have hmem : ∀ r ∈ rows, ∀ c ∈ cols, mk r c ∈ s.fin := fun r hr c hc =>
    hfin ▸ List.mem_flatMap.2 ⟨r, hr, List.mem_map.2 ⟨c, hc, rfl⟩⟩
  refine single ⟨fun e he => ?_⟩ (fun e he => ?_)
    (fun r c hr hc => ⟨_, hmem r ((hR r).2 hr) c ((hC c).2 hc), hmk r c⟩)
  · obtain ⟨r, hr, c, hc, h⟩ := hpre e he
    exact ⟨_, hmem r hr c hc, by rw [h, St.pos, (hmk r c).1, (hmk r c).2]⟩
  · rw [hfin] at he
    obtain ⟨r, hr, he⟩ := List.mem_flatMap.1 he
    obtain ⟨c, hc, rfl⟩ := List.mem_map.1 he
    rw [(hmk r c).1, (hmk r c).2]
    exact ⟨(hR r).1 hr, (hC c).1 hc, hP r hr c hc⟩

theorem congr {segs R C R' C'} (h : Fills N P segs R C) (hr : ∀ x, R x ↔ R' x) (hc : ∀ x, C x ↔ C' x) :
    Fills N P segs R' C' :=
  ⟨h.ok, fun s hs e he => let ⟨a, b, c⟩ := h.inside s hs e he; ⟨(hr _).1 a, (hc _).1 b, c⟩,
    fun r c h1 h2 => h.cover r c ((hr _).2 h1) ((hc _).2 h2)⟩

/-- another completeness predicate, which may depend on where in the rectangle the event lies -/
theorem imp {Q : St → Prop} {segs R C} (h : Fills N P segs R C) (hpq : ∀ e, R e.r → C e.c → P e → Q e) :
    Fills N Q segs R C :=
  ⟨h.ok, fun s hs e he => let ⟨a, b, c⟩ := h.inside s hs e he; ⟨a, b, hpq e a b c⟩, h.cover⟩

theorem mono {Q : St → Prop} {segs R C} (h : Fills N P segs R C) (hpq : ∀ e, P e → Q e) :
    Fills N Q segs R C :=
  h.imp fun e _ _ => hpq e

theorem append_cols {A B R C1 C2} (ha : Fills N P A R C1) (hb : Fills N P B R C2) :
    Fills N P (A ++ B) R (fun c => C1 c ∨ C2 c) where
  ok s hs := (List.mem_append.1 hs).elim (ha.ok s) (hb.ok s)
  inside s hs e he := (List.mem_append.1 hs).elim
    (fun h => let ⟨a, b, c⟩ := ha.inside s h e he; ⟨a, .inl b, c⟩)
    (fun h => let ⟨a, b, c⟩ := hb.inside s h e he; ⟨a, .inr b, c⟩)
  cover r c hr hc := hc.elim
    (fun hc => let ⟨s, hs, h⟩ := ha.cover r c hr hc; ⟨s, List.mem_append_left _ hs, h⟩)
    (fun hc => let ⟨s, hs, h⟩ := hb.cover r c hr hc; ⟨s, List.mem_append_right _ hs, h⟩)

theorem append_rows {A B R1 R2 C} (ha : Fills N P A R1 C) (hb : Fills N P B R2 C) :
    Fills N P (A ++ B) (fun r => R1 r ∨ R2 r) C where
  ok s hs := (List.mem_append.1 hs).elim (ha.ok s) (hb.ok s)
  inside s hs e he := (List.mem_append.1 hs).elim
    (fun h => let ⟨a, b, c⟩ := ha.inside s h e he; ⟨.inl a, b, c⟩)
    (fun h => let ⟨a, b, c⟩ := hb.inside s h e he; ⟨.inr a, b, c⟩)
  cover r c hr hc := hr.elim
    (fun hr => let ⟨s, hs, h⟩ := ha.cover r c hr hc; ⟨s, List.mem_append_left _ hs, h⟩)
    (fun hr => let ⟨s, hs, h⟩ := hb.cover r c hr hc; ⟨s, List.mem_append_right _ hs, h⟩)

theorem flatMap_cols {ι : Type} (L : List ι) (f : ι → List Seg) (R : Nat → Prop) (C : ι → Nat → Prop)
    (h : ∀ i ∈ L, Fills N P (f i) R (C i)) :
    Fills N P (L.flatMap f) R (fun c => ∃ i ∈ L, C i c) where
  ok s hs := let ⟨i, hi, hs⟩ := List.mem_flatMap.1 hs; (h i hi).ok s hs
  inside s hs e he :=
    let ⟨i, hi, hs⟩ := List.mem_flatMap.1 hs
    let ⟨a, b, c⟩ := (h i hi).inside s hs e he
    ⟨a, ⟨i, hi, b⟩, c⟩
  cover r c hr := fun ⟨i, hi, hc⟩ =>
    let ⟨s, hs, hh⟩ := (h i hi).cover r c hr hc
    ⟨s, List.mem_flatMap.2 ⟨i, hi, hs⟩, hh⟩

theorem flatMap_rows {ι : Type} (L : List ι) (f : ι → List Seg) (R : ι → Nat → Prop) (C : Nat → Prop)
    (h : ∀ i ∈ L, Fills N P (f i) (R i) C) :
    Fills N P (L.flatMap f) (fun r => ∃ i ∈ L, R i r) C where
  ok s hs := let ⟨i, hi, hs⟩ := List.mem_flatMap.1 hs; (h i hi).ok s hs
  inside s hs e he :=
    let ⟨i, hi, hs⟩ := List.mem_flatMap.1 hs
    let ⟨a, b, c⟩ := (h i hi).inside s hs e he
    ⟨⟨i, hi, a⟩, b, c⟩
  cover r c := fun ⟨i, hi, hr⟩ hc =>
    let ⟨s, hs, hh⟩ := (h i hi).cover r c hr hc
    ⟨s, List.mem_flatMap.2 ⟨i, hi, hs⟩, hh⟩

theorem map_cols {ι : Type} (L : List ι) (f : ι → Seg) (R : Nat → Prop) (C : ι → Nat → Prop)
    (h : ∀ i ∈ L, Fills N P [f i] R (C i)) :
    Fills N P (L.map f) R (fun c => ∃ i ∈ L, C i c) :=
  List.map_eq_flatMap ▸ flatMap_cols L (fun i => [f i]) R C h

theorem map_rows {ι : Type} (L : List ι) (f : ι → Seg) (R : ι → Nat → Prop) (C : Nat → Prop)
    (h : ∀ i ∈ L, Fills N P [f i] (R i) C) :
    Fills N P (L.map f) (fun r => ∃ i ∈ L, R i r) C :=
  List.map_eq_flatMap ▸ flatMap_rows L (fun i => [f i]) R C h

theorem colLoop {lo hi s : Nat} (hd : s ∣ (hi - lo)) {f : Nat → List Seg} {R : Nat → Prop}
    (h : ∀ j, Fills N P (f j) R (fun c => j ≤ c ∧ c < j + s)) :
    Fills N P ((forRange lo hi s).flatMap f) R (fun c => lo ≤ c ∧ c < hi) :=
  (flatMap_cols _ f R _ fun j _ => h j).congr (fun _ => Iff.rfl) (forRange_cover hd)

theorem colLoopMap {lo hi s : Nat} (hd : s ∣ (hi - lo)) {f : Nat → Seg} {R : Nat → Prop}
    (h : ∀ j, Fills N P [f j] R (fun c => j ≤ c ∧ c < j + s)) :
    Fills N P ((forRange lo hi s).map f) R (fun c => lo ≤ c ∧ c < hi) :=
  (map_cols _ f R _ fun j _ => h j).congr (fun _ => Iff.rfl) (forRange_cover hd)

theorem rowLoop {lo hi s : Nat} (hd : s ∣ (hi - lo)) {f : Nat → List Seg} {C : Nat → Prop}
    (h : ∀ i, Fills N P (f i) (fun r => i ≤ r ∧ r < i + s) C) :
    Fills N P ((forRange lo hi s).flatMap f) (fun r => lo ≤ r ∧ r < hi) C :=
  (flatMap_rows _ f _ C fun i _ => h i).congr (forRange_cover hd) (fun _ => Iff.rfl)

theorem rowLoopMap {lo hi s : Nat} (hd : s ∣ (hi - lo)) {f : Nat → Seg} {C : Nat → Prop}
    (h : ∀ i, Fills N P [f i] (fun r => i ≤ r ∧ r < i + s) C) :
    Fills N P ((forRange lo hi s).map f) (fun r => lo ≤ r ∧ r < hi) C :=
  (map_rows _ f _ C fun i _ => h i).congr (forRange_cover hd) (fun _ => Iff.rfl)

theorem rowChunks {i u nR : Nat} (hu : 0 < u) {g : Nat → Seg} {C : Nat → Prop}
    (h : ∀ i', Fills N P [g i'] (fun r => i' ≤ r ∧ r < i' + u) C) :
    Fills N P ((List.range nR).map fun ii => g (i + ii * u)) (fun r => i ≤ r ∧ r < i + nR * u) C := by
  have := rowLoopMap (lo := i) (hi := i + nR * u)
    (by rw [Nat.add_sub_cancel_left]; exact Nat.dvd_mul_left u nR) h
  rw [forRange_count hu, List.map_map] at this
  exact this

theorem rangeRows {M : Nat} {f : Nat → List Seg} {C : Nat → Prop} (h : ∀ i, Fills N P (f i) (· = i) C) :
    Fills N P ((List.range M).flatMap f) (· < M) C :=
  (flatMap_rows _ f _ C fun i _ => h i).congr (fun r => by simp [List.mem_range]) (fun _ => Iff.rfl)

theorem rangeRowsMap {M : Nat} {f : Nat → Seg} {C : Nat → Prop} (h : ∀ i, Fills N P [f i] (· = i) C) :
    Fills N P ((List.range M).map f) (· < M) C :=
  List.map_eq_flatMap ▸ rangeRows h

theorem rangeColsMap {n : Nat} {f : Nat → Seg} {R : Nat → Prop} (h : ∀ j, Fills N P [f j] R (· = j)) :
    Fills N P ((List.range n).map f) R (· < n) :=
  (map_cols _ f R _ fun j _ => h j).congr (fun _ => Iff.rfl) (fun c => by simp [List.mem_range])

theorem writesExactly {α : Type} {M : Nat} {segs : List Seg} (h : Fills N P segs (· < M) (· < N))
    {val : St → α} {spec : Nat → Nat → α} (hval : ∀ e, e.c < N → P e → val e = spec e.r e.c) :
    WritesExactly (kernelWrites N val segs) (fun p => p < M * N) (fun p => spec (p / N) (p % N)) :=
  segs_writesExactly M N val spec segs
    (fun s hs e he => let ⟨_, hc, hP⟩ := h.inside s hs e he; hval e hc hP) h.ok
    (fun s hs e he => let ⟨hr, hc, _⟩ := h.inside s hs e he; ⟨hr, hc⟩)
    (fun r hr c hc => h.cover r c hr hc)

end Fills

end Fastor
