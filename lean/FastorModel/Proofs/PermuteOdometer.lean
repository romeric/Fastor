import FastorModel.Proofs.Permute
/-
  The odometer loop (`CONTRACT_OPT == -1`) visits the box in the same lexicographic order as the recursive
  Cartesian nest: its states are the mixed-radix digits of 0, 1, …, prod-1 and the carry loop is `+1`.
-/
namespace Fastor.Permute

/-- mixed-radix digits of `n` (most significant first) -/
def digits : List Nat → Nat → List Nat
  | [], _ => []
  | _ :: ds, n => (n / prod ds) :: digits ds (n % prod ds)

/-- the carry loop run to the end resets the positions it passes -/
def resetBelow : Nat → List Nat → List Nat
  | 0, xs => xs
  | jt + 1, xs => resetBelow jt (xs.set jt 0)

theorem resetBelow_eq : ∀ (jt : Nat) (xs : List Nat), jt ≤ xs.length →
    resetBelow jt xs = List.replicate jt 0 ++ xs.drop jt
  | 0, xs, _ => by simp [resetBelow]
  | jt + 1, xs, h => by
    rw [resetBelow, resetBelow_eq jt _ (by simp; omega), drop_set_self xs jt 0 (by omega), List.replicate_succ']
    simp

theorem digits_length : ∀ (ds : List Nat) (n : Nat), (digits ds n).length = ds.length
  | [], _ => rfl
  | _ :: ds, n => by simp [digits, digits_length ds]

theorem digits_zero : ∀ (ds : List Nat), digits ds 0 = List.replicate ds.length 0
  | [] => rfl
  | _ :: ds => by simp [digits, digits_zero ds, List.replicate_succ]

/-- the carry loop over `d :: ds` is the carry loop over `ds` on the tail, and an increment of the head when
    the tail overflows -/
theorem carry_cons (d : Nat) (ds : List Nat) (x : Nat) : ∀ (jt : Nat) (xs : List Nat),
    odoCarry (d :: ds) (jt + 1) (x :: xs) =
      match odoCarry ds jt xs with
      | some xs' => some (x :: xs')
      | none => if x + 1 < d then some ((x + 1) :: resetBelow jt xs) else none
  | 0, xs => by simp [odoCarry, resetBelow]
  | jt + 1, xs => by
    have ih := carry_cons d ds x jt (xs.set jt 0)
    have e1 : odoCarry (d :: ds) (jt + 1 + 1) (x :: xs) =
        if xs.getD jt 0 + 1 < ds.getD jt 0 then some (x :: xs.set jt (xs.getD jt 0 + 1))
        else odoCarry (d :: ds) (jt + 1) (x :: xs.set jt 0) := by
      simp [odoCarry]
    have e2 : odoCarry ds (jt + 1) xs =
        if xs.getD jt 0 + 1 < ds.getD jt 0 then some (xs.set jt (xs.getD jt 0 + 1))
        else odoCarry ds jt (xs.set jt 0) := by
      simp [odoCarry]
    rw [e1, e2]
    by_cases h : xs.getD jt 0 + 1 < ds.getD jt 0
    · rw [if_pos h, if_pos h]
    · rw [if_neg h, if_neg h, ih]; rfl

theorem prod_pos : ∀ (ds : List Nat), (∀ d ∈ ds, 0 < d) → 0 < prod ds
  | [], _ => by simp [prod]
  | d :: ds, h => by
    rw [prod_cons]
    exact Nat.mul_pos (h d (by simp)) (prod_pos ds (fun x hx => h x (List.mem_cons_of_mem _ hx)))

/-- **the carry loop is `+1` on the digits** -/
theorem carry_digits : ∀ (ds : List Nat), (∀ d ∈ ds, 0 < d) → ∀ n, n < prod ds →
    odoCarry ds ds.length (digits ds n) = if n + 1 < prod ds then some (digits ds (n + 1)) else none
  | [], _, n, hn => by
    simp [prod] at hn; subst hn; simp [odoCarry, prod]
  | d :: ds, hpos, n, hn => by
    have hP : 0 < prod ds := prod_pos ds (fun x hx => hpos x (List.mem_cons_of_mem _ hx))
    rw [prod_cons] at hn ⊢
    have hx : n / prod ds < d := (Nat.div_lt_iff_lt_mul hP).2 hn
    have hm : n % prod ds < prod ds := Nat.mod_lt _ hP
    have hdm := Nat.div_add_mod' n (prod ds)
    have ih := carry_digits ds (fun x hx => hpos x (List.mem_cons_of_mem _ hx)) (n % prod ds) hm
    have hlen : (digits ds (n % prod ds)).length = ds.length := digits_length _ _
    show odoCarry (d :: ds) (ds.length + 1) ((n / prod ds) :: digits ds (n % prod ds)) = _
    rw [carry_cons, ih]
    generalize hX : n / prod ds = X at *
    generalize hMm : n % prod ds = Mm at *
    by_cases h1 : Mm + 1 < prod ds
    · -- no overflow of the tail
      have hn1 : n + 1 = X * prod ds + (Mm + 1) := by omega
      have h2 : n + 1 < d * prod ds := by rw [hn1]; exact pos_lt hx h1
      simp only [h1, if_true, h2]
      show some (X :: digits ds (Mm + 1)) = some (((n + 1) / prod ds) :: digits ds ((n + 1) % prod ds))
      rw [hn1, pos_div h1, pos_mod h1]
    · -- the tail overflows: the head is incremented and the tail reset
      have hMP : Mm + 1 = prod ds := by omega
      have hn1 : n + 1 = (X + 1) * prod ds := by rw [Nat.add_mul]; omega
      have e1 : (n + 1) / prod ds = X + 1 := by rw [hn1]; exact Nat.mul_div_cancel _ hP
      have e2 : (n + 1) % prod ds = 0 := by rw [hn1]; exact Nat.mul_mod_left _ _
      have hreset : resetBelow ds.length (digits ds Mm) = digits ds 0 := by
        rw [resetBelow_eq _ _ (by omega), digits_zero, ← hlen]; simp
      simp only [h1, if_false]
      by_cases h3 : X + 1 < d
      · have h2 : n + 1 < d * prod ds := by
          rw [hn1]; exact Nat.mul_lt_mul_of_pos_right h3 hP
        simp only [h3, if_true, h2, hreset]
        show some ((X + 1) :: digits ds 0) = some (((n + 1) / prod ds) :: digits ds ((n + 1) % prod ds))
        rw [e1, e2]
      · have h2 : ¬ n + 1 < d * prod ds := by
          have : d * prod ds ≤ (X + 1) * prod ds := Nat.mul_le_mul_right _ (by omega)
          omega
        simp only [h3, if_false, h2]

theorem odometer_run (ds : List Nat) (hpos : ∀ d ∈ ds, 0 < d) : ∀ (fuel n : Nat), n + fuel ≤ prod ds →
    odometer ds fuel (digits ds n) = (List.range' n fuel).map (digits ds)
  | 0, _, _ => by simp [odometer]
  | fuel + 1, n, h => by
    have hn : n < prod ds := by omega
    rw [odometer, carry_digits ds hpos n hn, List.range'_succ, List.map_cons]
    by_cases h1 : n + 1 < prod ds
    · simp only [h1, if_true]
      rw [odometer_run ds hpos fuel (n + 1) (by omega)]
    · have : fuel = 0 := by omega
      subst this
      simp [h1]

/-- the lexicographic enumeration is the digits of `0 … prod-1` -/
theorem lexBox_eq_digits : ∀ (ds : List Nat), (∀ d ∈ ds, 0 < d) →
    lexBox ds = (List.range (prod ds)).map (digits ds)
  | [], _ => by simp [lexBox, prod, digits]
  | d :: ds, hpos => by
    rw [lexBox, lexBox_eq_digits ds (fun x hx => hpos x (List.mem_cons_of_mem _ hx)), prod_cons, range_mul,
      List.map_flatMap]
    congr 1
    funext i
    rw [List.map_map, List.map_map]
    apply List.map_congr_left
    intro m hm
    rw [List.mem_range] at hm
    simp [digits, pos_div hm, pos_mod hm]

/-- **the odometer visits exactly the states of the recursive Cartesian nest, in the same order** -/
theorem odometer_eq_cartesian (dims : List Nat) (hpos : ∀ d ∈ dims, 0 < d) :
    loopStates .odometer dims = loopStates .recursive dims := by
  simp only [loopStates, cartesian_zeros]
  rw [← digits_zero, odometer_run dims hpos (prod dims) 0 (by omega), lexBox_eq_digits dims hpos,
    List.range_eq_range']

theorem loopStates_mem (v : Variant) (dims as : List Nat) (hpos : ∀ d ∈ dims, 0 < d) :
    as ∈ loopStates v dims ↔ InBox dims as := by
  cases v with
  | recursive => exact loopStates_recursive_mem dims as
  | odometer => rw [odometer_eq_cartesian dims hpos]; exact loopStates_recursive_mem dims as

end Fastor.Permute
