import FastorModel.Proofs.LUBlock
import FastorModel.Proofs.LUPivot
/-
  `reconstruct(L,U,P)` undoes `apply_pivot`; the matrix encoding of the permutation is read back correctly by `std::find`.
-/
namespace Fastor.LU
open Finset

variable {K : Type} [Field K]

theorem setRow_get (n : Nat) (A src : Mat K) (p i r j : Nat) (hr : r < n) (hj : j < n) :
    (setRow n A p src i).get r j = if r = p then src.get i j else A.get r j := by
  rw [setRow, Mat.get_ofFn, if_pos ⟨hr, hj⟩]

/-- the row scatter of `reconstruct`: with an injective `p`, row `p(i)` of the result is row `i` of `L*U` -/
theorem reconstructV_get (n : Nat) (L U : Mat K) (perm : Array Nat)
    (hlt : ∀ i, i < n → perm.getD i 0 < n)
    (hinj : ∀ i j, i < n → j < n → perm.getD i 0 = perm.getD j 0 → i = j)
    (i j : Nat) (hi : i < n) (hj : j < n) :
    (reconstructV n L U perm).get (perm.getD i 0) j = (Mat.mul n n n L U).get i j := by
  exact scatter_get n (fun i => perm.getD i 0) (fun r => (Mat.mul n n n L U).get r j) (fun (M : Mat K) r => M.get r j)
    (fun M i => setRow n M (perm.getD i 0) (Mat.mul n n n L U) i) _ hlt hinj (fun _ _ => rfl)
    (fun M i r _ hr => setRow_get n M _ _ i r j hr hj) i hi

/-- `reconstruct(L, U, p) = A` whenever `L*U = P*A` and `p` is a bijection -/
theorem reconstructV_correct (n : Nat) (A L U : Mat K) (perm : Array Nat)
    (hlt : ∀ i, i < n → perm.getD i 0 < n)
    (hinj : ∀ i j, i < n → j < n → perm.getD i 0 = perm.getD j 0 → i = j)
    (hsurj : ∀ v, v < n → ∃ i, i < n ∧ perm.getD i 0 = v)
    (h : IsLU n (applyPivotV n A perm) L U) (r j : Nat) (hr : r < n) (hj : j < n) :
    (reconstructV n L U perm).get r j = A.get r j := by
  obtain ⟨i, hi, e⟩ := hsurj r hr
  rw [← e, reconstructV_get n L U perm hlt hinj i j hi hj, get_mul _ _ _ _ _ _ _ hi hj, h.mul i j hi hj,
    applyPivotV_get n A perm i j hi hj]

/-- `apply_pivot(A, P)` with the matrix built by `pivot_inplace` reads the same rows as the vector form: `std::find` meets
the one of row `i` at column `perm(i)` and nowhere before -/
theorem findOne_pivotMat (isOne : K → Bool) (h1 : isOne 1 = true) (h0 : isOne 0 = false) (n : Nat) (perm : Array Nat)
    (hlt : ∀ i, i < n → perm.getD i 0 < n) (i : Nat) (hi : i < n) :
    findOne isOne n (pivotMat n perm : Mat K) i = perm.getD i 0 := by
  have hrow : ∀ j, isOne ((pivotMat n perm : Mat K).get i j) = true ↔ perm.getD i 0 = j := fun j => by
    rw [pivotMat_get n perm hlt i j hi]
    by_cases e : perm.getD i 0 = j
    · rw [if_pos e, h1]; exact iff_of_true rfl e
    · rw [if_neg e, h0]; exact iff_of_false Bool.false_ne_true e
  have hfind : (List.range n).find? (fun j => isOne ((pivotMat n perm : Mat K).get i j)) = some (perm.getD i 0) :=
    List.find?_range_eq_some.2 ⟨(hrow _).2 rfl, List.mem_range.2 (hlt i hi), fun j hj => by
      rw [Bool.not_eq_true', Bool.eq_false_iff]
      exact fun h => Nat.ne_of_gt hj ((hrow j).1 h)⟩
  rw [findOne, hfind]
  rfl

theorem Mat.ofFn_congr {α : Type} (r c : Nat) (f g : Nat → Nat → α) (h : ∀ i j, i < r → j < c → f i j = g i j) :
    Mat.ofFn r c f = Mat.ofFn r c g := by
  unfold Mat.ofFn
  congr 1
  funext i
  congr 1
  funext j
  exact h i.1 j.1 i.2 j.2

theorem applyPivotM_eq (isOne : K → Bool) (h1 : isOne 1 = true) (h0 : isOne 0 = false) (n : Nat) (A : Mat K) (perm : Array Nat)
    (hlt : ∀ i, i < n → perm.getD i 0 < n) :
    applyPivotM isOne n A (pivotMat n perm : Mat K) = applyPivotV n A perm := by
  unfold applyPivotM applyPivotV
  apply Mat.ofFn_congr
  intro i j hi _
  rw [findOne_pivotMat isOne h1 h0 n perm hlt i hi]

end Fastor.LU
