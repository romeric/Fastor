import FastorModel.Proofs.Fills
import FastorModel.Model.Matmul
/-
  Index-level correctness of the generic matmul kernels: each kernel model `Fills` the `M × N` grid.
-/
namespace Fastor.Matmul
open Fastor

theorem mem_rowsFrom {i n r : Nat} : r ∈ rowsFrom i n ↔ i ≤ r ∧ r < i + n := by
  unfold rowsFrom
  simp only [List.mem_map, List.mem_range]
  constructor
  · rintro ⟨t, ht, rfl⟩; omega
  · rintro ⟨h1, h2⟩; exact ⟨r - i, by omega, by omega⟩

theorem mem_colsAsc {j w c : Nat} : c ∈ colsAsc j w ↔ j ≤ c ∧ c < j + w := mem_rowsFrom

theorem mem_colsDesc {j w c : Nat} : c ∈ colsDesc j w ↔ j ≤ c ∧ c < j + w := by
  unfold colsDesc
  simp only [List.mem_map, List.mem_range]
  constructor
  · rintro ⟨t, ht, rfl⟩; omega
  · rintro ⟨h1, h2⟩; exact ⟨j + w - 1 - c, by omega, by omega⟩

theorem mem_maskCols {masks : Bool} {j w c : Nat} : c ∈ maskCols masks j w ↔ j ≤ c ∧ c < j + w := by
  unfold maskCols; split
  · exact mem_colsAsc
  · exact mem_colsDesc

theorem mem_single {j c : Nat} : c ∈ [j] ↔ j ≤ c ∧ c < j + 1 := by
  rw [List.mem_singleton]; omega

theorem mem_cellEvents {rows cols : List Nat} {kk st : Nat} {e : St} :
    e ∈ cellEvents rows cols kk st ↔ e.r ∈ rows ∧ e.c ∈ cols ∧ e.kk = kk ∧ e.style = st ∧ e.k0 = 0 := by
  unfold cellEvents
  simp only [List.mem_flatMap, List.mem_map]
  constructor
  · rintro ⟨r, hr, c, hc, rfl⟩; exact ⟨hr, hc, rfl, rfl, rfl⟩
  · rintro ⟨hr, hc, hk, hs, h0⟩
    refine ⟨e.r, hr, e.c, hc, ?_⟩
    cases e
    cases hk
    cases hs
    cases h0
    rfl

/-- a complete matmul store event: all `K` terms from the first, in one of the three orders -/
def Complete (K : Nat) (e : St) : Prop := e.k0 = 0 ∧ e.kk = K ∧ e.style ≤ 2

def Tiles (N : Nat) (P : St → Prop) (t : Nat → Nat → List Seg) (h w : Nat) : Prop :=
  ∀ i j, Fills N P (t i j) (fun r => i ≤ r ∧ r < i + h) (fun c => j ≤ c ∧ c < j + w)

variable {N K : Nat}

theorem fills_cells {s : Seg} {rows cols : List Nat} {st : Nat} {R C : Nat → Prop} (hst : st ≤ 2)
    (hfin : s.fin = cellEvents rows cols K st)
    (hpre : ∀ e ∈ s.pre, ∃ r ∈ rows, ∃ c ∈ cols, e.pos N = r * N + c)
    (hR : ∀ r, r ∈ rows ↔ R r) (hC : ∀ c, c ∈ cols ↔ C c) : Fills N (Complete K) [s] R C :=
  Fills.cells hfin (fun _ _ => ⟨rfl, rfl⟩) (fun _ _ _ _ => ⟨rfl, rfl, hst⟩) hpre hR hC

theorem fills_block {rows cols : List Nat} {R C : Nat → Prop} (st : Nat) (hst : st ≤ 2)
    (hR : ∀ r, r ∈ rows ↔ R r) (hC : ∀ c, c ∈ cols ↔ C c) : Fills N (Complete K) [block K rows cols st] R C :=
  fills_cells hst rfl (fun _ h => (List.not_mem_nil h).elim) hR hC

theorem fills_blockPartial {rows cols : List Nat} {R C : Nat → Prop} (st : Nat) (hst : st ≤ 2)
    (hR : ∀ r, r ∈ rows ↔ R r) (hC : ∀ c, c ∈ cols ↔ C c) :
    Fills N (Complete K) [blockPartial K rows cols st] R C :=
  fills_cells hst rfl (fun e he =>
    let ⟨_, _, he⟩ := List.mem_flatMap.1 he
    let ⟨a, b, _⟩ := mem_cellEvents.1 he
    ⟨e.r, a, e.c, b, rfl⟩) hR hC

/-- `cs j` lists the columns of the chunk at `j`: `colsAsc j w`, `maskCols masks j w`, or `[j]` -/
theorem tiles_block {cs : Nat → List Nat} {w : Nat} (hcs : ∀ j c, c ∈ cs j ↔ j ≤ c ∧ c < j + w) (n st : Nat)
    (hst : st ≤ 2) : Tiles N (Complete K) (fun i j => [block K (rowsFrom i n) (cs j) st]) n w :=
  fun _ j => fills_block st hst (fun _ => mem_rowsFrom) (hcs j)

theorem tiles_blockPartial {cs : Nat → List Nat} {w : Nat} (hcs : ∀ j c, c ∈ cs j ↔ j ≤ c ∧ c < j + w)
    (n st : Nat) (hst : st ≤ 2) :
    Tiles N (Complete K) (fun i j => [blockPartial K (rowsFrom i n) (cs j) st]) n w :=
  fun _ j => fills_blockPartial st hst (fun _ => mem_rowsFrom) (hcs j)

/-- `h`, `w`: the extents as the caller writes them (`1 * V` is `V` for the callers with `nC = 1`) -/
theorem tiles_interior (V u nR nC : Nat) (hu : 0 < u) {h w : Nat} (hh : h = nR * u) (hw : w = nC * V) :
    Tiles N (Complete K) (fun i j => interior K V i j u nR nC) h w :=
  hh ▸ hw ▸ fun _ _ =>
    Fills.rowChunks hu fun _ => fills_block 0 (by omega) (fun _ => mem_rowsFrom) (fun _ => mem_colsAsc)

theorem tiles_interiorScalar (u nR : Nat) (hu : 0 < u) :
    Tiles N (Complete K) (fun i j => interiorScalar K i j u nR) (nR * u) 1 :=
  fun _ _ => Fills.rowChunks hu fun _ => fills_block 1 (by omega) (fun _ => mem_rowsFrom) (fun _ => mem_single)

theorem tiles_interiorMask (masks : Bool) (u nR w : Nat) (hu : 0 < u) :
    Tiles N (Complete K) (fun i j => interiorMask masks K i j u nR w) (nR * u) w :=
  fun _ _ => Fills.rowChunks hu fun _ => fills_block 0 (by omega) (fun _ => mem_rowsFrom) (fun _ => mem_maskCols)

theorem div_mul_chain {a b n : Nat} (ha : 0 < a) (hab : a ∣ b) :
    n / b * b ≤ n / a * a ∧ a ∣ (n / a * a - n / b * b) := by
  obtain ⟨q, rfl⟩ := hab
  have h1 : n / (a * q) * (a * q) = (n / (a * q) * q) * a := by
    rw [Nat.mul_comm a q, Nat.mul_assoc]
  rw [h1]
  constructor
  · apply Nat.mul_le_mul_right
    rw [Nat.le_div_iff_mul_le ha, ← h1]
    exact Nat.div_mul_le_self n (a * q)
  · exact Nat.dvd_sub (Nat.dvd_mul_left a _) (Nat.dvd_mul_left a _)

/-- **The loop nest of `_matmul_base`, `_matmul_base_masked` and their triangular versions.**  Row bands `[0,M0)` in
    steps of `nR*u`, `[M0,M1)` in steps of `u`, and the remainder `[M1,M)`; in each, column bands `[0,N0)` in steps of
    `nC*V`, `[N0,N1)` in steps of `V`, and `[N1,N)` in steps of `s` (1, or `N - N1` in the masked kernels).  The remainder
    band is run only when `M1 < M`; `hc0` may use that, because its tiles are `interior` tiles of height `M - M1` in one
    chunk, and `tiles_interior` needs a positive chunk. -/
theorem fills_grid {P : St → Prop} {M V u nR nC s : Nat} (hV : 0 < V) (hu : 0 < u) (hnR : 0 < nR) (hnC : 0 < nC)
    (hs : s ∣ N - N / V * V) {a0 a1 a2 b0 c0 : Nat → Nat → List Seg} {b1 b2 c1 c2 : Nat → Nat → Seg}
    (ha0 : Tiles N P a0 (nR * u) (nC * V)) (ha1 : Tiles N P a1 (nR * u) V) (ha2 : Tiles N P a2 (nR * u) s)
    (hb0 : Tiles N P b0 u (nC * V)) (hb1 : Tiles N P (fun i j => [b1 i j]) u V)
    (hb2 : Tiles N P (fun i j => [b2 i j]) u s)
    (hc0 : 0 < M - M / u * u → Tiles N P c0 (M - M / u * u) (nC * V))
    (hc1 : Tiles N P (fun i j => [c1 i j]) (M - M / u * u) V)
    (hc2 : Tiles N P (fun i j => [c2 i j]) (M - M / u * u) s) :
    Fills N P
      (let B := nR * u
       let M0 := M / B * B
       let IB := nC * V
       let N0 := N / IB * IB
       let N1 := N / V * V
       let M1 := M / u * u
       let j0 := forExit 0 N0 IB
       let j1 := forExit j0 N1 V
       let part1 := (forRange 0 M0 B).flatMap fun i =>
         (forRange 0 N0 IB).flatMap (fun j => a0 i j) ++ (forRange j0 N1 V).flatMap (fun j => a1 i j) ++
         (forRange j1 N s).flatMap (fun j => a2 i j)
       let i0 := forExit 0 M0 B
       let part2 := (forRange i0 M1 u).flatMap fun i =>
         (forRange 0 N0 IB).flatMap (fun j => b0 i j) ++ (forRange j0 N1 V).map (fun j => b1 i j) ++
         (forRange j1 N s).map (fun j => b2 i j)
       let i1 := forExit i0 M1 u
       let part3 := if M - M1 > 0 then
           (forRange 0 N0 IB).flatMap (fun j => c0 i1 j) ++ (forRange j0 N1 V).map (fun j => c1 M1 j) ++
           (forRange j1 N s).map (fun j => c2 M1 j)
         else []
       part1 ++ part2 ++ part3) (· < M) (· < N) := by
  have hB : 0 < nR * u := Nat.mul_pos hnR hu
  have hIB : 0 < nC * V := Nat.mul_pos hnC hV
  have hM1 : M / u * u ≤ M := Nat.div_mul_le_self _ _
  have hN1 : N / V * V ≤ N := Nat.div_mul_le_self _ _
  obtain ⟨hM01, hMd⟩ := div_mul_chain (n := M) hu (Nat.dvd_mul_left u nR)
  obtain ⟨hN01, hNd⟩ := div_mul_chain (n := N) hV (Nat.dvd_mul_left V nC)
  simp only [forExit_div_mul hIB, forExit_div_mul hB, forExit_of_dvd hV hN01 hNd, forExit_of_dvd hu hM01 hMd]
  have cols : ∀ {A B C : List Seg} {R : Nat → Prop},
      Fills N P A R (fun c => 0 ≤ c ∧ c < N / (nC * V) * (nC * V)) →
      Fills N P B R (fun c => N / (nC * V) * (nC * V) ≤ c ∧ c < N / V * V) →
      Fills N P C R (fun c => N / V * V ≤ c ∧ c < N) → Fills N P (A ++ B ++ C) R (· < N) :=
    fun ha hb hc => ((ha.append_cols hb).append_cols hc).congr (fun _ => Iff.rfl) (fun c => by omega)
  have band1 := Fills.rowLoop (div_mul_dvd M (nR * u)) fun i =>
    cols (Fills.colLoop (div_mul_dvd N (nC * V)) (ha0 i)) (Fills.colLoop hNd (ha1 i))
      (Fills.colLoop hs (ha2 i))
  have band2 := Fills.rowLoop hMd fun i =>
    cols (Fills.colLoop (div_mul_dvd N (nC * V)) (hb0 i)) (Fills.colLoopMap hNd (hb1 i))
      (Fills.colLoopMap hs (hb2 i))
  refine ((band1.append_rows band2).append_rows (R2 := fun r => M / u * u ≤ r ∧ r < M) ?_).congr
    (fun r => by omega) (fun _ => Iff.rfl)
  split
  · rename_i hpos
    exact (cols (Fills.colLoop (div_mul_dvd N (nC * V)) (hc0 hpos _))
      (Fills.colLoopMap hNd (hc1 _)) (Fills.colLoopMap hs (hc2 _))).congr
      (fun r => by omega) (fun _ => Iff.rfl)
  · exact Fills.empty fun r _ hr _ => by omega

-- `(fills_grid … :)` is elaborated without the expected type, so the nine tile functions are read off the tile facts;
-- finding them by higher-order unification against the unfolded kernel is far slower to check.
theorem fills_base (M V : Nat) (bl : Blocking) (hV : 0 < V) (hu : 0 < bl.u) (hnR : 0 < bl.nR)
    (hnC : 0 < bl.nC) : Fills N (Complete K) (base M K N V bl) (· < M) (· < N) :=
  (fills_grid (M := M) hV hu hnR hnC (Nat.one_dvd _)
    (tiles_interior V _ _ _ hu rfl rfl) (tiles_interior V _ _ 1 hu rfl (Nat.one_mul V).symm)
    (tiles_interiorScalar _ _ hu)
    (tiles_interior V _ 1 _ hu (Nat.one_mul _).symm rfl) (tiles_block (fun _ _ => mem_colsAsc) _ 0 (by omega))
    (tiles_block (fun _ _ => mem_single) _ 1 (by omega))
    (fun h => tiles_interior V _ 1 _ h (Nat.one_mul _).symm rfl)
    (tiles_blockPartial (fun _ _ => mem_colsAsc) _ 0 (by omega))
    (tiles_blockPartial (fun _ _ => mem_single) _ 1 (by omega)) :)

theorem fills_baseMasked (masks : Bool) (M V : Nat) (bl : Blocking) (hV : 0 < V) (hu : 0 < bl.u)
    (hnR : 0 < bl.nR) (hnC : 0 < bl.nC) :
    Fills N (Complete K) (baseMasked masks M K N V bl) (· < M) (· < N) :=
  (fills_grid (M := M) hV hu hnR hnC (Nat.dvd_refl _)
    (tiles_interior V _ _ _ hu rfl rfl) (tiles_interior V _ _ 1 hu rfl (Nat.one_mul V).symm)
    (tiles_interiorMask masks _ _ _ hu)
    (tiles_interior V _ 1 _ hu (Nat.one_mul _).symm rfl) (tiles_block (fun _ _ => mem_colsAsc) _ 0 (by omega))
    (tiles_block (fun _ _ => mem_maskCols) _ 0 (by omega))
    (fun h => tiles_interior V _ 1 _ h (Nat.one_mul _).symm rfl)
    (tiles_blockPartial (fun _ _ => mem_colsAsc) _ 0 (by omega))
    (tiles_block (fun _ _ => mem_maskCols) _ 0 (by omega)) :)

theorem roundDown_pow2 (x e : Nat) (hx : x < 2 ^ 64) (he : e ≤ 64) :
    roundDown x (2 ^ e) = x / 2 ^ e * 2 ^ e :=
  and_not_low_bits x e hx he

theorem fills_tiny (M V : Nat) (hV : 0 < V) (hrd : roundDown N V = N / V * V) :
    Fills N (Complete K) (tiny M K N V) (· < M) (· < N) := by
  unfold tiny
  simp only [hrd, forExit_div_mul hV]
  refine Fills.rangeRows fun j => ?_
  have hN1 : N / V * V ≤ N := Nat.div_mul_le_self _ _
  have ha := Fills.colLoopMap (N := N) (div_mul_dvd N V) fun k =>
    fills_block (K := K) (rows := [j]) 0 (by omega) (fun _ => List.mem_singleton) (fun _ => mem_colsAsc (w := V))
  have hb := Fills.colLoopMap (N := N) (lo := N / V * V) (hi := N) (Nat.one_dvd _) fun k =>
    fills_block (K := K) (rows := [j]) 1 (by omega) (fun _ => List.mem_singleton) (fun _ => mem_single)
  exact (ha.append_cols hb).congr (fun _ => Iff.rfl) (fun c => by omega)

theorem fills_nonPrimitive (M : Nat) : Fills N (Complete K) (nonPrimitive M K N) (· < M) (· < N) :=
  Fills.rangeRows fun _ => Fills.rangeColsMap fun _ =>
    fills_block 1 (by omega) (fun _ => List.mem_singleton) (fun _ => List.mem_singleton)

theorem fills_smallNRow (masks : Bool) (V r : Nat) (sp lg : Bool) (hsp : sp = true → 1 ≤ r ∧ V < N) :
    Fills N (Complete K) [smallNRow masks K N V r sp lg] (· = r) (· < N) := by
  have hN1 : N / V * V ≤ N := Nat.div_mul_le_self _ _
  have hcols : ∀ c, c ∈ (colsAsc 0 (N / V * V) ++
      (if (N - N / V * V == 0) = true then [] else
        if (decide (N < V) || lg) = true then maskCols masks (N / V * V) (N - N / V * V)
        else colsAsc (N / V * V) (N - N / V * V))) ↔ c < N := by
    intro c
    rw [List.mem_append, mem_colsAsc]
    by_cases hw : N - N / V * V = 0
    · simp only [hw, beq_self_eq_true, if_true, List.not_mem_nil, or_false]
      omega
    · have hw' : (N - N / V * V == 0) = false := by simp [hw]
      simp only [hw', Bool.false_eq_true, if_false]
      split
      · rw [mem_maskCols]; omega
      · rw [mem_colsAsc]; omega
  refine fills_cells (by omega) rfl (fun e he => ?_) (fun _ => List.mem_singleton) hcols
  -- the lanes spilled by the previous row land on the first cells of this one
  simp only [smallNRow] at he
  split at he
  · rename_i hsp'
    obtain ⟨hr, hVN⟩ := hsp hsp'
    obtain ⟨l, hl, rfl⟩ := List.mem_map.1 he
    have hl := List.mem_range.1 hl
    obtain ⟨r', rfl⟩ : ∃ r', r = r' + 1 := ⟨r - 1, by omega⟩
    refine ⟨_, List.mem_singleton.2 rfl, l, (hcols l).2 (by omega), ?_⟩
    simp only [St.pos, Nat.add_sub_cancel, Nat.add_mul]
    omega
  · exact (List.not_mem_nil he).elim

theorem smallNUnroll_pos (N V : Nat) : 0 < smallNUnroll N V := by
  unfold smallNUnroll
  repeat' split
  all_goals omega

theorem fills_smallN (masks : Bool) (M V : Nat) : Fills N (Complete K) (smallN masks M K N V) (· < M) (· < N) := by
  refine Fills.rangeRowsMap fun r => fills_smallNRow masks V r _ _ fun hsp => ?_
  simp only [Bool.and_eq_true, bne_iff_ne, ne_eq, decide_eq_true_eq] at hsp
  obtain ⟨⟨_, hVN⟩, hidx⟩ := hsp
  refine ⟨Nat.pos_of_ne_zero ?_, hVN⟩
  rintro rfl
  apply hidx
  split
  · exact Nat.zero_mod _
  · exact Nat.zero_sub _

theorem fills_matvecGroup (K1 i n : Nat) (hK1 : K1 ≤ K) :
    Fills 1 (Complete K) [matvecGroup K K1 i n] (fun r => i ≤ r ∧ r < i + n) (· < 1) := by
  have hcol : ∀ {s : Seg} {kk : Nat}, kk = K →
      s.fin = (rowsFrom i n).map (fun r => ({ r := r, c := 0, kk := kk, style := 0 } : St)) →
      (∀ e ∈ s.pre, e.r ∈ rowsFrom i n ∧ e.c = 0) →
      Fills 1 (Complete K) [s] (fun r => i ≤ r ∧ r < i + n) (· < 1) := by
    rintro s _ rfl hfin hpre
    exact fills_cells (cols := [0]) (by omega) (hfin.trans List.map_eq_flatMap)
      (fun e he => ⟨e.r, (hpre e he).1, 0, List.mem_singleton.2 rfl, by rw [St.pos, (hpre e he).2]⟩)
      (fun _ => mem_rowsFrom) (fun c => by rw [List.mem_singleton]; omega)
  unfold matvecGroup
  split
  · rename_i h
    exact hcol (by simpa using h) rfl fun _ h => (List.not_mem_nil h).elim
  · rename_i h
    have hne : K1 ≠ K := by simpa using h
    refine hcol (by omega) rfl fun e he => ?_
    rcases List.mem_append.1 he with h | h
    · obtain ⟨r, hr, rfl⟩ := List.mem_map.1 h
      exact ⟨hr, rfl⟩
    · obtain ⟨j, _, h⟩ := List.mem_flatMap.1 h
      obtain ⟨r, hr, rfl⟩ := List.mem_map.1 h
      exact ⟨hr, rfl⟩

theorem fills_matvec (M V : Nat) :
    Fills 1 (Complete K) (matvec M K V) (· < M) (· < 1) := by
  unfold matvec
  split
  · exact Fills.rangeRowsMap fun i => fills_block 0 (by omega) (fun _ => List.mem_singleton) (fun c => by simp)
  · have hK1 : K / V * V ≤ K := Nat.div_mul_le_self _ _
    have ha := Fills.rowLoopMap (N := 1) (div_mul_dvd M 8) fun i =>
      fills_matvecGroup (K / V * V) i 8 hK1
    refine (ha.append_rows (R2 := fun r => M / 8 * 8 ≤ r ∧ r < M) ?_).congr
      (fun r => by have := Nat.div_mul_le_self M 8; omega) (fun _ => Iff.rfl)
    split
    · exact (fills_matvecGroup (K / V * V) (M / 8 * 8) (M - M / 8 * 8) hK1).congr
        (fun r => by omega) (fun _ => Iff.rfl)
    · exact Fills.empty fun r _ hr _ => by omega

end Fastor.Matmul
