import FastorModel.Model.Reduce
import FastorModel.Props.C02
import FastorModel.Proofs.Sums
import Mathlib.Algebra.BigOperators.Group.Finset.Basic
import Mathlib.Algebra.BigOperators.Group.List.Basic
import Mathlib.Tactic.Ring
import Mathlib.Order.MinMax
import Mathlib.Algebra.BigOperators.Group.Finset.Piecewise
import Mathlib.Algebra.BigOperators.Group.Finset.Sigma

/-
  Lemmas for C16 (reductions): the positions visited by an unroll ladder are contiguous, admissible ladders
  stop at or before `n`, coverage (vector steps ++ tail = range n), the value of the machine in a commutative
  monoid, and the invariant calculus for min / max over a strict total order.
-/
namespace Fastor.Reduce
open Fastor Fastor.Expr

def flat (V : Nat) (steps : List (Nat × Nat)) : List Nat :=
  steps.flatMap fun kp => (List.range V).map (kp.2 + ·)

theorem flat_snoc (V : Nat) (steps : List (Nat × Nat)) (kp : Nat × Nat) :
    flat V (steps ++ [kp]) = flat V steps ++ (List.range V).map (kp.2 + ·) := by
  simp only [flat, List.flatMap_append, List.flatMap_cons, List.flatMap_nil, List.append_nil]

theorem runVec_snoc {α : Type} (upd : α → α → α) (term : Nat → α) (init : α) (steps : List (Nat × Nat)) (kp : Nat × Nat) :
    runVec upd term init (steps ++ [kp]) =
      fun k l => if k = kp.1 then upd (runVec upd term init steps k l) (term (kp.2 + l)) else runVec upd term init steps k l := by
  simp only [runVec, List.foldl_append, List.foldl_cons, List.foldl_nil]

theorem runTail_snoc {α : Type} (upd : α → α → α) (term : Nat → α) (s0 : α) (ps : List Nat) (p : Nat) :
    runTail upd term s0 (ps ++ [p]) = upd (runTail upd term s0 ps) (term p) := by
  simp only [runTail, List.foldl_append, List.foldl_cons, List.foldl_nil]

theorem map_add_range (b m : Nat) : (List.range m).map (b + ·) = List.range' b m := by
  rw [List.range_eq_range', List.map_add_range']
  simp

theorem flat_block (V u b : Nat) :
    flat V ((List.range u).map fun k => (k, b + k * V)) = List.range' b (u * V) := by
  induction u with
  | zero => simp [flat]
  | succ u ih =>
    unfold flat at ih ⊢
    rw [List.range_succ, List.map_append, List.flatMap_append, ih]
    simp only [List.map_cons, List.map_nil, List.flatMap_cons, List.flatMap_nil, List.append_nil]
    rw [map_add_range, Nat.succ_mul]
    have := @List.range'_append b (u * V) V 1
    simp only [Nat.one_mul] at this
    rw [← this]


/-- the positions visited by one stage are the contiguous block `[i, exit)` -/
theorem flat_stage (n V u i : Nat) :
    flat V (stage n V u i).1 = List.range' i ((stage n V u i).2 - i) := by
  unfold stage forRange forExit
  simp only []
  generalize forCount i (roundDown n (u * V)) (u * V) = q
  have hq : ∀ q : Nat, i + q * (u * V) - i = q * (u * V) := by intro q; omega
  rw [hq]
  clear hq
  induction q with
  | zero => simp [flat]
  | succ q ih =>
    unfold flat at ih ⊢
    rw [List.range_succ, List.map_append, List.flatMap_append, List.flatMap_append, ih]
    simp only [List.map_cons, List.map_nil, List.flatMap_cons, List.flatMap_nil, List.append_nil]
    have hb := flat_block V u (i + q * (u * V))
    unfold flat at hb
    rw [hb, Nat.succ_mul]
    have := @List.range'_append i (q * (u * V)) (u * V) 1
    simp only [Nat.one_mul] at this
    rw [← this]

theorem stage_exit_ge (n V u i : Nat) : i ≤ (stage n V u i).2 := by
  unfold stage forExit; simp

theorem ladder_exit_ge (n V : Nat) (us : List Nat) (i : Nat) : i ≤ (ladder n V us i).2 := by
  induction us generalizing i with
  | nil => simp [ladder]
  | cons u us ih =>
    simp only [ladder]
    exact Nat.le_trans (stage_exit_ge n V u i) (ih _)

/-- the positions visited by the whole ladder are the contiguous block `[i, exit)` -/
theorem flat_ladder (n V : Nat) (us : List Nat) (i : Nat) :
    flat V (ladder n V us i).1 = List.range' i ((ladder n V us i).2 - i) := by
  induction us generalizing i with
  | nil => simp [ladder, flat]
  | cons u us ih =>
    simp only [ladder]
    have h1 := flat_stage n V u i
    have h2 := ih (stage n V u i).2
    unfold flat at h1 h2 ⊢
    rw [List.flatMap_append, h1, h2]
    have hge1 := stage_exit_ge n V u i
    have hge2 := ladder_exit_ge n V us (stage n V u i).2
    have := @List.range'_append i ((stage n V u i).2 - i) ((ladder n V us (stage n V u i).2).2 - (stage n V u i).2) 1
    simp only [Nat.one_mul] at this
    have e1 : i + ((stage n V u i).2 - i) = (stage n V u i).2 := by omega
    rw [e1] at this
    rw [this]
    congr 1
    omega

/-- hypotheses on the ladder that the code's ladders (1 / 4,2,1 / 8,4,2,1 with `V` a power of two) satisfy -/
structure GoodLadder (V : Nat) (us : List Nat) : Prop where
  pow2 : ∀ u ∈ us, ∃ e, e ≤ 64 ∧ u * V = 2 ^ e
  chain : us.Pairwise (fun a b => b ∣ a)

theorem stage_exit (n V u i : Nat) (hn : n < 2 ^ 64) (e : Nat) (he : e ≤ 64) (hs : u * V = 2 ^ e)
    (hi : i ≤ n) (hdiv : u * V ∣ i) :
    (stage n V u i).2 = max i (n / (u * V) * (u * V)) := by
  unfold stage
  simp only []
  rw [hs, C02.roundDown_pow2 n e hn he]
  rw [hs] at hdiv
  have hpos : 0 < 2 ^ e := Nat.pow_pos (by omega)
  by_cases hle : i ≤ n / 2 ^ e * 2 ^ e
  · rw [forExit_of_dvd hpos hle ((Nat.dvd_sub_iff_right hle (Nat.dvd_mul_left _ _)).2 hdiv)]
    omega
  · unfold forExit forCount
    have : n / 2 ^ e * 2 ^ e - i = 0 := by omega
    rw [this]
    have : (0 + (2 ^ e - 1)) / 2 ^ e = 0 := Nat.div_eq_of_lt (by omega)
    rw [this]; omega

theorem ladder_exit_le (n V : Nat) (us : List Nat) (hn : n < 2 ^ 64) (hg : GoodLadder V us) (i : Nat)
    (hi : i ≤ n) (hdiv : ∀ u ∈ us, u * V ∣ i) : (ladder n V us i).2 ≤ n := by
  induction us generalizing i with
  | nil => simpa [ladder]
  | cons u us ih =>
    simp only [ladder]
    obtain ⟨e, he, hs⟩ := hg.pow2 u (by simp)
    have hex := stage_exit n V u i hn e he hs hi (hdiv u (by simp))
    have hch := List.pairwise_cons.1 hg.chain
    apply ih ⟨fun u' hu' => hg.pow2 u' (by simp [hu']), hch.2⟩
    · rw [hex]; exact Nat.max_le.2 ⟨hi, Nat.div_mul_le_self _ _⟩
    · intro u' hu'
      rw [hex]
      have h1 : u' * V ∣ i := hdiv u' (by simp [hu'])
      have h2 : u' * V ∣ n / (u * V) * (u * V) :=
        Dvd.dvd.mul_left (Nat.mul_dvd_mul_right (hch.1 u' hu') V) _
      rcases Nat.le_total i (n / (u * V) * (u * V)) with h | h
      · rw [Nat.max_eq_right h]; exact h2
      · rw [Nat.max_eq_left h]; exact h1

/-- **coverage**: the vector steps followed by the scalar tail visit every position `0..n-1` exactly once,
    in increasing order — for every size, width and admissible ladder -/
theorem coverage (n V : Nat) (us : List Nat) (hn : n < 2 ^ 64) (hg : GoodLadder V us) :
    flat V (vecSteps n V us) ++ tailPos n V us = List.range n := by
  unfold vecSteps tailPos
  rw [flat_ladder, forRange_one, map_add_range]
  have hle := ladder_exit_le n V us hn hg 0 (Nat.zero_le _) (fun _ _ => Nat.dvd_zero _)
  have := @List.range'_append 0 ((ladder n V us 0).2 - 0) (n - (ladder n V us 0).2) 1
  simp only [Nat.one_mul, Nat.zero_add, Nat.sub_zero] at this
  rw [Nat.sub_zero, this, List.range_eq_range']
  congr 1; omega

theorem ladder_acc_lt (n V : Nat) (us : List Nat) (i : Nat) :
    ∀ kp ∈ (ladder n V us i).1, ∃ u ∈ us, kp.1 < u := by
  induction us generalizing i with
  | nil => simp [ladder]
  | cons u us ih =>
    intro kp hkp
    simp only [ladder, List.mem_append] at hkp
    rcases hkp with h | h
    · refine ⟨u, by simp, ?_⟩
      unfold stage at h
      simp only [List.mem_flatMap, List.mem_map, List.mem_range] at h
      obtain ⟨p, _, k, hk, rfl⟩ := h
      exact hk
    · obtain ⟨u', hu', hlt⟩ := ih _ kp h
      exact ⟨u', by simp [hu'], hlt⟩

section value
open Finset
variable {M : Type} [CommMonoid M]

theorem list_prod_map_range (f : Nat → M) (m : Nat) : ((List.range m).map f).prod = ∏ l ∈ range m, f l := by
  induction m with
  | zero => simp
  | succ m ih => rw [List.range_succ, List.map_append, List.prod_append, ih, Finset.prod_range_succ]; simp

theorem foldl_mul_range (f : Nat → M) (a0 : M) (m : Nat) :
    (List.range m).foldl (fun a k => a * f k) a0 = a0 * ∏ k ∈ range m, f k := by
  induction m with
  | zero => simp
  | succ m ih => rw [List.range_succ, List.foldl_append, ih, Finset.prod_range_succ]; simp [mul_assoc]

theorem foldl_mul_list (f : Nat → M) (a0 : M) (ps : List Nat) :
    ps.foldl (fun a i => a * f i) a0 = a0 * (ps.map f).prod := by
  induction ps generalizing a0 with
  | nil => simp
  | cons p ps ih => simp [ih, mul_assoc]

theorem prod_prod_update (A : Nat → Nat → M) (t : Nat → M) (U V k0 : Nat) (h : k0 < U) :
    ∏ k ∈ range U, ∏ l ∈ range V, (if k = k0 then A k l * t l else A k l)
      = (∏ k ∈ range U, ∏ l ∈ range V, A k l) * ∏ l ∈ range V, t l := by
  have e : ∀ k, ∏ l ∈ range V, (if k = k0 then A k l * t l else A k l)
      = (∏ l ∈ range V, A k l) * if k = k0 then ∏ l ∈ range V, t l else 1 := by
    intro k
    split_ifs
    · exact Finset.prod_mul_distrib
    · exact (mul_one _).symm
  simp only [e, Finset.prod_mul_distrib, Finset.prod_ite_eq', Finset.mem_range, h, if_true]

/-- the product of all lanes of all accumulators is the product of the terms at the visited positions -/
theorem runVec_total (term : Nat → M) (U V : Nat) (steps : List (Nat × Nat)) (hk : ∀ kp ∈ steps, kp.1 < U) :
    ∏ k ∈ range U, ∏ l ∈ range V, runVec (· * ·) term 1 steps k l = ((flat V steps).map term).prod := by
  induction steps using List.reverseRecOn with
  | nil => simp [runVec, flat]
  | append_singleton steps kp ih =>
    rw [runVec_snoc, flat_snoc, List.map_append, List.prod_append, ← ih fun kp' h => hk kp' (by simp [h]), List.map_map,
      list_prod_map_range]
    exact prod_prod_update _ _ U V kp.1 (hk kp (by simp))

theorem combine_eq (U V : Nat) (hU : 0 < U) (acc : Nat → Nat → M) (l : Nat) :
    combine (· * ·) U acc l = ∏ k ∈ range U, acc k l := by
  unfold combine
  rw [foldl_mul_range (fun k => acc (k + 1) l)]
  obtain ⟨U', rfl⟩ := Nat.exists_eq_succ_of_ne_zero (by omega : U ≠ 0)
  rw [Finset.prod_range_succ' (fun k => acc k l)]
  simp [mul_comm]

/-- **the reduction machine computes the product of all terms** (commutative monoid; every seed the identity) -/
theorem reduce_monoid (term : Nat → M) (U : Nat) (us : List Nat) (n V : Nat) (hn : n < 2 ^ 64)
    (hg : GoodLadder V us) (hU : ∀ u ∈ us, u ≤ U) (hU0 : 0 < U) :
    reduce ⟨(· * ·), 1, 1, 1, U, us⟩ term n V = ∏ i ∈ range n, term i := by
  unfold reduce
  simp only []
  unfold hfold runTail
  rw [foldl_mul_range, foldl_mul_list]
  simp only [one_mul]
  simp only [combine_eq U V hU0]
  rw [Finset.prod_comm, runVec_total term U V _ ?_, ← List.prod_append, ← List.map_append, coverage n V us hn hg,
    list_prod_map_range]
  intro kp hkp
  obtain ⟨u, hu, hlt⟩ := ladder_acc_lt n V us 0 kp hkp
  exact Nat.lt_of_lt_of_le hlt (hU u hu)
end value

/-- **reduce_correct**, stated for an arbitrary associative-commutative operation with identity `e`:
    the machine (any admissible ladder, any width, any size) returns the left fold over all `n` terms. -/
theorem reduce_op {α : Type} (op : α → α → α) (e : α) (hassoc : ∀ a b c, op (op a b) c = op a (op b c))
    (hcomm : ∀ a b, op a b = op b a) (hid : ∀ a, op e a = a)
    (term : Nat → α) (U : Nat) (us : List Nat) (n V : Nat) (hn : n < 2 ^ 64)
    (hg : GoodLadder V us) (hU : ∀ u ∈ us, u ≤ U) (hU0 : 0 < U) :
    reduce ⟨op, e, e, e, U, us⟩ term n V = (List.range n).foldl (fun acc i => op acc (term i)) e := by
  let inst : CommMonoid α :=
    { mul := op, one := e, mul_assoc := hassoc, mul_comm := hcomm, one_mul := hid,
      mul_one := fun a => by show op a e = a; rw [hcomm]; exact hid a }
  have h := reduce_monoid (M := α) term U us n V hn hg hU hU0
  have h2 : (List.range n).foldl (fun acc i => op acc (term i)) e = ∏ i ∈ Finset.range n, term i := by
    have := foldl_mul_range (M := α) term 1 n
    rw [one_mul] at this
    exact this
  rw [h2]
  exact h

theorem reduce_sum {A : Type} [AddCommMonoid A] (term : Nat → A) (U : Nat) (us : List Nat) (n V : Nat) (hn : n < 2 ^ 64)
    (hg : GoodLadder V us) (hU : ∀ u ∈ us, u ≤ U) (hU0 : 0 < U) :
    reduce ⟨(· + ·), 0, 0, 0, U, us⟩ term n V = ∑ i ∈ Finset.range n, term i := by
  rw [reduce_op (· + ·) 0 add_assoc add_comm zero_add term U us n V hn hg hU hU0, foldl_add_eq_sum]

theorem goodLadder_one (V : Nat) (ev : Nat) (hev : ev ≤ 64) (hV : V = 2 ^ ev) : GoodLadder V [1] :=
  ⟨by intro u hu; simp at hu; subst hu; exact ⟨ev, hev, by simp [hV]⟩, by simp⟩

theorem goodLadder_8421 (V : Nat) (ev : Nat) (hev : ev ≤ 60) (hV : V = 2 ^ ev) : GoodLadder V [8, 4, 2, 1] := by
  refine ⟨?_, by simp⟩
  intro u hu
  simp at hu
  rcases hu with rfl | rfl | rfl | rfl
  · exact ⟨ev + 3, by omega, by rw [hV, pow_add]; ring⟩
  · exact ⟨ev + 2, by omega, by rw [hV, pow_add]; ring⟩
  · exact ⟨ev + 1, by omega, by rw [hV, pow_add]; ring⟩
  · exact ⟨ev, by omega, by simp [hV]⟩

theorem goodLadder_421 (V : Nat) (ev : Nat) (hev : ev ≤ 60) (hV : V = 2 ^ ev) : GoodLadder V [4, 2, 1] :=
  have g := goodLadder_8421 V ev hev hV
  ⟨fun u hu => g.pow2 u (List.mem_cons_of_mem _ hu), (List.pairwise_cons.1 g.chain).2⟩

section minmax
variable {α : Type}

/-- `better` is a strict total order (`<` for min, `>` for max) -/
structure StrictTotal (better : α → α → Bool) : Prop where
  irrefl : ∀ a, better a a = false
  trans : ∀ a b c, better a b = true → better b c = true → better a c = true
  tri : ∀ a b, better a b = true ∨ a = b ∨ better b a = true

theorem strictTotal_lt {α : Type} [LinearOrder α] : StrictTotal (fun a b : α => decide (a < b)) :=
  ⟨fun a => decide_eq_false (lt_irrefl a),
   fun _ _ _ h1 h2 => decide_eq_true (lt_trans (of_decide_eq_true h1) (of_decide_eq_true h2)),
   fun a b => by simpa only [decide_eq_true_eq] using lt_trichotomy a b⟩
theorem strictTotal_gt {α : Type} [LinearOrder α] : StrictTotal (fun a b : α => decide (b < a)) := strictTotal_lt (α := αᵒᵈ)

/-- `v` is the seed or one of the elements at the positions `P`, and no element at `P` is better than `v` -/
def Inv (better : α → α → Bool) (seed : α) (x : Nat → α) (v : α) (P : Nat → Prop) : Prop :=
  (v = seed ∨ ∃ i, P i ∧ v = x i) ∧ ∀ i, P i → better (x i) v = false

def pick (better : α → α → Bool) (a b : α) : α := if better b a then b else a

theorem inv_pick {better : α → α → Bool} (hb : StrictTotal better) {seed : α} {x : Nat → α} {a b : α} {P Q : Nat → Prop}
    (ha : Inv better seed x a P) (hq : Inv better seed x b Q) :
    Inv better seed x (pick better a b) (fun i => P i ∨ Q i) := by
  unfold pick
  by_cases h : better b a = true
  · simp only [h, if_true]
    refine ⟨?_, ?_⟩
    · rcases hq.1 with h1 | ⟨i, hi, h1⟩
      · exact Or.inl h1
      · exact Or.inr ⟨i, Or.inr hi, h1⟩
    · intro i hi
      rcases hi with hi | hi
      · by_contra hc
        have hc : better (x i) b = true := by simpa using hc
        have := hb.trans _ _ _ hc h
        rw [ha.2 i hi] at this; exact Bool.false_ne_true this
      · exact hq.2 i hi
  · have h' : better b a = false := by simpa using h
    simp only [h', Bool.false_eq_true, if_false]
    refine ⟨?_, ?_⟩
    · rcases ha.1 with h1 | ⟨i, hi, h1⟩
      · exact Or.inl h1
      · exact Or.inr ⟨i, Or.inl hi, h1⟩
    · intro i hi
      rcases hi with hi | hi
      · exact ha.2 i hi
      · by_contra hc
        have hc : better (x i) a = true := by simpa using hc
        rcases hb.tri a b with t | t | t
        · have := hb.trans _ _ _ hc t
          rw [hq.2 i hi] at this; exact Bool.false_ne_true this
        · subst t; rw [hq.2 i hi] at hc; exact Bool.false_ne_true hc
        · rw [h'] at t; exact Bool.false_ne_true t

theorem inv_elem {better : α → α → Bool} (hb : StrictTotal better) (seed : α) (x : Nat → α) (i : Nat) :
    Inv better seed x (x i) (fun j => j = i) :=
  ⟨Or.inr ⟨i, rfl, rfl⟩, by intro j hj; subst hj; exact hb.irrefl _⟩

theorem inv_seed {better : α → α → Bool} (seed : α) (x : Nat → α) :
    Inv better seed x seed (fun _ => False) := ⟨Or.inl rfl, by intro i hi; exact hi.elim⟩

theorem inv_congr {better : α → α → Bool} {seed : α} {x : Nat → α} {v : α} {P Q : Nat → Prop}
    (h : Inv better seed x v P) (hPQ : ∀ i, P i ↔ Q i) : Inv better seed x v Q := by
  have : P = Q := funext fun i => propext (hPQ i)
  rw [← this]; exact h

theorem inv_runTail {better : α → α → Bool} (hb : StrictTotal better) (seed : α) (x : Nat → α) (ps : List Nat) :
    Inv better seed x (runTail (fun s t => pick better t s) x seed ps) (fun i => i ∈ ps) := by
  induction ps using List.reverseRecOn with
  | nil => exact inv_congr (inv_seed seed x) (by simp)
  | append_singleton ps p ih =>
    rw [runTail_snoc]
    exact inv_congr (inv_pick hb (inv_elem hb seed x p) ih) (by intro i; simp [or_comm])

/-- vector loop (single accumulator): lane `l` has seen the positions `p + l` of the steps so far -/
theorem inv_runVec {better : α → α → Bool} (hb : StrictTotal better) (seed : α) (x : Nat → α)
    (steps : List (Nat × Nat)) (hk : ∀ kp ∈ steps, kp.1 = 0) (l : Nat) :
    Inv better seed x (runVec (fun a t => pick better t a) x seed steps 0 l) (fun i => ∃ kp ∈ steps, i = kp.2 + l) := by
  induction steps using List.reverseRecOn with
  | nil => exact inv_congr (inv_seed seed x) (by simp)
  | append_singleton steps kp ih =>
    have ih := ih (fun kp' h => hk kp' (by simp [h]))
    simp only [runVec_snoc, hk kp (by simp), if_true]
    refine inv_congr (inv_pick hb (inv_elem hb seed x (kp.2 + l)) ih) ?_
    intro i
    simp only [List.mem_append, List.mem_singleton]
    constructor
    · rintro (h | ⟨kp', h1, h2⟩)
      · exact ⟨kp, Or.inr rfl, h⟩
      · exact ⟨kp', Or.inl h1, h2⟩
    · rintro ⟨kp', h1 | h1, h2⟩
      · exact Or.inr ⟨kp', h1, h2⟩
      · subst h1; exact Or.inl h2

/-- horizontal minimum()/maximum() over the lanes -/
theorem inv_hpick {better : α → α → Bool} (hb : StrictTotal better) (seed : α) (x : Nat → α) (V : Nat)
    (v : Nat → α) (P : Nat → Nat → Prop) (hv : ∀ l, Inv better seed x (v l) (P l)) :
    Inv better seed x (hpick better V v) (fun i => P 0 i ∨ ∃ l < V, P l i) := by
  unfold hpick
  induction V with
  | zero => exact inv_congr (hv 0) (by simp)
  | succ V ih =>
    rw [List.range_succ, List.foldl_append]
    simp only [List.foldl_cons, List.foldl_nil]
    have := inv_pick hb ih (hv V)
    unfold pick at this
    refine inv_congr this ?_
    intro i
    constructor
    · rintro ((h | ⟨l, hl, h⟩) | h)
      · exact Or.inl h
      · exact Or.inr ⟨l, by omega, h⟩
      · exact Or.inr ⟨V, by omega, h⟩
    · rintro (h | ⟨l, hl, h⟩)
      · exact Or.inl (Or.inl h)
      · by_cases hlV : l = V
        · subst hlV; exact Or.inr h
        · exact Or.inl (Or.inr ⟨l, by omega, h⟩)

theorem mem_flat (V : Nat) (steps : List (Nat × Nat)) (i : Nat) :
    i ∈ flat V steps ↔ ∃ kp ∈ steps, ∃ l < V, i = kp.2 + l := by
  unfold flat
  simp only [List.mem_flatMap, List.mem_map, List.mem_range]
  constructor
  · rintro ⟨kp, h1, l, hl, rfl⟩; exact ⟨kp, h1, l, hl, rfl⟩
  · rintro ⟨kp, h1, l, hl, rfl⟩; exact ⟨kp, h1, l, hl, rfl⟩

/-- **min/max return an element of the input that no element beats** — every size `n > 0`, every width `V = 2^ev`,
    every sign pattern; hypothesis on the seed: it does not beat any element (for `min`: `x i ≤ seed`). -/
theorem minmax_correct {better : α → α → Bool} (hb : StrictTotal better) (seed : α) (x : Nat → α) (n V ev : Nat)
    (hn : n < 2 ^ 64) (hev : ev ≤ 64) (hV : V = 2 ^ ev) (hpos : 0 < n)
    (hseed : ∀ i < n, better seed (x i) = false) :
    (∃ i < n, minmax better seed x n V = x i) ∧ ∀ i < n, better (x i) (minmax better seed x n V) = false := by
  have hVpos : 0 < V := by rw [hV]; exact Nat.pow_pos (by omega)
  have hg := goodLadder_one V ev hev hV
  have hcov := coverage n V [1] hn hg
  have hk0 : ∀ kp ∈ vecSteps n V [1], kp.1 = 0 := by
    intro kp hkp
    obtain ⟨u, hu, hlt⟩ := ladder_acc_lt n V [1] 0 kp hkp
    simp at hu; subst hu; omega
  have hvec := inv_hpick hb seed x V (runVec (fun a t => pick better t a) x seed (vecSteps n V [1]) 0)
    (fun l i => ∃ kp ∈ vecSteps n V [1], i = kp.2 + l) (inv_runVec hb seed x _ hk0)
  have htl := inv_runTail hb seed x (tailPos n V [1])
  have hfin := inv_pick hb hvec htl
  have hres : minmax better seed x n V = pick better (hpick better V (runVec (fun a t => pick better t a) x seed (vecSteps n V [1]) 0))
      (runTail (fun s t => pick better t s) x seed (tailPos n V [1])) := rfl
  rw [hres]
  have hall : ∀ i, i < n ↔ ((∃ kp ∈ vecSteps n V [1], i = kp.2 + 0) ∨ ∃ l < V, ∃ kp ∈ vecSteps n V [1], i = kp.2 + l) ∨ i ∈ tailPos n V [1] := by
    intro i
    have : i < n ↔ i ∈ flat V (vecSteps n V [1]) ++ tailPos n V [1] := by rw [hcov]; simp
    rw [this, List.mem_append, mem_flat]
    constructor
    · rintro (⟨kp, h1, l, hl, h2⟩ | h)
      · exact Or.inl (Or.inr ⟨l, hl, kp, h1, h2⟩)
      · exact Or.inr h
    · rintro ((⟨kp, h1, h2⟩ | ⟨l, hl, kp, h1, h2⟩) | h)
      · exact Or.inl ⟨kp, h1, 0, hVpos, h2⟩
      · exact Or.inl ⟨kp, h1, l, hl, h2⟩
      · exact Or.inr h
  have hfin' := inv_congr hfin (fun i => (hall i).symm)
  refine ⟨?_, fun i hi => hfin'.2 i hi⟩
  rcases hfin'.1 with h | ⟨i, hi, h⟩
  · -- the result is the seed: then element 0 equals the seed
    refine ⟨0, hpos, ?_⟩
    have h1 := hfin'.2 0 hpos
    rw [h] at h1 ⊢
    have h2 := hseed 0 hpos
    rcases hb.tri seed (x 0) with t | t | t
    · rw [h2] at t; exact absurd t Bool.false_ne_true
    · exact t
    · rw [h1] at t; exact absurd t Bool.false_ne_true
  · exact ⟨i, hi, h⟩
end minmax

/-! the loops of the predicates: a Boolean that can only fall (`all_of`) or only rise (`any_of`) -/
theorem foldl_and_range (p : Nat → Bool) (n : Nat) :
    (List.range n).foldl (fun v i => v && p i) true = true ↔ ∀ i < n, p i = true := by
  induction n with
  | zero => simp only [List.range_zero, List.foldl_nil, Nat.not_lt_zero, false_imp_iff, implies_true]
  | succ n ih =>
    simp only [List.range_succ, List.foldl_append, List.foldl_cons, List.foldl_nil, Bool.and_eq_true, ih, Nat.forall_lt_succ_right]

theorem foldl_or_range (p : Nat → Bool) (n : Nat) :
    (List.range n).foldl (fun v i => v || p i) false = true ↔ ∃ i < n, p i = true := by
  induction n with
  | zero => simp only [List.range_zero, List.foldl_nil, Nat.not_lt_zero, false_and, exists_false, Bool.false_eq_true]
  | succ n ih =>
    simp only [List.range_succ, List.foldl_append, List.foldl_cons, List.foldl_nil, Bool.or_eq_true, ih, Nat.exists_lt_succ_right]

/-- inner loop of `issymmetric`, state (issym, broken): `broken` is the `any_of` loop over the violations, and `issym`
    falls when it rises -/
theorem isSym_inner (viol : Nat → Bool) (s : Bool) (m : Nat) :
    (List.range m).foldl (fun (st : Bool × Bool) j => if st.2 then st else if viol j then (false, true) else st) (s, false)
      = (s && !(List.range m).foldl (fun v j => v || viol j) false, (List.range m).foldl (fun v j => v || viol j) false) := by
  induction m with
  | zero => simp only [List.range_zero, List.foldl_nil, Bool.not_false, Bool.and_true]
  | succ m ih =>
    simp only [List.range_succ, List.foldl_append, List.foldl_cons, List.foldl_nil, ih]
    cases (List.range m).foldl (fun v j => v || viol j) false <;> cases viol m <;> simp

section hpick
variable {α : Type} [LinearOrder α]
/-- `maximum()` / `minimum()` of the generic vector: the fold of `max` / `min` over the lanes, from lane 0 -/
theorem hpick_max (n : Nat) (v : Nat → α) :
    hpick (fun a b => decide (b < a)) n v = (List.range n).foldl (fun q l => max q (v l)) (v 0) := by
  simp only [hpick, decide_eq_true_eq, max_def_lt]
theorem hpick_min (n : Nat) (v : Nat → α) :
    hpick (fun a b => decide (a < b)) n v = (List.range n).foldl (fun q l => min q (v l)) (v 0) := by
  have e : ∀ a q : α, (if a < q then a else q) = min q a := fun a q => by rw [min_comm, min_def_lt]
  simp only [hpick, decide_eq_true_eq, e]
end hpick

end Fastor.Reduce
