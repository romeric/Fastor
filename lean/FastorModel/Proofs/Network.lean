import Mathlib.Data.List.Perm.Basic
import Mathlib.Data.List.Count
import Mathlib.Algebra.BigOperators.Group.Finset.Basic
import Mathlib.Algebra.BigOperators.Group.Finset.Sigma
import Mathlib.Algebra.BigOperators.Ring.Finset
import Mathlib.Algebra.Ring.Defs
import Mathlib.Tactic.Ring
import FastorModel.Model.Network
import FastorModel.Proofs.Einsum
/-
  `freeBy`: "keep the entries whose key occurs exactly once" on lists of arbitrary entries with a key
  function.  With entries = index names (key = id) this is `resultIdx`; with entries = (index name,
  extent) pairs (key = fst) it is `resultIdx` zipped with `resultDims`.  Contracting a segment of the
  entries first changes nothing (`freeBy_mid`).

  `Tree`: a pairwise evaluation order of a network.  Whatever the order, the result it computes is
  the declared result of the operands *in the leaf order of the tree* (`Tree.res_eq`), and each of its
  cells holds the Einstein sum of all operands (`Tree.value`, relative to the pairwise loop-nest
  fact).  The cost model only chooses among such trees (`eval3_tree`, `eval4_tree`).

  `sumOver`: the Einstein sum as an iterated finite sum over named indices.
-/
namespace Fastor.Network
open Fastor.Einsum

section FreeBy
variable {β : Type} (k : β → Nat)

def cnt (L : List β) (x : Nat) : Nat := (L.map k).count x

def keep (c : Nat → Nat) (L : List β) : List β := L.filter (fun p => c (k p) == 1)

def freeBy (L : List β) : List β := keep k (cnt k L) L

theorem cnt_append (L M : List β) (x : Nat) : cnt k (L ++ M) x = cnt k L x + cnt k M x := by
  simp [cnt]

theorem cnt_nil (x : Nat) : cnt k ([] : List β) x = 0 := by simp [cnt]

theorem cnt_pos_of_mem {L : List β} {p : β} (h : p ∈ L) : 0 < cnt k L (k p) :=
  List.count_pos_iff.2 (List.mem_map.2 ⟨p, h, rfl⟩)

theorem cnt_perm {L L' : List β} (h : L.Perm L') (x : Nat) : cnt k L x = cnt k L' x :=
  (h.map k).count_eq x

theorem keep_append (c : Nat → Nat) (L M : List β) : keep k c (L ++ M) = keep k c L ++ keep k c M :=
  List.filter_append ..

theorem cnt_keep (c : Nat → Nat) (L : List β) (x : Nat) :
    cnt k (keep k c L) x = if c x = 1 then cnt k L x else 0 := by
  have e : (keep k c L).map k = (L.map k).filter (fun y => c y == 1) := by
    unfold keep
    rw [List.filter_map]
    rfl
  unfold cnt
  rw [e]
  by_cases h : c x = 1
  · rw [if_pos h, List.count_filter (by simpa using h)]
  · rw [if_neg h, List.count_eq_zero]
    exact fun hm => h (by simpa using (List.mem_filter.1 hm).2)

theorem cnt_freeBy (L : List β) (x : Nat) :
    cnt k (freeBy k L) x = if cnt k L x = 1 then 1 else 0 := by
  unfold freeBy
  rw [cnt_keep]
  by_cases h : cnt k L x = 1
  · rw [if_pos h, if_pos h, h]
  · rw [if_neg h, if_neg h]

theorem keep_congr {c c' : Nat → Nat} {L : List β}
    (h : ∀ p ∈ L, (c (k p) = 1 ↔ c' (k p) = 1)) : keep k c L = keep k c' L := by
  apply List.filter_congr
  intro p hp
  rw [Bool.eq_iff_iff, beq_iff_eq, beq_iff_eq]
  exact h p hp

theorem keep_keep_eq {c c' c'' : Nat → Nat} {L : List β}
    (h : ∀ p ∈ L, ((c (k p) = 1 ∧ c' (k p) = 1) ↔ c'' (k p) = 1)) :
    keep k c (keep k c' L) = keep k c'' L := by
  unfold keep
  rw [List.filter_filter]
  apply List.filter_congr
  intro p hp
  rw [Bool.eq_iff_iff, Bool.and_eq_true, beq_iff_eq, beq_iff_eq, beq_iff_eq]
  exact h p hp

/-- contracting a segment `W` of the entries first leaves the same entries, in the same order, as
    contracting everything at once -/
theorem freeBy_mid (X W Z : List β) (h : ∀ x, cnt k (X ++ W ++ Z) x ≤ 2) :
    freeBy k (X ++ freeBy k W ++ Z) = freeBy k (X ++ W ++ Z) := by
  -- an entry outside `W` meets at most one entry of `W` with its key, which then is free in `W`
  have houter : ∀ p ∈ X ++ Z,
      (cnt k (X ++ freeBy k W ++ Z) (k p) = 1 ↔ cnt k (X ++ W ++ Z) (k p) = 1) := by
    intro p hp
    have h1 := cnt_pos_of_mem k hp
    have h2 := h (k p)
    simp only [cnt_append, cnt_freeBy] at h1 h2 ⊢
    split <;> omega
  show keep k _ (X ++ freeBy k W ++ Z) = keep k _ (X ++ W ++ Z)
  rw [keep_append, keep_append, keep_append, keep_append]
  congr 1
  congr 1
  · exact keep_congr k fun p hp => houter p (List.mem_append_left _ hp)
  · apply keep_keep_eq
    intro p hp
    have h1 := cnt_pos_of_mem k hp
    simp only [cnt_append, cnt_freeBy]
    split <;> omega
  · exact keep_congr k fun p hp => houter p (List.mem_append_right _ hp)

theorem freeBy_perm {L L' : List β} (h : L.Perm L') : (freeBy k L).Perm (freeBy k L') := by
  unfold freeBy
  rw [funext (cnt_perm k h)]
  exact h.filter _

end FreeBy

theorem cnt_id (l : List Nat) (x : Nat) : cnt id l x = l.count x := by simp [cnt]

theorem resultIdx_eq (cat : List Nat) : resultIdx cat = freeBy id cat := by
  apply List.filter_congr
  intro x _
  simp [occursOnce, cnt_id]

def zp (A : Operand) : List (Nat × Nat) := A.idx.zip A.dims

def WF (A : Operand) : Prop := A.idx.length = A.dims.length

instance (A : Operand) : Decidable (WF A) := by unfold WF; infer_instance

deriving instance DecidableEq for Operand

theorem cnt_fst_zip {cat cd : List Nat} (h : cat.length = cd.length) (x : Nat) :
    cnt Prod.fst (cat.zip cd) x = cat.count x := by
  unfold cnt
  rw [List.map_fst_zip (by omega)]

theorem result_zip {cat cd : List Nat} (h : cat.length = cd.length) :
    (resultIdx cat).zip (resultDims cat cd) = freeBy Prod.fst (cat.zip cd) := by
  have e : freeBy Prod.fst (cat.zip cd) = (cat.zip cd).filter (fun p => occursOnce cat p.1) := by
    apply List.filter_congr
    intro p _
    rw [cnt_fst_zip h]
    rfl
  have hfst := List.filter_map (f := Prod.fst) (p := occursOnce cat) (l := cat.zip cd)
  rw [List.map_fst_zip (by omega)] at hfst
  rw [e]
  exact (List.zip_of_prod hfst.symm rfl).symm

theorem WF.idx_eq {A : Operand} (h : WF A) : A.idx = (zp A).map Prod.fst :=
  (List.map_fst_zip (Nat.le_of_eq h)).symm

theorem WF.dims_eq {A : Operand} (h : WF A) : A.dims = (zp A).map Prod.snd :=
  (List.map_snd_zip (Nat.le_of_eq h.symm)).symm

theorem operand_ext_zp {A B : Operand} (hA : WF A) (hB : WF B) (h : zp A = zp B) : A = B := by
  have h1 := hA.idx_eq
  have h2 := hA.dims_eq
  rw [h, ← hB.idx_eq] at h1
  rw [h, ← hB.dims_eq] at h2
  cases A
  cases B
  simp_all

/-- the extents travel with the names: two operands with the same index list without repetitions and
    the same (name, extent) entries up to order are equal -/
theorem operand_ext_of_perm {A B : Operand} (hA : WF A) (hB : WF B) (hi : A.idx = B.idx)
    (hnd : A.idx.Nodup) (h : (zp A).Perm (zp B)) : A = B := by
  apply operand_ext_zp hA hB
  have key : ∀ M N : List (Nat × Nat), M.Perm N → M.map Prod.fst = N.map Prod.fst →
      (M.map Prod.fst).Nodup → M = N := by
    intro M
    induction M with
    | nil => exact fun N h _ _ => h.nil_eq
    | cons p M ih =>
      intro N h hf hn
      match N, hf with
      | q :: N, hf =>
        rw [List.map_cons, List.map_cons, List.cons.injEq] at hf
        rw [List.map_cons, List.nodup_cons] at hn
        have hpq : p = q := by
          rcases List.mem_cons.1 (h.subset List.mem_cons_self) with e | e
          · exact e
          · exact absurd (hf.2 ▸ List.mem_map_of_mem (f := Prod.fst) e) hn.1
        subst hpq
        rw [ih N (List.Perm.cons_inv h) hf.2 hn.2]
  exact key _ _ h (by rw [← hA.idx_eq, ← hB.idx_eq, hi]) (by rw [← hA.idx_eq]; exact hnd)

theorem WF.pairRes {A B : Operand} (hA : WF A) (hB : WF B) : WF (pairRes A B) := by
  unfold WF at *
  show (resultIdx _).length = (resultDims _ _).length
  rw [resultDims_eq_map (by simp [hA, hB]), List.length_map]

theorem zp_pairRes {A B : Operand} (hA : WF A) (hB : WF B) :
    zp (pairRes A B) = freeBy Prod.fst (zp A ++ zp B) := by
  show (resultIdx _).zip (resultDims _ _) = _
  unfold WF at *
  rw [result_zip (by simp [hA, hB]), List.zip_append hA]
  rfl

def AtMostTwice (ops : List Operand) : Prop := ∀ x, (ops.flatMap (·.idx)).count x ≤ 2

theorem flatMap_zp {ops : List Operand} (h : ∀ A ∈ ops, WF A) :
    (ops.flatMap (·.idx)).length = (ops.flatMap (·.dims)).length ∧
    (ops.flatMap (·.idx)).zip (ops.flatMap (·.dims)) = ops.flatMap zp := by
  induction ops with
  | nil => exact ⟨rfl, rfl⟩
  | cons A ops ih =>
    obtain ⟨hl, hz⟩ := ih fun B hB => h B (List.mem_cons_of_mem _ hB)
    have hA : A.idx.length = A.dims.length := h A List.mem_cons_self
    simp only [List.flatMap_cons, List.length_append, hl, hA, List.zip_append hA, hz, zp, and_self]

theorem cnt_flatMap_zp {ops : List Operand} (h : ∀ A ∈ ops, WF A) (x : Nat) :
    cnt Prod.fst (ops.flatMap zp) x = (ops.flatMap (·.idx)).count x := by
  rw [← (flatMap_zp h).2, cnt_fst_zip (flatMap_zp h).1]

theorem zp_declared {ops : List Operand} (h : ∀ A ∈ ops, WF A) :
    zp (declared ops) = freeBy Prod.fst (ops.flatMap zp) ∧ WF (declared ops) := by
  obtain ⟨hl, hz⟩ := flatMap_zp h
  constructor
  · show (resultIdx _).zip (resultDims _ _) = _
    rw [result_zip hl, hz]
  · show (resultIdx _).length = (resultDims _ _).length
    rw [resultDims_eq_map hl, List.length_map]

theorem declared_perm {ops ops' : List Operand} (hp : ops.Perm ops') (h : ∀ A ∈ ops', WF A) :
    (zp (declared ops)).Perm (zp (declared ops')) := by
  rw [(zp_declared h).1, (zp_declared fun A hA => h A (hp.subset hA)).1]
  exact freeBy_perm _ (hp.flatMap_right _)

theorem AtMostTwice.perm {ops ops' : List Operand} (h : AtMostTwice ops) (hp : ops'.Perm ops) :
    AtMostTwice ops' := fun x => by
  rw [(hp.flatMap_right _).count_eq]
  exact h x

def freeIn (ops : List Operand) (A : Operand) : List Nat :=
  A.idx.filter fun x => (ops.flatMap (·.idx)).count x == 1

theorem declared_idx (ops : List Operand) : (declared ops).idx = ops.flatMap (freeIn ops) :=
  List.filter_flatMap

theorem freeIn_perm {ops ops' : List Operand} (hp : ops.Perm ops') : freeIn ops = freeIn ops' := by
  funext A
  apply List.filter_congr
  intro x _
  rw [(hp.flatMap_right _).count_eq]

theorem declared_idx_perm {ops ops' : List Operand} (hp : ops.Perm ops') :
    (declared ops).idx.Perm (declared ops').idx := by
  rw [declared_idx, declared_idx, freeIn_perm hp]
  exact hp.flatMap_right _

/-- `argmin` of four costs as nested comparisons: rewriting with it first lets `decide` evaluate a concrete `triplet` -/
theorem argmin4 (a b c d : Nat) : argmin [a, b, c, d] =
    if min a b ≤ min (min a b) (min c d) then (if a < b then 0 else 1)
    else (if min (min a b) c ≤ min (min (min a b) c) d then (if min a b < c then 0 else 1)
      else (if min (min a b) c < d then 0 else 1) + 1) + 1 := by
  simp [argmin, minList]

theorem triplet_variant_le (A B C : Operand) : (triplet A B C).variant ≤ 3 := by
  show argmin [_, _, _, _] ≤ 3
  rw [argmin4]
  split_ifs <;> omega

theorem triplet_res_v0 {A B C : Operand} (h : (triplet A B C).variant = 0) :
    (triplet A B C).res = pairRes (pairRes A B) C := by
  unfold triplet at h ⊢
  simp only at h ⊢
  simp [h]

theorem triplet_res_v1 {A B C : Operand} (h : (triplet A B C).variant = 1) :
    (triplet A B C).res = pairRes B (pairRes A C) := by
  unfold triplet at h ⊢
  simp only at h ⊢
  simp [h]

theorem triplet_res_v2 {A B C : Operand} (h0 : (triplet A B C).variant ≠ 0)
    (h1 : (triplet A B C).variant ≠ 1) : (triplet A B C).res = pairRes A (pairRes B C) := by
  unfold triplet at h0 h1 ⊢
  simp only at h0 h1 ⊢
  simp [h0, h1]

/-- a pairwise evaluation order of a network: the operands (with their values) at the leaves, a
    pairwise contraction at every node -/
inductive Tree (α : Type) where
  | leaf (A : Operand) (a : List α)
  | node (l r : Tree α)

namespace Tree
variable {α : Type}

def leaves : Tree α → List (Operand × List α)
  | leaf A a => [(A, a)]
  | node l r => l.leaves ++ r.leaves

def ops (t : Tree α) : List Operand := t.leaves.map Prod.fst

def res : Tree α → Operand
  | leaf A _ => A
  | node l r => pairRes l.res r.res

def vals [Zero α] [Add α] [Mul α] : Tree α → List α
  | leaf _ a => a
  | node l r => pairVals l.res r.res l.vals r.vals

theorem ops_node (l r : Tree α) : (node l r).ops = l.ops ++ r.ops := List.map_append

/-- Let `e` view an operand as a list of keyed entries such that the view of a pairwise result is the
    free part of the two views (`idx` with the names as keys; `zp` with the names as keys, for
    well-formed operands).  Then inside any list of entries the view of the computed result may be
    replaced by the views of all operands of the tree, in leaf order. -/
theorem freeBy_res {β : Type} (k : β → Nat) (e : Operand → List β) (P : Operand → Prop)
    (hres : ∀ A B, P A → P B → P (pairRes A B) ∧ e (pairRes A B) = freeBy k (e A ++ e B))
    (t : Tree α) (hP : ∀ A ∈ t.ops, P A) :
    P t.res ∧ (∀ x, cnt k (e t.res) x ≤ cnt k (t.ops.flatMap e) x) ∧
    ∀ X Y, (∀ x, cnt k (X ++ t.ops.flatMap e ++ Y) x ≤ 2) →
      freeBy k (X ++ e t.res ++ Y) = freeBy k (X ++ t.ops.flatMap e ++ Y) := by
  induction t with
  | leaf A a =>
    have e1 : (leaf A a).ops.flatMap e = e A := List.flatMap_singleton ..
    rw [e1]
    exact ⟨hP A List.mem_cons_self, fun _ => Nat.le_refl _, fun _ _ _ => rfl⟩
  | node l r ihl ihr =>
    rw [ops_node] at hP ⊢
    obtain ⟨pl, cl, fl⟩ := ihl fun A hA => hP A (List.mem_append_left _ hA)
    obtain ⟨pr, cr, fr⟩ := ihr fun A hA => hP A (List.mem_append_right _ hA)
    obtain ⟨pn, en⟩ := hres _ _ pl pr
    rw [List.flatMap_append]
    refine ⟨pn, fun x => ?_, fun X Y h => ?_⟩
    · show cnt k (e (pairRes l.res r.res)) x ≤ _
      have := cl x
      have := cr x
      rw [en, cnt_freeBy]
      simp only [cnt_append]
      split <;> omega
    · show freeBy k (X ++ e (pairRes l.res r.res) ++ Y) = _
      have h1 : ∀ x, cnt k (X ++ l.ops.flatMap e ++ (e r.res ++ Y)) x ≤ 2 := fun x => by
        have := h x
        have := cr x
        simp only [cnt_append] at *
        omega
      have h2 : ∀ x, cnt k (X ++ (e l.res ++ e r.res) ++ Y) x ≤ 2 := fun x => by
        have := h1 x
        have := cl x
        simp only [cnt_append] at *
        omega
      rw [en, freeBy_mid k X _ Y h2, ← List.append_assoc X, List.append_assoc _ (e r.res),
        fl X _ h1, ← List.append_assoc, fr _ Y (by simpa only [List.append_assoc] using h)]
      simp only [List.append_assoc]

/-- the view of what a node computes is the free part of the views of its operands in leaf order -/
theorem view_node {β : Type} (k : β → Nat) (e : Operand → List β) (P : Operand → Prop)
    (hres : ∀ A B, P A → P B → P (pairRes A B) ∧ e (pairRes A B) = freeBy k (e A ++ e B))
    (l r : Tree α) (hP : ∀ A ∈ (node l r).ops, P A)
    (h : ∀ x, cnt k ((node l r).ops.flatMap e) x ≤ 2) :
    P (node l r).res ∧ e (node l r).res = freeBy k ((node l r).ops.flatMap e) := by
  rw [ops_node] at hP h ⊢
  rw [List.flatMap_append] at h ⊢
  obtain ⟨pl, cl, fl⟩ := freeBy_res k e P hres l fun A hA => hP A (List.mem_append_left _ hA)
  obtain ⟨pr, cr, fr⟩ := freeBy_res k e P hres r fun A hA => hP A (List.mem_append_right _ hA)
  obtain ⟨pn, en⟩ := hres _ _ pl pr
  refine ⟨pn, en.trans ?_⟩
  have h1 := fl [] (e r.res) fun x => by
    have := h x
    have := cr x
    simp only [cnt_append, List.nil_append] at *
    omega
  have h2 := fr (l.ops.flatMap e) [] (by simpa only [List.append_nil] using h)
  simp only [List.nil_append, List.append_nil] at h1 h2
  rw [h1, h2]

/-- **index order of a pairwise evaluation.**  The index list a pairwise evaluation order computes
    is the declared index list of its operands taken in leaf order. -/
theorem idx_eq (l r : Tree α) (h : AtMostTwice (node l r).ops) :
    (node l r).res.idx = (declared (node l r).ops).idx := by
  have := (view_node id (·.idx) (fun _ => True)
    (fun A B _ _ => ⟨trivial, resultIdx_eq _⟩) l r (fun _ _ => trivial)
    (fun x => by rw [cnt_id]; exact h x)).2
  rw [this]
  exact (resultIdx_eq _).symm

/-- **result of a pairwise evaluation.**  With one extent per index, the same holds of the extents. -/
theorem res_eq (l r : Tree α) (hwf : ∀ A ∈ (node l r).ops, WF A) (h : AtMostTwice (node l r).ops) :
    (node l r).res = declared (node l r).ops := by
  obtain ⟨hw, hz⟩ := view_node Prod.fst zp WF
    (fun A B hA hB => ⟨hA.pairRes hB, zp_pairRes hA hB⟩) l r hwf
    (fun x => by rw [cnt_flatMap_zp hwf]; exact h x)
  obtain ⟨hz', hw'⟩ := zp_declared hwf
  exact operand_ext_zp hw hw' (hz.trans hz'.symm)

end Tree

section Shapes
variable {A B C : Operand}

/-- an operand as a leaf without values, for statements about index lists and extents -/
def Tree.bare (A : Operand) : Tree Unit := .leaf A []

theorem idx_v0 (h : AtMostTwice [A, B, C]) :
    (pairRes (pairRes A B) C).idx = (declared [A, B, C]).idx :=
  Tree.idx_eq (.node (.bare A) (.bare B)) (.bare C) h

theorem idx_v2 (h : AtMostTwice [A, B, C]) :
    (pairRes A (pairRes B C)).idx = (declared [A, B, C]).idx :=
  Tree.idx_eq (.bare A) (.node (.bare B) (.bare C)) h

theorem declared3_idx_split :
    (declared [A, B, C]).idx = freeIn [A, B, C] A ++ freeIn [A, B, C] B ++ freeIn [A, B, C] C := by
  rw [declared_idx]
  simp

theorem idx_v1 (h : AtMostTwice [A, B, C]) :
    (pairRes B (pairRes A C)).idx = freeIn [A, B, C] B ++ freeIn [A, B, C] A ++ freeIn [A, B, C] C := by
  have e : (pairRes B (pairRes A C)).idx = (declared [B, A, C]).idx :=
    Tree.idx_eq (.bare B) (.node (.bare A) (.bare C)) (h.perm (List.Perm.swap ..))
  rw [e, declared_idx, freeIn_perm (List.Perm.swap A B [C])]
  simp

/-- variant 1 gives the declared order exactly when operand 1 or operand 0 has no free index -/
theorem idx_v1_eq_iff (h : AtMostTwice [A, B, C]) :
    (pairRes B (pairRes A C)).idx = (declared [A, B, C]).idx ↔
      (freeIn [A, B, C] B = [] ∨ freeIn [A, B, C] A = []) := by
  rw [idx_v1 h, declared3_idx_split, List.append_left_inj]
  constructor
  · intro e
    cases hb : freeIn [A, B, C] B with
    | nil => exact Or.inl rfl
    | cons y b' =>
      cases ha : freeIn [A, B, C] A with
      | nil => exact Or.inr rfl
      | cons x a' =>
        exfalso
        rw [hb, ha] at e
        have hxy : y = x := (List.cons.inj e).1
        -- `x` would be free in both `A` and `B`: it occurs in each, but once in all
        have hxa : x ∈ freeIn [A, B, C] A := by rw [ha]; exact List.mem_cons_self
        have hxb : x ∈ freeIn [A, B, C] B := by rw [hb, hxy]; exact List.mem_cons_self
        obtain ⟨hxa, hc⟩ := List.mem_filter.1 hxa
        have h1 := List.count_pos_iff.2 hxa
        have h2 := List.count_pos_iff.2 (List.mem_filter.1 hxb).1
        simp only [List.flatMap_cons, List.flatMap_nil, List.count_append, beq_iff_eq] at hc
        omega
  · rintro (e | e) <;> simp [e]

theorem wf3 (hA : WF A) (hB : WF B) (hC : WF C) : ∀ X ∈ [A, B, C], WF X := by
  simp [hA, hB, hC]

theorem res_v0 (hA : WF A) (hB : WF B) (hC : WF C) (h : AtMostTwice [A, B, C]) :
    pairRes (pairRes A B) C = declared [A, B, C] :=
  Tree.res_eq (.node (.bare A) (.bare B)) (.bare C) (wf3 hA hB hC) h

theorem res_v2 (hA : WF A) (hB : WF B) (hC : WF C) (h : AtMostTwice [A, B, C]) :
    pairRes A (pairRes B C) = declared [A, B, C] :=
  Tree.res_eq (.bare A) (.node (.bare B) (.bare C)) (wf3 hA hB hC) h

theorem res_v1 (hA : WF A) (hB : WF B) (hC : WF C) (h : AtMostTwice [A, B, C])
    (hf : freeIn [A, B, C] B = [] ∨ freeIn [A, B, C] A = []) :
    pairRes B (pairRes A C) = declared [A, B, C] := by
  have e : pairRes B (pairRes A C) = declared [B, A, C] :=
    Tree.res_eq (.bare B) (.node (.bare A) (.bare C)) (wf3 hB hA hC) (h.perm (List.Perm.swap ..))
  apply operand_ext_of_perm (hB.pairRes (hA.pairRes hC)) (zp_declared (wf3 hA hB hC)).2
    ((idx_v1_eq_iff h).2 hf) (resultIdx_nodup _)
  rw [e]
  exact declared_perm (List.Perm.swap ..) (wf3 hA hB hC)

end Shapes

section Eval
variable {α : Type} [Zero α] [Add α] [Mul α]
open Tree

theorem eval3_tree (A B C : Operand) (a b c : List α) :
    ∃ l r : Tree α, ((node l r).res, (node l r).vals) = eval3 A B C a b c ∧
      (node l r).leaves.Perm [(A, a), (B, b), (C, c)] := by
  unfold eval3
  dsimp only
  split_ifs
  · exact ⟨node (leaf A a) (leaf B b), leaf C c, rfl, .refl _⟩
  · exact ⟨leaf B b, node (leaf A a) (leaf C c), rfl, .swap ..⟩
  · exact ⟨leaf A a, node (leaf B b) (leaf C c), rfl, .refl _⟩

theorem eval4_tree (A B C D : Operand) (a b c d : List α) :
    ∃ l r : Tree α, ((node l r).res, (node l r).vals) = eval4 A B C D a b c d ∧
      (node l r).leaves.Perm [(A, a), (B, b), (C, c), (D, d)] := by
  unfold eval4
  dsimp only
  split_ifs
  · obtain ⟨l, r, e, hp⟩ := eval3_tree A B C a b c
    exact ⟨node l r, leaf D d, by rw [← e]; rfl, hp.append_right _⟩
  · obtain ⟨l, r, e, hp⟩ := eval3_tree A B D a b d
    exact ⟨leaf C c, node l r, by rw [← e]; rfl,
      (hp.cons _).trans (List.perm_middle (l₁ := [(A, a), (B, b)])).symm⟩
  · obtain ⟨l, r, e, hp⟩ := eval3_tree A C D a c d
    exact ⟨leaf B b, node l r, by rw [← e]; rfl, (hp.cons _).trans (.swap ..)⟩
  · obtain ⟨l, r, e, hp⟩ := eval3_tree B C D b c d
    exact ⟨leaf A a, node l r, by rw [← e]; rfl, hp.cons _⟩

theorem eval3_fst (A B C : Operand) (a b c : List α) :
    (eval3 A B C a b c).1 = (triplet A B C).res := by
  unfold eval3
  by_cases h0 : (triplet A B C).variant = 0
  · simp [h0, triplet_res_v0 h0]
  · by_cases h1 : (triplet A B C).variant = 1
    · simp [h1, triplet_res_v1 h1]
    · simp [h0, h1, triplet_res_v2 h0 h1]

theorem eval4_fst (A B C D : Operand) (a b c d : List α) :
    (eval4 A B C D a b c d).1 = (quartet A B C D).res := by
  unfold eval4 quartet
  dsimp only
  simp only [eval3_fst]
  split_ifs <;> rfl

end Eval

/-- whatever the evaluation order, the computed result has the declared indices with their extents,
    up to order -/
theorem Tree.res_perm {α : Type} (l r : Tree α) {ops : List Operand}
    (hp : (Tree.node l r).ops.Perm ops) (hwf : ∀ A ∈ ops, WF A) (h : AtMostTwice ops) :
    (Tree.node l r).res.idx.Perm (declared ops).idx ∧
    (zp (Tree.node l r).res).Perm (zp (declared ops)) := by
  rw [Tree.res_eq l r (fun A hA => hwf A (hp.subset hA)) (h.perm hp)]
  exact ⟨declared_idx_perm hp, declared_perm hp hwf⟩

theorem triplet_res_perm {A B C : Operand} (hA : WF A) (hB : WF B) (hC : WF C)
    (h : AtMostTwice [A, B, C]) :
    (triplet A B C).res.idx.Perm (declared [A, B, C]).idx ∧
    (zp (triplet A B C).res).Perm (zp (declared [A, B, C])) := by
  obtain ⟨l, r, e, hp⟩ := eval3_tree A B C ([] : List Nat) [] []
  rw [← eval3_fst A B C ([] : List Nat) [] [], ← e]
  exact Tree.res_perm l r (hp.map Prod.fst) (wf3 hA hB hC) h

theorem quartet_res_perm {A B C D : Operand} (hA : WF A) (hB : WF B) (hC : WF C) (hD : WF D)
    (h : AtMostTwice [A, B, C, D]) :
    (quartet A B C D).res.idx.Perm (declared [A, B, C, D]).idx ∧
    (zp (quartet A B C D).res).Perm (zp (declared [A, B, C, D])) := by
  obtain ⟨l, r, e, hp⟩ := eval4_tree A B C D ([] : List Nat) [] [] []
  rw [← eval4_fst A B C D ([] : List Nat) [] [] [], ← e]
  exact Tree.res_perm l r (hp.map Prod.fst) (by simp [hA, hB, hC, hD]) h

/-- the contracted (repeated) index names of a concatenated index list, in loop order -/
def contracted (cat : List Nat) : List Nat := (uniq cat).filter fun x => cat.count x != 1

theorem mem_contracted {cat : List Nat} {x : Nat} : x ∈ contracted cat ↔ 2 ≤ cat.count x := by
  unfold contracted
  rw [List.mem_filter, mem_uniq, ← List.count_pos_iff, bne_iff_ne]
  omega

theorem contracted_nodup (cat : List Nat) : (contracted cat).Nodup := (uniq_nodup cat).filter _

def names {γ : Type} (L : List (Operand × γ)) : List Nat := (L.map Prod.fst).flatMap (·.idx)

theorem count_names_append {γ : Type} (L M : List (Operand × γ)) (x : Nat) :
    (names (L ++ M)).count x = (names L).count x + (names M).count x := by
  simp [names]

section Sum
variable {R : Type} [CommSemiring R]
open Finset

def upd (σ : Nat → Nat) (n i : Nat) : Nat → Nat := fun x => if x = n then i else σ x

/-- `sumOver ext ns σ f`: the sum of `f τ` over all assignments `τ` that agree with `σ` outside `ns`
    and give every name `n ∈ ns` a value below its extent `ext n` -/
def sumOver (ext : Nat → Nat) : List Nat → (Nat → Nat) → ((Nat → Nat) → R) → R
  | [], σ, f => f σ
  | n :: ns, σ, f => ∑ i ∈ range (ext n), sumOver ext ns (upd σ n i) f

variable (ext : Nat → Nat)

theorem sumOver_append (ns ms : List Nat) (σ : Nat → Nat) (f : (Nat → Nat) → R) :
    sumOver ext (ns ++ ms) σ f = sumOver ext ns σ (fun τ => sumOver ext ms τ f) := by
  induction ns generalizing σ with
  | nil => rfl
  | cons n ns ih =>
    simp only [List.cons_append, sumOver]
    exact Finset.sum_congr rfl (fun i _ => ih _)

theorem sumOver_congr (ns : List Nat) (σ : Nat → Nat) (f g : (Nat → Nat) → R)
    (h : ∀ τ, (∀ x, x ∉ ns → τ x = σ x) → (∀ x ∈ ns, τ x < ext x) → f τ = g τ) :
    sumOver ext ns σ f = sumOver ext ns σ g := by
  induction ns generalizing σ with
  | nil => exact h σ (fun _ _ => rfl) (fun _ hx => by cases hx)
  | cons n ns ih =>
    simp only [sumOver]
    refine Finset.sum_congr rfl fun i hi => ih _ fun τ h1 h2 => h τ (fun x hx => ?_) fun x hx => ?_
    · rw [List.mem_cons, not_or] at hx
      rw [h1 x hx.2, upd, if_neg hx.1]
    · by_cases hxs : x ∈ ns
      · exact h2 x hxs
      · obtain rfl : x = n := (List.mem_cons.1 hx).resolve_right hxs
        rw [h1 x hxs, upd, if_pos rfl]
        exact Finset.mem_range.1 hi

theorem sumOver_mul_const (ns : List Nat) (σ : Nat → Nat) (g h : (Nat → Nat) → R)
    (hh : ∀ τ n i, n ∈ ns → h (upd τ n i) = h τ) :
    sumOver ext ns σ (fun τ => g τ * h τ) = sumOver ext ns σ g * h σ := by
  induction ns generalizing σ with
  | nil => rfl
  | cons n ns ih =>
    simp only [sumOver]
    rw [Finset.sum_mul]
    apply Finset.sum_congr rfl
    intro i _
    rw [ih _ (fun τ m j hm => hh τ m j (List.mem_cons_of_mem _ hm)), hh σ n i List.mem_cons_self]

theorem upd_comm (σ : Nat → Nat) {x y : Nat} (hxy : x ≠ y) (i j : Nat) :
    upd (upd σ y i) x j = upd (upd σ x j) y i := by
  funext z
  unfold upd
  by_cases h1 : z = x
  · subst h1; simp [hxy]
  · simp [h1]

theorem sumOver_perm {ns ms : List Nat} (h : ns.Perm ms) :
    ∀ (σ : Nat → Nat) (f : (Nat → Nat) → R), sumOver ext ns σ f = sumOver ext ms σ f := by
  induction h with
  | nil => intros; rfl
  | cons x _ ih =>
    intro σ f
    simp only [sumOver]
    exact Finset.sum_congr rfl (fun i _ => ih _ _)
  | swap x y l =>
    intro σ f
    simp only [sumOver]
    by_cases hxy : x = y
    · subst hxy; rfl
    · rw [Finset.sum_comm]
      apply Finset.sum_congr rfl
      intro j _
      apply Finset.sum_congr rfl
      intro i _
      rw [upd_comm σ hxy]
  | trans _ _ ih1 ih2 =>
    intro σ f
    rw [ih1, ih2]

theorem sumOver_of_mem_iff {ns ms : List Nat} (h1 : ns.Nodup) (h2 : ms.Nodup)
    (h : ∀ x, x ∈ ns ↔ x ∈ ms) (σ : Nat → Nat) (f : (Nat → Nat) → R) :
    sumOver ext ns σ f = sumOver ext ms σ f :=
  sumOver_perm ext ((List.perm_ext_iff_of_nodup h1 h2).2 h) σ f

theorem sumOver_const_mul (ns : List Nat) (σ : Nat → Nat) (g h : (Nat → Nat) → R)
    (hh : ∀ τ n i, n ∈ ns → h (upd τ n i) = h τ) :
    sumOver ext ns σ (fun τ => h τ * g τ) = h σ * sumOver ext ns σ g := by
  rw [mul_comm, ← sumOver_mul_const ext ns σ g h hh]
  congr 1
  funext τ
  exact mul_comm _ _

theorem sumOver_upd (ns : List Nat) (σ : Nat → Nat) (f : (Nat → Nat) → R) {n : Nat} (i : Nat)
    (hn : n ∉ ns) (hf : ∀ τ, f (upd τ n i) = f τ) :
    sumOver ext ns (upd σ n i) f = sumOver ext ns σ f := by
  induction ns generalizing σ with
  | nil => exact hf σ
  | cons m ns ih =>
    rw [List.mem_cons, not_or] at hn
    simp only [sumOver]
    apply Finset.sum_congr rfl
    intro j _
    rw [upd_comm σ (Ne.symm hn.1), ih _ hn.2]

theorem sumOver_mul_sumOver (S₁ S₂ : List Nat) (σ : Nat → Nat) (g₁ g₂ : (Nat → Nat) → R)
    (h₂ : ∀ n ∈ S₁, n ∉ S₂ ∧ ∀ τ i, g₂ (upd τ n i) = g₂ τ)
    (h₁ : ∀ n ∈ S₂, ∀ τ i, g₁ (upd τ n i) = g₁ τ) :
    sumOver ext S₁ σ g₁ * sumOver ext S₂ σ g₂ = sumOver ext (S₁ ++ S₂) σ (fun τ => g₁ τ * g₂ τ) := by
  rw [sumOver_append, ← sumOver_mul_const ext S₁ σ g₁ (fun υ => sumOver ext S₂ υ g₂)
    fun τ n i hn => sumOver_upd ext S₂ τ g₂ i (h₂ n hn).1 fun υ => (h₂ n hn).2 υ i]
  congr 1
  funext υ
  exact (sumOver_const_mul ext S₂ υ g₂ g₁ fun τ n i hn => h₁ n hn τ i).symm

def rowMajor (dims x : List Nat) : Nat :=
  ((strides dims).zip x).foldl (fun acc sp => acc + sp.1 * sp.2) 0

def offset (A : Operand) (σ : Nat → Nat) : Nat := rowMajor A.dims (A.idx.map σ)

theorem offset_upd (A : Operand) (σ : Nat → Nat) {n : Nat} (i : Nat) (hn : n ∉ A.idx) :
    offset A (upd σ n i) = offset A σ := by
  unfold offset
  congr 1
  apply List.map_congr_left
  intro x hx
  have : x ≠ n := fun e => hn (e ▸ hx)
  simp [upd, this]

def term (ops : List Operand) (vals : List (List R)) (σ : Nat → Nat) : R :=
  ((ops.zip vals).map fun ov => ov.2.getD (offset ov.1 σ) 0).prod

/-- **the Einstein sum** of a network as a function of the named free indices: `σ` fixes the free
    names; every contracted (repeated) name ranges over its extent -/
def einsteinSum (ext : Nat → Nat) (ops : List Operand) (vals : List (List R)) (σ : Nat → Nat) : R :=
  sumOver ext (contracted (ops.flatMap (·.idx))) σ (term ops vals)

theorem term2 (A B : Operand) (a b : List R) (σ : Nat → Nat) :
    term [A, B] [a, b] σ = a.getD (offset A σ) 0 * b.getD (offset B σ) 0 := by
  simp [term]

theorem flatMap2 {γ : Type} (f : Operand → List γ) (A B : Operand) :
    [A, B].flatMap f = f A ++ f B := by simp

theorem amt2_iff {X Y : Operand} :
    AtMostTwice [X, Y] ↔ ∀ x, X.idx.count x + Y.idx.count x ≤ 2 := by
  unfold AtMostTwice
  simp only [flatMap2, List.count_append]

def termL (L : List (Operand × List R)) (σ : Nat → Nat) : R :=
  (L.map fun p => p.2.getD (offset p.1 σ) 0).prod

theorem termL_append (L M : List (Operand × List R)) (σ : Nat → Nat) :
    termL (L ++ M) σ = termL L σ * termL M σ := by
  unfold termL
  rw [List.map_append, List.prod_append]

theorem termL_upd (L : List (Operand × List R)) (τ : Nat → Nat) {n : Nat} (i : Nat)
    (hn : n ∉ names L) : termL L (upd τ n i) = termL L τ := by
  unfold termL
  congr 1
  apply List.map_congr_left
  intro p hp
  rw [offset_upd]
  exact fun h => hn (List.mem_flatMap.2 ⟨p.1, List.mem_map_of_mem hp, h⟩)

theorem einsteinSum_eq (L : List (Operand × List R)) (σ : Nat → Nat) :
    einsteinSum ext (L.map Prod.fst) (L.map Prod.snd) σ
      = sumOver ext (contracted (names L)) σ (termL L) := by
  unfold einsteinSum term
  rw [← List.zip_of_prod rfl rfl]
  rfl

theorem einsteinSum_perm {L M : List (Operand × List R)} (h : L.Perm M) (σ : Nat → Nat) :
    einsteinSum ext (L.map Prod.fst) (L.map Prod.snd) σ
      = einsteinSum ext (M.map Prod.fst) (M.map Prod.snd) σ := by
  have e : termL L = termL M := funext fun τ => (h.map _).prod_eq
  rw [einsteinSum_eq, einsteinSum_eq, e]
  refine sumOver_of_mem_iff ext (contracted_nodup _) (contracted_nodup _) (fun x => ?_) σ _
  unfold names
  rw [mem_contracted, mem_contracted, ((h.map _).flatMap_right _).count_eq]

/-- The buffer `v`, laid out with the index list of `T`, holds a partial Einstein sum of the network
    `L`: the cell addressed by `τ` is the sum of the terms of `L` over the names `S`.  Every summed
    name is a repeated one, and `T` lists each other name as often as it occurs in `L`.  (A single
    operand is the case `S = []`; the result of a contraction sums all repeated names and lists the
    others once.) -/
structure Partial (T : Operand) (v : List R) (L : List (Operand × List R)) (S : List Nat) : Prop where
  nodup : S.Nodup
  two : ∀ x ∈ S, 2 ≤ (names L).count x
  idx : ∀ x, T.idx.count x = if x ∈ S then 0 else (names L).count x
  val : ∀ τ, (∀ x ∈ T.idx, τ x < ext x) → v.getD (offset T τ) 0 = sumOver ext S τ (termL L)

namespace Partial
variable {ext}
variable {T T₁ T₂ : Operand} {v v₁ v₂ : List R} {L L₁ L₂ : List (Operand × List R)} {S S₁ S₂ : List Nat}

theorem leaf (A : Operand) (a : List R) : Partial ext A a [(A, a)] [] :=
  ⟨List.nodup_nil, fun _ hx => absurd hx List.not_mem_nil, fun x => by simp [names],
    fun τ _ => by simp [sumOver, termL]⟩

theorem of_contracted (hidx : ∀ x, T.idx.count x = if (names L).count x = 1 then 1 else 0)
    (hval : ∀ τ, (∀ x ∈ T.idx, τ x < ext x) →
      v.getD (offset T τ) 0 = einsteinSum ext (L.map Prod.fst) (L.map Prod.snd) τ) :
    Partial ext T v L (contracted (names L)) := by
  refine ⟨contracted_nodup _, fun x hx => mem_contracted.1 hx, fun x => ?_, fun τ hτ => ?_⟩
  · simp only [hidx, mem_contracted]
    split_ifs <;> omega
  · rw [hval τ hτ, einsteinSum_eq]

theorem mem_iff (h : Partial ext T v L S) (x : Nat) : x ∈ S ↔ T.idx.count x ≠ (names L).count x := by
  have := h.idx x
  by_cases hx : x ∈ S
  · have := h.two x hx
    rw [if_pos hx] at *
    simp only [hx, true_iff]
    omega
  · rw [if_neg hx] at this
    simp only [hx, false_iff]
    omega

theorem count_or (h : Partial ext T v L S) (x : Nat) :
    T.idx.count x = (names L).count x ∨ (T.idx.count x = 0 ∧ 2 ≤ (names L).count x) := by
  have := h.idx x
  by_cases hx : x ∈ S
  · rw [if_pos hx] at this
    exact Or.inr ⟨this, h.two x hx⟩
  · rw [if_neg hx] at this
    exact Or.inl this

theorem sep (h₁ : Partial ext T₁ v₁ L₁ S₁) (h₂ : Partial ext T₂ v₂ L₂ S₂)
    (h : ∀ x, (names L₁).count x + (names L₂).count x ≤ 2) {n : Nat} (hn : n ∈ S₁) :
    n ∉ S₂ ∧ n ∉ names L₂ := by
  have := h₁.count_or n
  have := h₂.count_or n
  have := h n
  rw [h₁.mem_iff] at hn
  rw [h₂.mem_iff, ← List.count_eq_zero]
  omega

/-- **composition of Einstein sums.**  Contracting two partial Einstein sums of two networks that
    share no name more than twice gives the Einstein sum of the two networks together. -/
theorem einsteinSum_pair (h₁ : Partial ext T₁ v₁ L₁ S₁) (h₂ : Partial ext T₂ v₂ L₂ S₂)
    (hamt : AtMostTwice ((L₁ ++ L₂).map Prod.fst)) (σ : Nat → Nat)
    (hσ : ∀ x ∈ (declared ((L₁ ++ L₂).map Prod.fst)).idx, σ x < ext x) :
    einsteinSum ext [T₁, T₂] [v₁, v₂] σ
      = einsteinSum ext ((L₁ ++ L₂).map Prod.fst) ((L₁ ++ L₂).map Prod.snd) σ := by
  have h : ∀ x, (names L₁).count x + (names L₂).count x ≤ 2 := fun x =>
    count_names_append L₁ L₂ x ▸ hamt x
  have facts := fun x => And.intro (h₁.count_or x) (And.intro (h₂.count_or x) (h x))
  have step : ∀ τ, (∀ x, x ∉ contracted (T₁.idx ++ T₂.idx) → τ x = σ x) →
      (∀ x ∈ contracted (T₁.idx ++ T₂.idx), τ x < ext x) →
      term [T₁, T₂] [v₁, v₂] τ = sumOver ext (S₁ ++ S₂) τ (termL (L₁ ++ L₂)) := by
    intro τ hout hin
    -- the names the two layouts mention are in range: contracted here, or free in the whole
    have hτ : ∀ x, 0 < T₁.idx.count x + T₂.idx.count x → τ x < ext x := by
      intro x hx
      by_cases hc : x ∈ contracted (T₁.idx ++ T₂.idx)
      · exact hin x hc
      · rw [hout x hc]
        apply hσ
        rw [show (declared ((L₁ ++ L₂).map Prod.fst)).idx = resultIdx (names (L₁ ++ L₂)) from rfl,
          mem_resultIdx, count_names_append]
        rw [mem_contracted, List.count_append] at hc
        have := facts x
        omega
    rw [term2, h₁.val τ fun x hx => hτ x (by have := List.count_pos_iff.2 hx; omega),
      h₂.val τ fun x hx => hτ x (by have := List.count_pos_iff.2 hx; omega),
      sumOver_mul_sumOver ext S₁ S₂ τ _ _
        (fun n hn => ⟨(h₁.sep h₂ h hn).1, fun υ i => termL_upd L₂ υ i (h₁.sep h₂ h hn).2⟩)
        (fun n hn υ i => termL_upd L₁ υ i
          (h₂.sep h₁ (fun x => by have := h x; omega) hn).2)]
    congr 1
    funext υ
    exact (termL_append L₁ L₂ υ).symm
  rw [einsteinSum_eq]
  unfold einsteinSum
  rw [flatMap2, sumOver_congr ext _ σ _ _ step, ← sumOver_append]
  apply sumOver_of_mem_iff
  · rw [List.nodup_append]
    refine ⟨contracted_nodup _, ?_, ?_⟩
    · rw [List.nodup_append]
      exact ⟨h₁.nodup, h₂.nodup, fun a ha b hb e => (h₁.sep h₂ h ha).1 (e ▸ hb)⟩
    · intro a ha b hb e
      subst e
      rw [mem_contracted, List.count_append] at ha
      rw [List.mem_append, h₁.mem_iff, h₂.mem_iff] at hb
      have := facts a
      omega
  · exact contracted_nodup _
  · intro x
    rw [List.mem_append, List.mem_append, mem_contracted, mem_contracted, h₁.mem_iff, h₂.mem_iff,
      List.count_append, count_names_append]
    have := facts x
    omega

end Partial

/-- the extents of operand `A` are those the environment `ext` assigns to its index names
    (so every occurrence of a name carries the same extent, and `idx.length = dims.length`) -/
def Cons (ext : Nat → Nat) (A : Operand) : Prop := A.dims = A.idx.map ext

instance (ext : Nat → Nat) (A : Operand) : Decidable (Cons ext A) := by unfold Cons; infer_instance

theorem Cons.wf {A : Operand} (h : Cons ext A) : WF A := by
  unfold WF; rw [h]; simp

theorem Cons.pairRes {A B : Operand} (hA : Cons ext A) (hB : Cons ext B) : Cons ext (pairRes A B) := by
  unfold Cons at *
  show resultDims _ _ = (resultIdx _).map ext
  rw [hA, hB, ← List.map_append, resultDims_map]

/-- **the pairwise loop-nest fact, as a hypothesis.**  For operands with consistent extents and every
    name occurring at most twice, the cell of `pairVals A B a b` addressed by the free names of `σ`
    holds the Einstein sum of the pair (all assignments that agree with `σ` on the free names).
    This is the content of the pairwise theorem about `Pair.loopEvents`/`accAt` (C03), restated over
    named assignments. -/
def PairwiseCorrect (R : Type) [CommSemiring R] (ext : Nat → Nat) : Prop :=
  ∀ (A B : Operand) (a b : List R), Cons ext A → Cons ext B → AtMostTwice [A, B] →
    ∀ σ : Nat → Nat, (∀ x ∈ (pairRes A B).idx, σ x < ext x) →
      (pairVals A B a b).getD (offset (pairRes A B) σ) 0 = einsteinSum ext [A, B] [a, b] σ

/-- a node of an evaluation order: what the loop nest makes of two partial Einstein sums -/
theorem Partial.node (hpair : PairwiseCorrect R ext) {T₁ T₂ : Operand} {v₁ v₂ : List R}
    {L₁ L₂ : List (Operand × List R)} {S₁ S₂ : List Nat}
    (h₁ : Partial ext T₁ v₁ L₁ S₁) (h₂ : Partial ext T₂ v₂ L₂ S₂) (c₁ : Cons ext T₁) (c₂ : Cons ext T₂)
    (hamt : AtMostTwice ((L₁ ++ L₂).map Prod.fst)) :
    Partial ext (pairRes T₁ T₂) (pairVals T₁ T₂ v₁ v₂) (L₁ ++ L₂) (contracted (names (L₁ ++ L₂))) := by
  have h : ∀ x, (names L₁).count x + (names L₂).count x ≤ 2 := fun x =>
    count_names_append L₁ L₂ x ▸ hamt x
  have free : ∀ x, (T₁.idx ++ T₂.idx).count x = 1 ↔ (names (L₁ ++ L₂)).count x = 1 := by
    intro x
    have := h₁.count_or x
    have := h₂.count_or x
    have := h x
    rw [List.count_append, count_names_append]
    omega
  apply Partial.of_contracted
  · intro x
    rw [show (pairRes T₁ T₂).idx = resultIdx (T₁.idx ++ T₂.idx) from rfl, count_resultIdx]
    exact if_congr (free x) rfl rfl
  · intro τ hτ
    rw [hpair T₁ T₂ v₁ v₂ c₁ c₂ (amt2_iff.2 fun x => by
      have := h₁.count_or x
      have := h₂.count_or x
      have := h x
      omega) τ hτ]
    exact h₁.einsteinSum_pair h₂ hamt τ fun x hx =>
      hτ x (mem_resultIdx.2 ((free x).2 (mem_resultIdx.1 hx)))

namespace Tree

def summed : Tree R → List Nat
  | leaf _ _ => []
  | node l r => contracted (names (node l r).leaves)

theorem partial_eval (hpair : PairwiseCorrect R ext) (t : Tree R) (hc : ∀ A ∈ t.ops, Cons ext A)
    (h : AtMostTwice t.ops) : Cons ext t.res ∧ Partial ext t.res t.vals t.leaves t.summed := by
  induction t with
  | leaf A a => exact ⟨hc A List.mem_cons_self, Partial.leaf A a⟩
  | node l r ihl ihr =>
    rw [ops_node] at hc
    have h' : ∀ x, (names l.leaves).count x + (names r.leaves).count x ≤ 2 := fun x => by
      rw [← count_names_append]
      exact h x
    obtain ⟨cl, pl⟩ := ihl (fun A hA => hc A (List.mem_append_left _ hA)) fun x => by
      have := h' x
      exact Nat.le_trans (Nat.le_add_right _ _) this
    obtain ⟨cr, pr⟩ := ihr (fun A hA => hc A (List.mem_append_right _ hA)) fun x => by
      have := h' x
      exact Nat.le_trans (Nat.le_add_left _ _) this
    exact ⟨cl.pairRes ext cr, pl.node ext hpair pr cl cr h⟩

/-- **values of a pairwise evaluation.**  Relative to the pairwise loop-nest fact: whatever the
    order in which the operands `L` (consistent extents, no name more than twice) are contracted
    pairwise, the cell of the computed buffer addressed — in the computed index order — by the free
    names of `σ` holds the Einstein sum of all operands. -/
theorem value (hpair : PairwiseCorrect R ext) (l r : Tree R) {L : List (Operand × List R)}
    (hp : (node l r).leaves.Perm L) (hc : ∀ p ∈ L, Cons ext p.1) (h : AtMostTwice (L.map Prod.fst))
    (σ : Nat → Nat) (hσ : ∀ x ∈ (declared (L.map Prod.fst)).idx, σ x < ext x) :
    (node l r).vals.getD (offset (node l r).res σ) 0
      = einsteinSum ext (L.map Prod.fst) (L.map Prod.snd) σ := by
  have hp' : (node l r).ops.Perm (L.map Prod.fst) := hp.map _
  obtain ⟨_, hP⟩ := partial_eval ext hpair (node l r)
    (fun A hA => by
      obtain ⟨p, hpL, rfl⟩ := List.mem_map.1 (hp'.subset hA)
      exact hc p hpL)
    (h.perm hp')
  rw [hP.val σ ?_, show (node l r).summed = contracted (names (node l r).leaves) from rfl,
    ← einsteinSum_eq, einsteinSum_perm ext hp]
  intro x hx
  rw [idx_eq l r (h.perm hp')] at hx
  exact hσ x ((declared_idx_perm hp').mem_iff.1 hx)

end Tree

/-- **values of the 3-operand einsum, relative to the pairwise fact.**  Whatever variant the cost
    model selects, the cell of the computed result addressed (in the *computed* index order) by the
    free names of `σ` holds the full three-operand Einstein sum. -/
theorem eval3_value_of_pairwise (hpair : PairwiseCorrect R ext) (A B C : Operand)
    (hA : Cons ext A) (hB : Cons ext B) (hC : Cons ext C) (h : AtMostTwice [A, B, C])
    (a b c : List R) (σ : Nat → Nat) (hσ : ∀ x ∈ (declared [A, B, C]).idx, σ x < ext x) :
    (eval3 A B C a b c).2.getD (offset (eval3 A B C a b c).1 σ) 0
      = einsteinSum ext [A, B, C] [a, b, c] σ := by
  obtain ⟨l, r, e, hp⟩ := eval3_tree A B C a b c
  rw [← e]
  exact Tree.value ext hpair l r hp (by simp [hA, hB, hC]) h σ hσ

/-- **values of the 4-operand einsum, relative to the pairwise fact** -/
theorem eval4_value_of_pairwise (hpair : PairwiseCorrect R ext) (A B C D : Operand)
    (hA : Cons ext A) (hB : Cons ext B) (hC : Cons ext C) (hD : Cons ext D)
    (h : AtMostTwice [A, B, C, D]) (a b c d : List R) (σ : Nat → Nat)
    (hσ : ∀ x ∈ (declared [A, B, C, D]).idx, σ x < ext x) :
    (eval4 A B C D a b c d).2.getD (offset (eval4 A B C D a b c d).1 σ) 0
      = einsteinSum ext [A, B, C, D] [a, b, c, d] σ := by
  obtain ⟨l, r, e, hp⟩ := eval4_tree A B C D a b c d
  rw [← e]
  exact Tree.value ext hpair l r hp (by simp [hA, hB, hC, hD]) h σ hσ

theorem Partial.of_pair {A B : Operand} {a b pv : List R}
    (hpv : ∀ τ, (∀ x ∈ (pairRes A B).idx, τ x < ext x) →
      pv.getD (offset (pairRes A B) τ) 0 = einsteinSum ext [A, B] [a, b] τ) :
    Partial ext (pairRes A B) pv [(A, a), (B, b)] (contracted (names [(A, a), (B, b)])) :=
  Partial.of_contracted (fun x => by
    rw [show (pairRes A B).idx = resultIdx (A.idx ++ B.idx) from rfl, count_resultIdx]
    simp [names]) hpv

/-! ### from the list-indexed loop-nest statement (C03) to `PairwiseCorrect`

The pairwise theorem of C03 is phrased over the loop nest's own data: assignments are *lists* (one
value per unique index name, in `uniq` order) and a result cell is addressed by a multi-index.
`LoopnestCell` restates it with model definitions only; `pairwiseCorrect_of_loopnestCell` converts
it to the named form used above. -/

/-- the cell-wise loop-nest statement of C03 (`Pair.loopnest_cell`), in model terms only: the cell with
    in-range result multi-index `m` holds the sum of the terms of all loop assignments whose free part
    is `m` -/
def LoopnestCell (R : Type) [CommSemiring R] : Prop :=
  ∀ (p : Pair), p.I.length = p.dI.length → p.J.length = p.dJ.length →
    ∀ (a b : Nat → R) (m : List Nat), List.Forall₂ (· < ·) m p.resDims →
      accAt a b (p.loopEvents 1) (rowMajor p.resDims m)
        = (((assignments p.loopDims 1).filter
              (fun s => decide ((posIn p.cat p.resIdx).map (s.getD · 0) = m))).map
            (fun s => a (flatAt p.dI (posIn p.cat p.I) s) * b (flatAt p.dJ (posIn p.cat p.J) s))).sum

theorem list_sum_range (f : Nat → R) (n : Nat) :
    ((List.range n).map f).sum = ∑ i ∈ range n, f i := by
  induction n with
  | zero => simp
  | succ n ih =>
    rw [List.range_succ, List.map_append, List.sum_append, ih, Finset.sum_range_succ]
    simp

theorem sum_map_flatMap {γ δ : Type} (l : List γ) (f : γ → List δ) (g : δ → R) :
    ((l.flatMap f).map g).sum = (l.map fun i => ((f i).map g).sum).sum := by
  induction l with
  | nil => simp
  | cons x xs ih => simp [List.flatMap_cons, ih]

theorem sum_filter_map {γ : Type} (c : γ → Bool) (T : γ → R) (L : List γ) :
    ((L.filter c).map T).sum = (L.map fun s => if c s then T s else 0).sum := by
  induction L with
  | nil => simp
  | cons x xs ih =>
    rw [List.filter_cons]
    by_cases h : c x = true
    · simp [h, ih]
    · simp [h, ih]

/-- list assignment `s` of the names `U` laid over `σ` -/
def ov (σ : Nat → Nat) (U s : List Nat) : Nat → Nat :=
  fun x => if x ∈ U then s.getD (U.idxOf x) 0 else σ x

theorem ov_cons (σ : Nat → Nat) (n : Nat) (U : List Nat) (hn : n ∉ U) (i : Nat) (r : List Nat) :
    ov σ (n :: U) (i :: r) = ov (upd σ n i) U r := by
  funext x
  unfold ov upd
  by_cases hx : x = n
  · subst hx
    simp [hn]
  · by_cases hU : x ∈ U
    · have : (n :: U).idxOf x = U.idxOf x + 1 := by
        rw [List.idxOf_cons_ne _ (fun e => hx e.symm)]
      simp [hx, hU, this]
    · simp [hx, hU]

/-- reading a list assignment of the loop variables through `posIn` is reading the named assignment -/
theorem map_ov (σ : Nat → Nat) {cat idx : List Nat} (h : ∀ x ∈ idx, x ∈ cat) (s : List Nat) :
    idx.map (ov σ (uniq cat) s) = (posIn cat idx).map (s.getD · 0) := by
  unfold posIn
  rw [List.map_map]
  exact List.map_congr_left fun x hx => if_pos (mem_uniq.2 (h x hx))

/-- the loop nest enumerates every named assignment of its variables exactly once -/
theorem sum_assignments (U : List Nat) (hU : U.Nodup) (σ : Nat → Nat) (G : (Nat → Nat) → R) :
    ((assignments (U.map ext) 1).map fun s => G (ov σ U s)).sum = sumOver ext U σ G := by
  induction U generalizing σ with
  | nil =>
    have : ov σ [] [] = σ := by funext x; simp [ov]
    simp [assignments, sumOver, this]
  | cons n U ih =>
    rw [List.nodup_cons] at hU
    rw [List.map_cons, assignments_cons_one, sum_map_flatMap, list_sum_range]
    simp only [sumOver]
    apply Finset.sum_congr rfl
    intro i _
    rw [List.map_map, ← ih hU.2 (upd σ n i)]
    congr 1
    apply List.map_congr_left
    intro r _
    simp only [Function.comp]
    rw [ov_cons σ n U hU.1]

theorem sumOver_zero (ns : List Nat) (σ : Nat → Nat) :
    sumOver ext ns σ (fun _ => (0 : R)) = 0 := by
  induction ns generalizing σ with
  | nil => rfl
  | cons n ns ih => simp only [sumOver, ih, Finset.sum_const_zero]

theorem sumOver_ite (ns : List Nat) (σ : Nat → Nat) (c : (Nat → Nat) → Prop) [DecidablePred c]
    (f : (Nat → Nat) → R) (hc : ∀ τ, (∀ x, x ∉ ns → τ x = σ x) → (c τ ↔ c σ)) :
    sumOver ext ns σ (fun τ => if c τ then f τ else 0) = if c σ then sumOver ext ns σ f else 0 := by
  by_cases h : c σ
  · rw [if_pos h]
    exact sumOver_congr ext ns σ _ _ fun τ h1 _ => if_pos ((hc τ h1).2 h)
  · rw [if_neg h]
    refine Eq.trans ?_ (sumOver_zero ext ns σ)
    exact sumOver_congr ext ns σ _ _ fun τ h1 _ => if_neg (mt (hc τ h1).1 h)

/-- the point assignment: summing over `Fr` a function that vanishes unless `τ` agrees with `σ₀` on
    `Fr` picks the single assignment that does -/
theorem sumOver_delta (Fr : List Nat) (hnd : Fr.Nodup) (σ₀ : Nat → Nat)
    (hr : ∀ x ∈ Fr, σ₀ x < ext x) (K : (Nat → Nat) → R) (σ : Nat → Nat) :
    sumOver ext Fr σ (fun τ => if Fr.map τ = Fr.map σ₀ then K τ else 0)
      = K (fun x => if x ∈ Fr then σ₀ x else σ x) := by
  induction Fr generalizing σ with
  | nil => simp [sumOver]
  | cons n Fr ih =>
    rw [List.nodup_cons] at hnd
    have hstep : ∀ i, sumOver ext Fr (upd σ n i)
        (fun τ => if (n :: Fr).map τ = (n :: Fr).map σ₀ then K τ else 0)
        = if i = σ₀ n then K (fun x => if x ∈ Fr then σ₀ x else upd σ n i x) else 0 := by
      intro i
      simp only [List.map_cons, List.cons.injEq, ite_and]
      rw [sumOver_ite ext Fr _ (fun τ => τ n = σ₀ n) _ fun τ h => by rw [h n hnd.1],
        ih hnd.2 fun x hx => hr x (List.mem_cons_of_mem _ hx)]
      simp [upd]
    simp only [sumOver]
    rw [Finset.sum_congr rfl fun i _ => hstep i, Finset.sum_ite_eq' (range (ext n)) (σ₀ n),
      if_pos (Finset.mem_range.2 (hr n List.mem_cons_self))]
    congr 1
    funext x
    by_cases hx : x = n
    · subst hx; simp [hnd.1, upd]
    · simp [hx, upd]

/-- **the bridge.**  The list-indexed cell statement of C03 gives the named pairwise fact. -/
theorem pairwiseCorrect_of_loopnestCell (hcell : LoopnestCell R) : PairwiseCorrect R ext := by
  intro A B a b hA hB _ σ hσ
  let p : Pair := ⟨A.idx, B.idx, A.dims, B.dims⟩
  have hcatD : p.catDims = p.cat.map ext := by
    show A.dims ++ B.dims = (A.idx ++ B.idx).map ext
    rw [hA, hB, List.map_append]
  have hresD : p.resDims = p.resIdx.map ext := by
    show resultDims p.cat p.catDims = _
    rw [hcatD, resultDims_map]; rfl
  have hloop : p.loopDims = (uniq p.cat).map ext := by
    show loopDims p.cat p.catDims = _
    rw [hcatD, loopDims_map]
  have hm : List.Forall₂ (· < ·) (p.resIdx.map σ) p.resDims := by
    rw [hresD, List.forall₂_map_left_iff, List.forall₂_map_right_iff, List.forall₂_same]
    exact hσ
  have hq : rowMajor p.resDims (p.resIdx.map σ) < prod p.resDims := flat_lt_prod hm
  have hcellq : (pairVals A B a b).getD (offset (pairRes A B) σ) 0
      = accAt (fun k => a.getD k 0) (fun k => b.getD k 0) (p.loopEvents 1)
          (rowMajor p.resDims (p.resIdx.map σ)) := by
    show (runAcc _ _ (prod p.resDims) (p.loopEvents 1)).getD (rowMajor p.resDims (p.resIdx.map σ)) 0 = _
    unfold runAcc
    rw [List.getD_eq_getElem?_getD, List.getElem?_map, List.getElem?_range hq]
    rfl
  rw [hcellq, hcell p (hA.wf ext) (hB.wf ext) _ _ _ hm, sum_filter_map, hloop]
  let G : (Nat → Nat) → R := fun τ =>
    if p.resIdx.map τ = p.resIdx.map σ then term [A, B] [a, b] τ else 0
  have hG : ∀ s, (if decide ((posIn p.cat p.resIdx).map (s.getD · 0) = p.resIdx.map σ) = true
        then (fun k => a.getD k 0) (flatAt p.dI (posIn p.cat p.I) s)
          * (fun k => b.getD k 0) (flatAt p.dJ (posIn p.cat p.J) s) else 0)
      = G (ov σ (uniq p.cat) s) := by
    intro s
    simp only [G, term2, offset, decide_eq_true_eq]
    rw [map_ov σ (cat := p.cat) (idx := A.idx) (fun x hx => List.mem_append_left _ hx) s,
      map_ov σ (cat := p.cat) (idx := B.idx) (fun x hx => List.mem_append_right _ hx) s,
      map_ov σ (cat := p.cat) (idx := p.resIdx) (fun x hx => (List.mem_filter.1 hx).1) s,
      flatAt_eq_flat, flatAt_eq_flat]
    rfl
  rw [List.map_congr_left (fun s _ => hG s), sum_assignments ext _ (uniq_nodup _) σ G]
  have hperm : (p.resIdx ++ contracted p.cat).Perm (uniq p.cat) := by
    rw [show p.resIdx = _ from resultIdx_eq_filter_uniq p.cat]
    exact List.filter_append_perm (occursOnce p.cat) (uniq p.cat)
  rw [← sumOver_perm ext hperm, sumOver_append]
  have hinner : ∀ τ, sumOver ext (contracted p.cat) τ G
      = if p.resIdx.map τ = p.resIdx.map σ
        then sumOver ext (contracted p.cat) τ (term [A, B] [a, b]) else 0 := fun τ =>
    sumOver_ite ext _ τ (fun υ => p.resIdx.map υ = p.resIdx.map σ) _ fun υ hυ => by
      -- a free name is not a contracted one
      have : p.resIdx.map υ = p.resIdx.map τ := List.map_congr_left fun x hx => hυ x fun hc => by
        have h1 : p.cat.count x = 1 := mem_resultIdx.1 hx
        rw [mem_contracted] at hc
        omega
      rw [this]
  rw [show (fun τ => sumOver ext (contracted p.cat) τ G) = _ from funext hinner,
    sumOver_delta ext p.resIdx (resultIdx_nodup _) σ hσ]
  have : (fun x => if x ∈ p.resIdx then σ x else σ x) = σ := by funext x; simp
  rw [this, einsteinSum, flatMap2]
  rfl

end Sum

end Fastor.Network
