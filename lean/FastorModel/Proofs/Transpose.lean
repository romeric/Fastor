import FastorModel.Model.Transpose
import FastorModel.Core.Grid
import FastorModel.Model.Intrinsics
/-
  Proofs about the transpose model (C14): the plain loop, one packed block, and the whole blocked nest with an arbitrary
  leaf kernel: whatever `_transpose_dispatch<T,innerBlock,outerBlock>` runs, if it leaves the transposed block in
  `pack_out` (`LeafOK`) the whole `_transpose<T,M,N>` is correct.  The generic leaf loop is one instance (`blockedWrites`).
-/
namespace Fastor.Transpose

variable {α : Type}

theorem lt_digits {n b p : Nat} (hb : 0 < b) (hp : p < n * b) : p / b < n ∧ p % b < b ∧ p / b * b + p % b = p := by
  refine ⟨(Nat.div_lt_iff_lt_mul hb).2 hp, Nat.mod_lt _ hb, ?_⟩
  rw [Nat.mul_comm]; exact Nat.div_add_mod p b

def spec (a : Nat → α) (M N : Nat) (p : Nat) : α := a ((p % M) * N + p / M)

theorem spec_at (a : Nat → α) (M N i j : Nat) (hi : i < M) : spec a M N (j * M + i) = a (i * N + j) := by
  simp only [spec, pos_div hi, pos_mod hi]

theorem transposed_of_exact {ws : List (Nat × α)} {f : α → α} {a : Nat → α} {M N : Nat}
    (h : WritesExactly ws (fun p => p < N * M) (fun p => f (spec a M N p))) (m : Nat → α) :
    (∀ i j, i < M → j < N → applyWrites ws m (j * M + i) = f (a (i * N + j))) ∧
    (∀ p, p < N * M → ∃ w ∈ ws, w.1 = p) ∧
    (∀ p, N * M ≤ p → applyWrites ws m p = m p) :=
  ⟨fun i j hi hj => by rw [(applyWrites_of_exact h m _).1 (pos_lt hj hi), spec_at a M N i j hi],
   fun p hp => ⟨(p, _), lastWrite_some_mem ((h p).1 hp), rfl⟩,
   fun p hp => (applyWrites_of_exact h m p).2 (by omega)⟩

/-- the plain double loop: every cell of the `N×M` result is written, nothing else is, and
    `out[j*M+i] = f (a[i*N+j])` -/
theorem plainWrites_exact (f : α → α) (a : Nat → α) (M N : Nat) :
    WritesExactly (plainWrites f a M N) (fun p => p < N * M) (fun p => f (spec a M N p)) := by
  apply writesExactly_of_all_right
  · intro w hw
    simp only [plainWrites, List.mem_flatMap, List.mem_map, List.mem_range] at hw
    obtain ⟨j, hj, i, hi, rfl⟩ := hw
    refine ⟨pos_lt hj hi, ?_⟩
    show f (a (i * N + j)) = f (a ((j * M + i) % M * N + (j * M + i) / M))
    rw [pos_mod hi, pos_div hi]
  · intro p hp
    have hM : 0 < M := Nat.pos_of_mul_pos_left (Nat.zero_lt_of_lt hp)
    obtain ⟨h1, h2, h3⟩ := lt_digits hM hp
    refine ⟨(p / M * M + p % M, f (a (p % M * N + p / M))), ?_, h3⟩
    simp only [plainWrites, List.mem_flatMap, List.mem_map, List.mem_range]
    exact ⟨p / M, h1, p % M, h2, rfl⟩

theorem plainReads_lt (M N : Nat) : ∀ r ∈ plainReads M N, r < M * N := by
  intro r hr
  simp only [plainReads, List.mem_flatMap, List.mem_map, List.mem_range] at hr
  obtain ⟨j, hj, i, hi, rfl⟩ := hr
  exact pos_lt hi hj

/-- packing: `pack_a[ii*ob + d] = a[(i+ii)*N + j + d]` for `ii < ib`, `d < ob = nR*V`; nothing else of
    the pack buffer is written -/
theorem packWrites_exact (a : Nat → α) (N V nR ib i j : Nat) (hV : 0 < V) :
    WritesExactly (packWrites a N V nR ib (V * nR) i j) (fun q => q < ib * (V * nR))
      (fun q => a ((i + q / (V * nR)) * N + j + q % (V * nR))) := by
  apply writesExactly_of_all_right
  · intro w hw
    simp only [packWrites, List.mem_flatMap, List.mem_map, List.mem_range] at hw
    obtain ⟨ii, hii, vv, hvv, l, hl, rfl⟩ := hw
    have hd : vv * V + l < V * nR := by rw [Nat.mul_comm V nR]; exact pos_lt hvv hl
    have e : ii * (V * nR) + vv * V + l = ii * (V * nR) + (vv * V + l) := by omega
    refine ⟨?_, ?_⟩
    · show ii * (V * nR) + vv * V + l < ib * (V * nR)
      rw [e]; exact pos_lt hii hd
    · show a ((i + ii) * N + j + vv * V + l) = _
      simp only [e, pos_mod hd, pos_div hd]
      congr 1; omega
  · intro q hq
    have hob : 0 < V * nR := Nat.pos_of_mul_pos_left (Nat.zero_lt_of_lt hq)
    obtain ⟨h1, h2, h3⟩ := lt_digits hob hq
    have h2' : q % (V * nR) < nR * V := by rw [Nat.mul_comm nR V]; exact h2
    obtain ⟨k1, k2, k3⟩ := lt_digits hV h2'
    refine ⟨(q / (V * nR) * (V * nR) + (q % (V * nR)) / V * V + (q % (V * nR)) % V,
      a ((i + q / (V * nR)) * N + j + (q % (V * nR)) / V * V + (q % (V * nR)) % V)), ?_, ?_⟩
    · simp only [packWrites, List.mem_flatMap, List.mem_map, List.mem_range]
      exact ⟨q / (V * nR), h1, (q % (V * nR)) / V, k1, (q % (V * nR)) % V, k2, rfl⟩
    · show q / (V * nR) * (V * nR) + (q % (V * nR)) / V * V + (q % (V * nR)) % V = q
      omega

theorem packReads_lt (M N V nR ib i j : Nat) (hi : i + ib ≤ M) (hj : j + V * nR ≤ N) :
    ∀ r ∈ packReads N V nR ib i j, r < M * N := by
  intro r hr
  simp only [packReads, List.mem_flatMap, List.mem_map, List.mem_range] at hr
  obtain ⟨ii, hii, vv, hvv, l, hl, rfl⟩ := hr
  have hd : vv * V + l < V * nR := by rw [Nat.mul_comm V nR]; exact pos_lt hvv hl
  have : (i + ii) * N + (j + vv * V + l) < M * N := pos_lt (by omega) (by omega)
  omega

theorem block_fits {X b t : Nat} (h : 0 + t * b < X / b * b) : 0 + t * b + b ≤ X := by
  have h1 : (t + 1) * b ≤ X / b * b := by
    apply Nat.mul_le_mul_right
    have : t * b < X / b * b := by omega
    exact Nat.lt_of_mul_lt_mul_right this
  have h2 : X / b * b ≤ X := Nat.div_mul_le_self _ _
  rw [Nat.add_mul] at h1; omega

/-- the leaf leaves `pack_out[q] = pack_a[(q % ib)*ob + q / ib]` for every cell of the block, whatever `pack_out` held -/
def LeafOK (leaf : (Nat → α) → List (Nat × α)) (ib ob : Nat) : Prop :=
  ∀ (pa g : Nat → α) (q : Nat), q < ob * ib → applyWrites (leaf pa) g q = pa ((q % ib) * ob + q / ib)

def blockWritesWith (leaf : (Nat → α) → List (Nat × α)) (a g1 g2 : Nat → α) (M N V nR nC i j : Nat) : List (Nat × α) :=
  let ib := V * nC
  let ob := V * nR
  let pa := applyWrites (packWrites a N V nR ib ob i j) g1
  let po := applyWrites (leaf pa) g2
  unpackWrites po M V nC ib ob i j

/-- `_transpose<T,M,N>` (blocked) with `leaf` in the place of `_transpose_dispatch` -/
def blockedWritesWith (leaf : (Nat → α) → List (Nat × α)) (a : Nat → α) (g1 g2 : Nat → Nat → Nat → α) (M N V nR nC : Nat) :
    List (Nat × α) :=
  let ib := V * nC
  let ob := V * nR
  let M0 := M / ib * ib
  let N0 := N / ob * ob
  ((forRange 0 N0 ob).flatMap fun j =>
      ((forRange 0 M0 ib).flatMap fun i => blockWritesWith leaf a (g1 i j) (g2 i j) M N V nR nC i j)
      ++ colEdgeWrites a M N ob (forExit 0 M0 ib) j)
  ++ rowEdgeWrites a M N (forExit 0 N0 ob)

theorem blockedWrites_eq_with (a : Nat → α) (g1 g2 : Nat → Nat → Nat → α) (M N V nR nC : Nat) :
    blockedWrites a g1 g2 M N V nR nC = blockedWritesWith (fun pa => leafWrites pa (V * nC) (V * nR)) a g1 g2 M N V nR nC := rfl

theorem leafOK_generic (ib ob : Nat) : LeafOK (fun pa : Nat → α => leafWrites pa ib ob) ib ob := by
  intro pa g q hq
  have h := plainWrites_exact id pa ib ob
  show applyWrites (plainWrites id pa ib ob) g q = _
  rw [(applyWrites_of_exact h g q).1 hq]; rfl

theorem block_value (leaf : (Nat → α) → List (Nat × α)) {V nR nC : Nat} (hleaf : LeafOK leaf (V * nC) (V * nR))
    (a g1 g2 : Nat → α) (N i j jj c : Nat) (hV : 0 < V)
    (hjj : jj < V * nR) (hc : c < V * nC) :
    applyWrites (leaf (applyWrites (packWrites a N V nR (V * nC) (V * nR) i j) g1)) g2 (jj * (V * nC) + c)
      = a ((i + c) * N + j + jj) := by
  rw [hleaf _ g2 _ (pos_lt hjj hc)]
  rw [pos_div hc, pos_mod hc]
  have hpack := packWrites_exact a N V nR (V * nC) i j hV
  rw [(applyWrites_of_exact hpack g1 (c * (V * nR) + jj)).1 (pos_lt hc hjj)]
  rw [pos_div hjj, pos_mod hjj]

/-- **the blocked nest** writes exactly the `N×M` cells, each with the transposed element -/
theorem blockedWritesWith_exact (leaf : (Nat → α) → List (Nat × α)) (a : Nat → α) (g1 g2 : Nat → Nat → Nat → α) (M N V nR nC : Nat)
    (hV : 0 < V) (hR : 0 < nR) (hC : 0 < nC) (hleaf : LeafOK leaf (V * nC) (V * nR)) :
    WritesExactly (blockedWritesWith leaf a g1 g2 M N V nR nC) (fun p => p < N * M) (spec a M N) := by
  have hib : 0 < V * nC := Nat.mul_pos hV hC
  have hob : 0 < V * nR := Nat.mul_pos hV hR
  have hM0 : M / (V * nC) * (V * nC) ≤ M := Nat.div_mul_le_self _ _
  have hN0 : N / (V * nR) * (V * nR) ≤ N := Nat.div_mul_le_self _ _
  have eM : forExit 0 (M / (V * nC) * (V * nC)) (V * nC) = M / (V * nC) * (V * nC) :=
    forExit_div_mul hib
  have eN : forExit 0 (N / (V * nR) * (V * nR)) (V * nR) = N / (V * nR) * (V * nR) :=
    forExit_div_mul hob
  apply writesExactly_of_all_right
  · intro w hw
    simp only [blockedWritesWith, eM, eN, List.mem_append, List.mem_flatMap] at hw
    rcases hw with ⟨j, hj, hw | hw⟩ | hw
    · -- inside a full block
      obtain ⟨i, hi, hw⟩ := hw
      obtain ⟨tj, rfl, hjlt⟩ := (mem_forRange hob).1 hj
      obtain ⟨ti, rfl, hilt⟩ := (mem_forRange hib).1 hi
      simp only [blockWritesWith, unpackWrites, List.mem_flatMap, List.mem_map, List.mem_range] at hw
      obtain ⟨jj, hjj, vv, hvv, l, hl, rfl⟩ := hw
      have hc : vv * V + l < V * nC := by rw [Nat.mul_comm V nC]; exact pos_lt hvv hl
      have hi2 := block_fits hilt
      have hj2 := block_fits hjlt
      have e : (0 + tj * (V * nR) + jj) * M + (0 + ti * (V * nC)) + vv * V + l
          = (0 + tj * (V * nR) + jj) * M + (0 + ti * (V * nC) + (vv * V + l)) := by omega
      have hcol : 0 + ti * (V * nC) + (vv * V + l) < M := by omega
      have hrow : 0 + tj * (V * nR) + jj < N := by omega
      refine ⟨?_, ?_⟩
      · show (0 + tj * (V * nR) + jj) * M + (0 + ti * (V * nC)) + vv * V + l < N * M
        rw [e]; exact pos_lt hrow hcol
      · show applyWrites _ _ (jj * (V * nC) + vv * V + l) = spec a M N _
        rw [e, spec_at a M N _ _ hcol]
        have e2 : jj * (V * nC) + vv * V + l = jj * (V * nC) + (vv * V + l) := by omega
        rw [e2, block_value leaf hleaf a _ _ N _ _ jj (vv * V + l) hV hjj hc]
        congr 1; omega
    · -- remaining columns of a block row
      obtain ⟨tj, rfl, hjlt⟩ := (mem_forRange hob).1 hj
      simp only [colEdgeWrites, List.mem_flatMap, List.mem_map, List.mem_range] at hw
      obtain ⟨i, hi, jj, hjj, rfl⟩ := hw
      obtain ⟨t, rfl, hilt⟩ := (mem_forRange (by omega : 0 < 1)).1 hi
      have hj2 := block_fits hjlt
      have hrow : 0 + tj * (V * nR) + jj < N := by omega
      refine ⟨pos_lt hrow hilt, ?_⟩
      show a _ = spec a M N _
      rw [spec_at a M N _ _ hilt]
      congr 1; omega
    · -- remaining rows
      simp only [rowEdgeWrites, List.mem_flatMap, List.mem_map, List.mem_range] at hw
      obtain ⟨j, hj, i, hi, rfl⟩ := hw
      obtain ⟨t, rfl, hjlt⟩ := (mem_forRange (by omega : 0 < 1)).1 hj
      refine ⟨pos_lt hjlt hi, ?_⟩
      show a _ = spec a M N _
      rw [spec_at a M N _ _ hi]
  · intro p hp
    have hM : 0 < M := Nat.pos_of_mul_pos_left (Nat.zero_lt_of_lt hp)
    obtain ⟨hr, hcm, hpe⟩ := lt_digits hM hp
    simp only [blockedWritesWith, eM, eN, List.mem_append, List.mem_flatMap]
    by_cases hrow : p / M < N / (V * nR) * (V * nR)
    · -- in a block row
      have hjmem : (p / M) / (V * nR) * (V * nR) ∈ forRange 0 (N / (V * nR) * (V * nR)) (V * nR) := by
        refine (mem_forRange hob).2 ⟨(p / M) / (V * nR), by omega, ?_⟩
        exact Nat.lt_of_le_of_lt (Nat.div_mul_le_self _ _) hrow
      have hjj : p / M - (p / M) / (V * nR) * (V * nR) < V * nR := by
        have := Nat.div_add_mod' (p / M) (V * nR); have := Nat.mod_lt (p / M) hob; omega
      have hjle : (p / M) / (V * nR) * (V * nR) ≤ p / M := Nat.div_mul_le_self _ _
      by_cases hcol : p % M < M / (V * nC) * (V * nC)
      · have himem : (p % M) / (V * nC) * (V * nC) ∈ forRange 0 (M / (V * nC) * (V * nC)) (V * nC) := by
          refine (mem_forRange hib).2 ⟨(p % M) / (V * nC), by omega, ?_⟩
          exact Nat.lt_of_le_of_lt (Nat.div_mul_le_self _ _) hcol
        have hile : (p % M) / (V * nC) * (V * nC) ≤ p % M := Nat.div_mul_le_self _ _
        have hcc0 : p % M - (p % M) / (V * nC) * (V * nC) < V * nC := by
          have := Nat.div_add_mod' (p % M) (V * nC); have := Nat.mod_lt (p % M) hib; omega
        have hcc : p % M - (p % M) / (V * nC) * (V * nC) < nC * V := by rw [Nat.mul_comm nC V]; exact hcc0
        obtain ⟨k1, k2, k3⟩ := lt_digits hV hcc
        generalize hJ : (p / M) / (V * nR) * (V * nR) = J at *
        generalize hI : (p % M) / (V * nC) * (V * nC) = I at *
        generalize hK : (p % M - I) / V = K at *
        generalize hL : (p % M - I) % V = L at *
        refine ⟨(p, applyWrites (leaf (applyWrites (packWrites a N V nR (V * nC) (V * nR) I J) (g1 I J))) (g2 I J) ((p / M - J) * (V * nC) + K * V + L)),
          Or.inl ⟨J, hjmem, Or.inl ⟨I, himem, ?_⟩⟩, rfl⟩
        simp only [blockWritesWith, unpackWrites, List.mem_flatMap, List.mem_map, List.mem_range]
        refine ⟨p / M - J, hjj, K, k1, L, k2, ?_⟩
        refine Prod.ext ?_ rfl
        show (J + (p / M - J)) * M + I + K * V + L = p
        have e1 : J + (p / M - J) = p / M := by omega
        rw [e1]; omega
      · generalize hJ : (p / M) / (V * nR) * (V * nR) = J at *
        refine ⟨(p, a (p % M * N + J + (p / M - J))), Or.inl ⟨J, hjmem, Or.inr ?_⟩, rfl⟩
        simp only [colEdgeWrites, List.mem_flatMap, List.mem_map, List.mem_range]
        refine ⟨p % M, (mem_forRange (by omega : 0 < 1)).2 ⟨p % M - M / (V * nC) * (V * nC), by omega, hcm⟩, p / M - J, hjj, ?_⟩
        refine Prod.ext ?_ rfl
        show (J + (p / M - J)) * M + p % M = p
        have e1 : J + (p / M - J) = p / M := by omega
        rw [e1]; exact hpe
    · refine ⟨(p, a (p % M * N + p / M)), Or.inr ?_, rfl⟩
      simp only [rowEdgeWrites, List.mem_flatMap, List.mem_map, List.mem_range]
      refine ⟨p / M, (mem_forRange (by omega : 0 < 1)).2 ⟨p / M - N / (V * nR) * (V * nR), by omega, hr⟩, p % M, hcm, ?_⟩
      exact Prod.ext hpe rfl

theorem blockedWrites_exact (a : Nat → α) (g1 g2 : Nat → Nat → Nat → α) (M N V nR nC : Nat)
    (hV : 0 < V) (hR : 0 < nR) (hC : 0 < nC) :
    WritesExactly (blockedWrites a g1 g2 M N V nR nC) (fun p => p < N * M) (spec a M N) := by
  rw [blockedWrites_eq_with]
  exact blockedWritesWith_exact _ a g1 g2 M N V nR nC hV hR hC (leafOK_generic _ _)

/-- every load of the blocked nest (vector loads of the packing loop included) stays inside `a[0 .. M*N)` -/
theorem blockedReads_lt (M N V nR nC : Nat) (hV : 0 < V) (hR : 0 < nR) (hC : 0 < nC) :
    ∀ r ∈ blockedReads M N V nR nC, r < M * N := by
  have hib : 0 < V * nC := Nat.mul_pos hV hC
  have hob : 0 < V * nR := Nat.mul_pos hV hR
  have eM : forExit 0 (M / (V * nC) * (V * nC)) (V * nC) = M / (V * nC) * (V * nC) :=
    forExit_div_mul hib
  have eN : forExit 0 (N / (V * nR) * (V * nR)) (V * nR) = N / (V * nR) * (V * nR) :=
    forExit_div_mul hob
  intro r hr
  simp only [blockedReads, eM, eN, List.mem_append, List.mem_flatMap] at hr
  rcases hr with ⟨j, hj, hr | hr⟩ | hr
  · obtain ⟨i, hi, hr⟩ := hr
    obtain ⟨tj, rfl, hjlt⟩ := (mem_forRange hob).1 hj
    obtain ⟨ti, rfl, hilt⟩ := (mem_forRange hib).1 hi
    exact packReads_lt M N V nR (V * nC) _ _ (block_fits hilt) (block_fits hjlt) r hr
  · obtain ⟨tj, rfl, hjlt⟩ := (mem_forRange hob).1 hj
    simp only [colEdgeReads, List.mem_flatMap, List.mem_map, List.mem_range] at hr
    obtain ⟨i, hi, jj, hjj, rfl⟩ := hr
    obtain ⟨t, rfl, hilt⟩ := (mem_forRange (by omega : 0 < 1)).1 hi
    have := block_fits hjlt
    have : (M / (V * nC) * (V * nC) + t * 1) * N + (0 + tj * (V * nR) + jj) < M * N := pos_lt hilt (by omega)
    omega
  · simp only [rowEdgeReads, List.mem_flatMap, List.mem_map, List.mem_range] at hr
    obtain ⟨j, hj, i, hi, rfl⟩ := hr
    obtain ⟨t, rfl, hjlt⟩ := (mem_forRange (by omega : 0 < 1)).1 hj
    exact pos_lt hi hjlt

/-
  The translated intrinsic kernels (Generated/C14Kernels.lean) as leaves of the blocked nest: this closes the gap
  between `transpose_correct` and the float/double builds whose `_transpose_dispatch` is an intrinsic kernel.
-/

theorem leafOK_of_kernel (K : (Nat → α) → List (Nat × α)) (n : Nat)
    (hK : ∀ pa, Intr.finalCells (K pa) (n * n) = Intr.transposed pa n) : LeafOK K n n := by
  intro pa g q hq
  have h := hK pa
  simp only [Intr.finalCells, Intr.transposed] at h
  have := congrArg (fun l => l[q]?) h
  simp only [List.getElem?_map, List.getElem?_range hq, Option.map_some] at this
  rw [applyWrites_eq_lastWrite]
  injection this with this
  rw [this]; rfl

end Fastor.Transpose
