import FastorModel.Proofs.Permute
/-
  Proofs about the sorting metafunctions used by the legacy `permutation<>` and by the C++17 branch of `permute`:
  `meta_min`, `meta_argmin`, `meta_argsort` (selection sort), `get_floor_map`, `find_permuation`,
  `permute_mapped_index`.  For a pack that is a permutation of `0..r-1`, `meta_argsort` and
  `permute_mapped_index_t` both return the inverse permutation.
-/
namespace Fastor.Permute

theorem metaMin_single (m n : Nat) : metaMin m [n] = if m ≤ n then m else n := rfl

theorem metaMin_cons2 (m n r : Nat) (rs : List Nat) : metaMin m (n :: r :: rs) =
    if (if m ≤ n then m else n) ≤ metaMin (if m ≤ n then m else n) (r :: rs) then (if m ≤ n then m else n)
    else metaMin (if m ≤ n then m else n) (r :: rs) := rfl

theorem metaArgmin_nil (m n : Nat) : metaArgmin m n [] = if m < n then 0 else 1 := rfl

theorem metaArgmin_cons (m n r : Nat) (rs : List Nat) : metaArgmin m n (r :: rs) =
    if (if m ≤ n then m else n) ≤ metaMin (if m ≤ n then m else n) (r :: rs) then (if m < n then 0 else 1)
    else metaArgmin (if m ≤ n then m else n) r rs + 1 := rfl

theorem metaMin_spec : ∀ (l : List Nat) (m : Nat),
    (metaMin m l ≤ m ∧ ∀ x ∈ l, metaMin m l ≤ x) ∧ (metaMin m l = m ∨ metaMin m l ∈ l)
  | [], m => by simp [metaMin]
  | [n], m => by
    rw [metaMin_single]
    by_cases h : m ≤ n <;> simp [h] <;> omega
  | n :: r :: rs, m => by
    have ih := metaMin_spec (r :: rs) (if m ≤ n then m else n)
    rw [metaMin_cons2]
    generalize hq : (if m ≤ n then m else n) = pval at *
    generalize hmm : metaMin pval (r :: rs) = mm at *
    have hp : pval ≤ m ∧ pval ≤ n ∧ (pval = m ∨ pval = n) := by
      subst hq; by_cases h : m ≤ n <;> simp [h] <;> omega
    obtain ⟨⟨i1, i2⟩, i3⟩ := ih
    by_cases hc : pval ≤ mm
    · simp only [hc, if_true]
      refine ⟨⟨hp.1, ?_⟩, ?_⟩
      · intro x hx
        rcases List.mem_cons.1 hx with rfl | hx
        · exact hp.2.1
        · exact Nat.le_trans hc (i2 x hx)
      · rcases hp.2.2 with h | h
        · exact Or.inl h
        · exact Or.inr (by rw [h]; simp)
    · simp only [hc, if_false]
      refine ⟨⟨by omega, ?_⟩, ?_⟩
      · intro x hx
        rcases List.mem_cons.1 hx with rfl | hx
        · omega
        · exact i2 x hx
      · rcases i3 with h | h
        · omega
        · exact Or.inr (List.mem_cons_of_mem _ h)

theorem metaArgmin_spec : ∀ (rest : List Nat) (m n : Nat),
    metaArgmin m n rest < rest.length + 2 ∧ (m :: n :: rest).getD (metaArgmin m n rest) 0 = metaMin m (n :: rest)
  | [], m, n => by
    rw [metaArgmin_nil, metaMin_single]
    by_cases h : m < n
    · have : m ≤ n := by omega
      simp [h, this]
    · by_cases h2 : m ≤ n
      · have : m = n := by omega
        simp [this]
      · simp [h, h2]
  | r :: rs, m, n => by
    have ih := metaArgmin_spec rs (if m ≤ n then m else n) r
    rw [metaArgmin_cons, metaMin_cons2]
    generalize hq : (if m ≤ n then m else n) = pval at *
    by_cases hc : pval ≤ metaMin pval (r :: rs)
    · simp only [hc, if_true]
      subst hq
      by_cases h : m < n
      · have : m ≤ n := by omega
        simp [h, this]
      · by_cases h2 : m ≤ n
        · have : m = n := by omega
          simp [this]
        · simp [h, h2]
    · simp only [hc, if_false]
      obtain ⟨i1, i2⟩ := ih
      refine ⟨by simp; omega, ?_⟩
      -- the minimum is strictly below pval, so the recursive position is not 0
      have hk : metaArgmin pval r rs ≠ 0 := by
        intro h0
        rw [h0] at i2
        simp only [List.getD_cons_zero] at i2
        omega
      obtain ⟨k, hk⟩ := Nat.exists_eq_succ_of_ne_zero hk
      rw [hk] at i2 ⊢
      simpa using i2

theorem argminOf_spec (vals : List Nat) (h : 2 ≤ vals.length) :
    argminOf vals < vals.length ∧ vals.getD (argminOf vals) 0 ∈ vals ∧ ∀ x ∈ vals, vals.getD (argminOf vals) 0 ≤ x := by
  match vals, h with
  | m :: n :: rest, _ =>
    obtain ⟨h1, h2⟩ := metaArgmin_spec rest m n
    obtain ⟨⟨s1, s2⟩, s3⟩ := metaMin_spec (n :: rest) m
    simp only [argminOf, List.length_cons]
    refine ⟨by omega, ?_, ?_⟩
    · rw [h2]
      rcases s3 with h | h
      · rw [h]; simp
      · exact List.mem_cons_of_mem _ h
    · intro x hx
      rw [h2]
      rcases List.mem_cons.1 hx with rfl | hx
      · exact s1
      · exact s2 x hx

theorem inj_of_nodup_map (f : Nat → Nat) : ∀ (ss : List Nat), (ss.map f).Nodup →
    ∀ a ∈ ss, ∀ b ∈ ss, f a = f b → a = b
  | [], _, _, ha, _, _, _ => by simp at ha
  | s :: ss, hn, a, ha, b, hb, hab => by
    rw [List.map_cons, List.nodup_cons] at hn
    have ih := inj_of_nodup_map f ss hn.2
    rw [List.mem_cons] at ha hb
    rcases ha with ha | ha
    · rcases hb with hb | hb
      · rw [ha, hb]
      · exfalso; apply hn.1; rw [← ha, hab]; exact List.mem_map.2 ⟨b, hb, rfl⟩
    · rcases hb with hb | hb
      · exfalso; apply hn.1; rw [← hb, ← hab]; exact List.mem_map.2 ⟨a, ha, rfl⟩
      · exact ih a ha b hb hab

theorem getD_map_lt (f : Nat → Nat) (ss : List Nat) (k : Nat) (hk : k < ss.length) :
    (ss.map f).getD k 0 = f (ss.getD k 0) := by
  simp [List.getD_eq_getElem?_getD, List.getElem?_map, List.getElem?_eq_getElem hk]

theorem metaArgsortAux_step (fuel : Nat) (vals ss : List Nat) (h : 2 ≤ vals.length) :
    metaArgsortAux (fuel + 1) vals ss =
      ss.getD (argminOf vals) 0 :: metaArgsortAux fuel (filterOut (vals.getD (argminOf vals) 0) vals)
        (filterOut (ss.getD (argminOf vals) 0) ss) := by
  match vals, h with
  | _ :: _ :: _, _ => rfl

/-- selection sort: with the values a permutation of `t, t+1, …` the k-th extracted position carries value `t+k` -/
theorem argsortAux_spec : ∀ (fuel : Nat) (vals ss : List Nat) (f : Nat → Nat) (t : Nat),
    vals = ss.map f → ss.Nodup → vals.Perm (List.range' t (fuel + 1)) →
    (metaArgsortAux (fuel + 1) vals ss).length = fuel + 1 ∧
    (∀ k, k < fuel + 1 → f ((metaArgsortAux (fuel + 1) vals ss).getD k 0) = t + k) ∧
    (∀ x ∈ metaArgsortAux (fuel + 1) vals ss, x ∈ ss)
  | 0, vals, ss, f, t, hv, _, hp => by
    have hl : vals.length = 1 := by rw [hp.length_eq]; simp
    match vals, hl with
    | [v], _ =>
      have hss : ss.length = 1 := by have := congrArg List.length hv; simpa using this.symm
      match ss, hss with
      | [s], _ =>
        simp only [metaArgsortAux]
        have hv1 : v = f s := by simpa using hv
        have hv2 : v = t := by
          have := (hp.mem_iff (a := v)).1 (by simp)
          simp at this; omega
        refine ⟨rfl, ?_, fun x hx => hx⟩
        intro k hk
        have : k = 0 := by omega
        subst this
        simp [← hv1, hv2]
  | fuel + 1, vals, ss, f, t, hv, hnd, hp => by
    have hl : vals.length = fuel + 2 := by rw [hp.length_eq]; simp
    have hsl : ss.length = fuel + 2 := by have := congrArg List.length hv; simp at this; omega
    have hvn : vals.Nodup := hp.nodup_iff.2 (List.nodup_range')
    obtain ⟨a1, a2, a3⟩ := argminOf_spec vals (by omega)
    -- the least value is t
    have hmin : vals.getD (argminOf vals) 0 = t := by
      have h1 := (hp.mem_iff (a := vals.getD (argminOf vals) 0)).1 a2
      have h2 := a3 t ((hp.mem_iff (a := t)).2 (by simp))
      have h3 := (List.mem_range'_1.1 h1).1
      omega
    have hfl : f (ss.getD (argminOf vals) 0) = t := by
      rw [← getD_map_lt f ss _ (by omega), ← hv, hmin]
    have hli : ss.getD (argminOf vals) 0 ∈ ss := by
      rw [getD_eq_getElem' ss _ (by omega)]; exact List.getElem_mem _
    have hstep := metaArgsortAux_step (fuel + 1) vals ss (by omega)
    -- the reduced packs
    have hss' : filterOut (ss.getD (argminOf vals) 0) ss = ss.filter (fun s => f s != t) := by
      unfold filterOut
      apply List.filter_congr
      intro s hs
      have hinj := inj_of_nodup_map f ss (hv ▸ hvn)
      by_cases h : s = ss.getD (argminOf vals) 0
      · rw [h, hfl]; simp
      · have hne : f s ≠ t := fun e => h (hinj s hs _ hli (by rw [e, hfl]))
        rw [bne_iff_ne.2 h, bne_iff_ne.2 hne]
    have hvals' : filterOut (vals.getD (argminOf vals) 0) vals = (filterOut (ss.getD (argminOf vals) 0) ss).map f := by
      rw [hss', hmin]
      show List.filter (fun y => y != t) vals = _
      rw [hv, List.filter_map]; rfl
    have hperm' : (filterOut (vals.getD (argminOf vals) 0) vals).Perm (List.range' (t + 1) (fuel + 1)) := by
      rw [hmin]; unfold filterOut
      have h1 := hp.filter (fun y => y != t)
      have h2 : (List.range' t (fuel + 1 + 1)).filter (fun y => y != t) = List.range' (t + 1) (fuel + 1) := by
        rw [List.range'_succ, List.filter_cons]
        simp only [bne_self_eq_false, Bool.false_eq_true, if_false]
        rw [List.filter_eq_self]
        intro a ha
        simp at ha; simp; omega
      rw [h2] at h1; exact h1
    have hnd' : (filterOut (ss.getD (argminOf vals) 0) ss).Nodup := hnd.sublist (List.filter_sublist)
    obtain ⟨r1, r2, r3⟩ := argsortAux_spec fuel _ _ f (t + 1) hvals' hnd' hperm'
    rw [hstep]
    refine ⟨by rw [List.length_cons, r1], ?_, ?_⟩
    · intro k hk
      cases k with
      | zero => rw [List.getD_cons_zero]; simpa using hfl
      | succ k =>
        rw [List.getD_cons_succ, r2 k (by omega)]; omega
    · intro x hx
      rcases List.mem_cons.1 hx with rfl | hx
      · exact hli
      · exact (List.mem_filter.1 (r3 x hx)).1

theorem getD_injective_of_nodup {p : List Nat} (hn : p.Nodup) {i j : Nat} (hi : i < p.length) (hj : j < p.length)
    (h : p.getD i 0 = p.getD j 0) : i = j := by
  rw [getD_eq_getElem' p i hi, getD_eq_getElem' p j hj] at h
  exact (List.getElem_inj hn).1 h

theorem isInv_of_left {p q : List Nat} {r : Nat} (hp : p.Perm (List.range r)) (hq : q.length = r)
    (h : ∀ n, n < r → q.getD n 0 < r ∧ p.getD (q.getD n 0) 0 = n) : IsInv q p r := by
  obtain ⟨hl, hnd, hm⟩ := perm_facts hp
  refine ⟨hq, hl, h, ?_⟩
  intro k hk
  have hk' : k < p.length := hl ▸ hk
  have h1 : p.getD k 0 < r := by rw [getD_eq_getElem' p k hk']; exact (hm _).1 (List.getElem_mem hk')
  refine ⟨h1, ?_⟩
  obtain ⟨h2, h3⟩ := h _ h1
  exact getD_injective_of_nodup hnd (hl ▸ h2) hk' h3

/-- **`meta_argsort` of a permutation of `0..r-1` is its inverse** -/
theorem isInv_metaArgsort {p : List Nat} {r : Nat} (hr : 0 < r) (hp : p.Perm (List.range r)) :
    IsInv (metaArgsort p) p r := by
  obtain ⟨hl, _, _⟩ := perm_facts hp
  obtain ⟨r', rfl⟩ := Nat.exists_eq_succ_of_ne_zero (by omega : r ≠ 0)
  have hv : p = (List.range (r' + 1)).map (fun s => p.getD s 0) := by
    apply ext_getD (by simp [hl])
    intro k hk
    rw [getD_map_lt _ _ k (by simpa [hl] using hk)]
    simp [List.getD_eq_getElem?_getD, List.getElem?_range (hl ▸ hk)]
  have hp' : p.Perm (List.range' 0 (r' + 1)) := by rw [← List.range_eq_range']; exact hp
  obtain ⟨s1, s2, s3⟩ := argsortAux_spec r' p (List.range (r' + 1)) (fun s => p.getD s 0) 0 hv List.nodup_range hp'
  have e : metaArgsort p = metaArgsortAux (r' + 1) p (List.range (r' + 1)) := by unfold metaArgsort; rw [hl]
  rw [e]
  apply isInv_of_left hp s1
  intro n hn
  have hmem : (metaArgsortAux (r' + 1) p (List.range (r' + 1))).getD n 0 ∈ metaArgsortAux (r' + 1) p (List.range (r' + 1)) := by
    rw [getD_eq_getElem' _ n (by rw [s1]; exact hn)]; exact List.getElem_mem _
  have h3 := s3 _ hmem
  rw [List.mem_range] at h3
  exact ⟨h3, by simpa using s2 n hn⟩

/-- legacy `permute_impl::resulting_index` is the inverse permutation -/
theorem isInv_legacyIdx {p : List Nat} {r : Nat} (hr : 0 < r) (hp : p.Perm (List.range r)) : IsInv (legacyIdx p) p r :=
  isInv_metaArgsort hr hp

theorem floorMap_prefix {idx inv : List Nat} {r : Nat} (h : IsInv idx inv r) : ∀ t, t ≤ r →
    let S := (List.range t).foldl (fun out i => out.set (idx.getD i 0) i) (List.replicate r 0)
    S.length = r ∧ ∀ i, i < t → S.getD (idx.getD i 0) 0 = i
  | 0, _ => by simp
  | t + 1, ht => by
    obtain ⟨l1, l2⟩ := floorMap_prefix h t (by omega)
    simp only [List.range_succ, List.foldl_append, List.foldl_cons, List.foldl_nil]
    refine ⟨by simpa using l1, ?_⟩
    intro i hi
    by_cases hit : i = t
    · subst hit
      rw [List.getD_eq_getElem?_getD, List.getElem?_set_self (by rw [l1]; exact (h.left i (by omega)).1)]
      rfl
    · have hne : idx.getD t 0 ≠ idx.getD i 0 := by
        intro e
        have h1 := (h.left t (by omega)).2
        have h2 := (h.left i (by omega)).2
        rw [e, h2] at h1; exact hit h1
      rw [List.getD_eq_getElem?_getD, List.getElem?_set_ne hne, ← List.getD_eq_getElem?_getD]
      exact l2 i (by omega)

/-- `get_floor_map` of a permutation is its inverse -/
theorem floorMap_eq {idx inv : List Nat} {r : Nat} (h : IsInv idx inv r) : floorMap idx = inv := by
  obtain ⟨l1, l2⟩ := floorMap_prefix h r (Nat.le_refl _)
  unfold floorMap
  rw [h.lmi]
  apply ext_getD (by rw [l1, h.lrev])
  intro k hk
  rw [l1] at hk
  obtain ⟨k1, k2⟩ := h.right k hk
  have := l2 _ k1
  rw [k2] at this
  exact this

theorem isInv_range (r : Nat) : IsInv (List.range r) (List.range r) r := by
  have hg : ∀ n, n < r → (List.range r).getD n 0 = n := by
    intro n hn; simp [List.getD_eq_getElem?_getD, List.getElem?_range hn]
  refine ⟨by simp, by simp, ?_, ?_⟩ <;> intro n hn <;> rw [hg n hn] <;> exact ⟨hn, hg n hn⟩

/-- **`permute_mapped_index_t<Index<p...>, make_index_t<r>>` (the C++17 reverse map) is the inverse permutation** -/
theorem isInv_mappedIndex {p : List Nat} {r : Nat} (hr : 0 < r) (hp : p.Perm (List.range r)) : IsInv p (mappedIndex p) r := by
  obtain ⟨hl, _, _⟩ := perm_facts hp
  have h0 : floorMap (metaArgsort p) = p := floorMap_eq (isInv_metaArgsort hr hp)
  have hid : (List.range r).Perm (List.range r) := List.Perm.refl _
  have ha : metaArgsort (List.range r) = List.range r := by
    have h1 := isInv_metaArgsort hr hid
    exact isInv_unique (isInv_range r) h1.symm |>.symm
  have h1 : floorMap (metaArgsort (List.range p.length)) = List.range r := by
    rw [hl, ha]; exact floorMap_eq (isInv_range r)
  have e : mappedIndex p = invOf p := by
    unfold mappedIndex mappedIndex2
    simp only [h0, h1]
    unfold findPermutation invOf
    rw [List.length_range, hl]
    apply List.map_congr_left
    intro i hi
    rw [List.mem_range] at hi
    simp [List.getD_eq_getElem?_getD, List.getElem?_range hi]
  rw [e]; exact isInv_invOf hp

end Fastor.Permute
