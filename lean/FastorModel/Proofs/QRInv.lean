import Mathlib.Algebra.BigOperators.Field
import FastorModel.Proofs.QRLoops
/-
  C13 — the invariant of the outer loop of `qr_mgsr_dispatcher` and its preservation.

  After `i` iterations (columns `0..i-1` done), with `W` the working copy:
    orth  : columns `p,q < i` of `Q` are orthonormal,
    rest  : every remaining column `j ≥ i` of `W` is orthogonal to the finished columns of `Q`,
    recon : `A0 = Q[:, :i] * R[:i, :] + W[:, i:]`   (element-wise, on the `M × N` index range),
    rzero : `R` is zero below the diagonal and in the rows not yet visited (this is where `R.fill(0)` is used).
-/
namespace Fastor.QR
open Finset

variable {K : Type} [Field K]

structure Inv (M N : Nat) (A0 : Mat K) (i : Nat) (s : St K) : Prop where
  orth : ∀ p q, p < i → q < i → ∑ k ∈ range M, s.Q k p * s.Q k q = if p = q then 1 else 0
  rest : ∀ p j, p < i → i ≤ j → j < N → ∑ k ∈ range M, s.Q k p * s.W k j = 0
  recon : ∀ k j, k < M → j < N →
    A0 k j = ∑ p ∈ range i, s.Q k p * s.R p j + (if i ≤ j then s.W k j else 0)
  rzero : ∀ p j, (j < p ∨ i ≤ p) → s.R p j = 0

theorem inv_init (M N : Nat) (A0 Qin : Mat K) : Inv M N A0 0 (initSt A0 Qin) where
  orth := by intro p q hp; omega
  rest := by intro p j hp; omega
  recon := by intro k j _ _; simp [initSt]
  rzero := by intro p j _; rfl

section step
variable (sqrt : K → K) (M N i : Nat) (s : St K)

theorem outerStep_Q (a b : Nat) :
    (outerStep sqrt M N i s).Q a b
      = if b = i ∧ a < M then s.W a i / sqrt (colNorm2 M s.W i) else s.Q a b :=
  phase2_get M i s.W _ s.Q a b

theorem outerStep_R (a b : Nat) :
    (outerStep sqrt M N i s).R a b
      = if a = i ∧ i + 1 ≤ b ∧ b < N
        then (set2 s.R i i (sqrt (colNorm2 M s.W i))) a b + ∑ k ∈ range M, (outerStep sqrt M N i s).Q k i * s.W k b
        else (set2 s.R i i (sqrt (colNorm2 M s.W i))) a b :=
  phase3_get M N i _ s.W _ a b

theorem outerStep_W (a b : Nat) :
    (outerStep sqrt M N i s).W a b
      = if a < M ∧ i + 1 ≤ b ∧ b < N
        then s.W a b - (outerStep sqrt M N i s).Q a i * (outerStep sqrt M N i s).R i b else s.W a b :=
  phase4_get M N i _ _ s.W a b

end step

/-- `s'` is what steps 1–4 of iteration `i`, with `r` the root taken in step 1, make of `s` -/
structure IsStep (M N i : Nat) (r : K) (s s' : St K) : Prop where
  Q : ∀ a b, s'.Q a b = if b = i ∧ a < M then s.W a i / r else s.Q a b
  R : ∀ a b, s'.R a b
    = if a = i ∧ i + 1 ≤ b ∧ b < N
      then (set2 s.R i i r) a b + ∑ k ∈ range M, s'.Q k i * s.W k b
      else (set2 s.R i i r) a b
  W : ∀ a b, s'.W a b = if a < M ∧ i + 1 ≤ b ∧ b < N then s.W a b - s'.Q a i * s'.R i b else s.W a b

theorem outerStep_isStep (sqrt : K → K) (M N i : Nat) (s : St K) :
    IsStep M N i (sqrt (colNorm2 M s.W i)) s (outerStep sqrt M N i s) :=
  ⟨outerStep_Q sqrt M N i s, outerStep_R sqrt M N i s, outerStep_W sqrt M N i s⟩

/-- `A0 = Q[:, :i] R[:i, :] + W[:, i:]` survives an iteration as soon as the divisor `r` of step 2 is not zero: the division is
    undone by the multiplication with `R(i,i) = r`, and steps 3 and 4 cancel whatever `R(i,j)` is -/
theorem recon_step (M N i : Nat) (A0 : Mat K) (s s' : St K) (r : K) (hne : r ≠ 0) (hz : ∀ j, s.R i j = 0)
    (hrec : ∀ k j, k < M → j < N → A0 k j = ∑ p ∈ range i, s.Q k p * s.R p j + (if i ≤ j then s.W k j else 0))
    (hs : IsStep M N i r s s') (k j : Nat) (hk : k < M) (hj : j < N) :
    A0 k j = ∑ p ∈ range (i + 1), s'.Q k p * s'.R p j + (if i + 1 ≤ j then s'.W k j else 0) := by
  obtain ⟨hQ, hR, hW⟩ := hs
  have h0 := hrec k j hk hj
  have hold : ∀ p, p ≠ i → s'.Q k p * s'.R p j = s.Q k p * s.R p j := fun p hp => by
    rw [hQ, if_neg fun h => hp h.1, hR, if_neg fun h => hp h.1, set2_get, if_neg fun h => hp h.1]
  rw [sum_range_succ, sum_congr rfl fun p hp => hold p (by have := mem_range.1 hp; omega)]
  rcases Nat.lt_trichotomy j i with hlt | rfl | hgt
  · rw [if_neg (by omega), hR, if_neg (by omega), set2_get, if_neg (by omega), hz j, h0, if_neg (by omega)]; ring
  · rw [if_neg (by omega), hR, if_neg (by omega), set2_get, if_pos ⟨rfl, rfl⟩, hQ, if_pos ⟨rfl, hk⟩,
      div_mul_cancel₀ _ hne, h0, if_pos (Nat.le_refl _)]; ring
  · rw [if_pos (by omega), hW, if_pos ⟨hk, by omega, hj⟩, h0, if_pos (by omega)]; ring

theorem inv_step_of (M N i : Nat) (A0 : Mat K) (s s' : St K) (r : K) (hi : i < N)
    (hinv : Inv M N A0 i s)
    (hr2 : r * r = ∑ k ∈ range M, s.W k i * s.W k i) (hne : r ≠ 0)
    (hs : IsStep M N i r s s') : Inv M N A0 (i + 1) s' := by
  have hrecon := recon_step M N i A0 s s' r hne (fun j => hinv.rzero i j (Or.inr (Nat.le_refl i))) hinv.recon hs
  obtain ⟨hQ, hR, hW⟩ := hs
  obtain ⟨W', Q', R'⟩ := s'
  simp only at hQ hR hW
  have hQold : ∀ k p, p ≠ i → Q' k p = s.Q k p := by
    intro k p hp; rw [hQ, if_neg (fun h => hp h.1)]
  have hQi : ∀ k, k < M → Q' k i = s.W k i / r := by
    intro k hk; rw [hQ, if_pos ⟨rfl, hk⟩]
  have hqq : ∑ k ∈ range M, Q' k i * Q' k i = 1 := by
    rw [sum_congr rfl (fun k hk => by rw [hQi k (mem_range.1 hk), div_mul_div_comm]), ← sum_div, ← hr2,
      div_self (mul_ne_zero hne hne)]
  have hpq : ∀ p, p < i → ∑ k ∈ range M, Q' k p * Q' k i = 0 := by
    intro p hp
    rw [sum_congr rfl (fun k hk => by rw [hQi k (mem_range.1 hk), hQold k p (by omega), ← mul_div_assoc]),
      ← sum_div, hinv.rest p i hp (Nat.le_refl i) hi, zero_div]
  have hRrow : ∀ p j, p ≠ i → R' p j = s.R p j := by
    intro p j hp
    rw [hR, if_neg (fun h => hp h.1), set2_get, if_neg (fun h => hp h.1)]
  have hRij : ∀ j, i + 1 ≤ j → j < N → R' i j = ∑ k ∈ range M, Q' k i * s.W k j := by
    intro j h1 h2
    rw [hR, if_pos ⟨rfl, h1, h2⟩, set2_get, if_neg (by omega), hinv.rzero i j (Or.inr (Nat.le_refl i)), zero_add]
  have hRlow : ∀ j, j < i → R' i j = 0 := by
    intro j hj
    rw [hR, if_neg (by omega), set2_get, if_neg (by omega), hinv.rzero i j (Or.inr (Nat.le_refl i))]
  refine ⟨?_, ?_, ?_, ?_⟩
  · -- orth
    intro p q hp hq
    rcases Nat.lt_succ_iff_lt_or_eq.1 hp with hp | rfl <;> rcases Nat.lt_succ_iff_lt_or_eq.1 hq with hq | rfl
    · rw [sum_congr rfl (fun k _ => by rw [hQold k p (by omega), hQold k q (by omega)])]
      exact hinv.orth p q hp hq
    · rw [hpq p hp, if_neg (by omega)]
    · rw [sum_congr rfl (fun k _ => mul_comm _ _), hpq q hq, if_neg (by omega)]
    · rw [hqq, if_pos rfl]
  · -- rest
    intro p j hp h1 h2
    have hsplit : ∑ k ∈ range M, Q' k p * W' k j
        = ∑ k ∈ range M, Q' k p * s.W k j - R' i j * ∑ k ∈ range M, Q' k p * Q' k i := by
      rw [mul_sum, ← sum_sub_distrib]
      refine sum_congr rfl (fun k hk => ?_)
      rw [hW, if_pos ⟨mem_range.1 hk, h1, h2⟩]; ring
    rw [hsplit]
    rcases Nat.lt_succ_iff_lt_or_eq.1 hp with hp | rfl
    · rw [hpq p hp, sum_congr rfl (fun k _ => by rw [hQold k p (by omega)]),
        hinv.rest p j hp (by omega) h2]; ring
    · rw [hqq, ← hRij j h1 h2]; ring
  · exact hrecon
  · -- rzero
    intro p j h
    by_cases hp : p = i
    · subst hp
      exact hRlow j (by omega)
    · rw [hRrow p j hp]
      exact hinv.rzero p j (by omega)

theorem inv_step (sqrt : K → K) (M N i : Nat) (A0 : Mat K) (s : St K) (hi : i < N)
    (hinv : Inv M N A0 i s)
    (hsq : sqrt (colNorm2 M s.W i) * sqrt (colNorm2 M s.W i) = colNorm2 M s.W i)
    (hne : sqrt (colNorm2 M s.W i) ≠ 0) :
    Inv M N A0 (i + 1) (outerStep sqrt M N i s) :=
  inv_step_of M N i A0 s (outerStep sqrt M N i s) (sqrt (colNorm2 M s.W i)) hi hinv
    (by rw [hsq, colNorm2_eq]) hne (outerStep_isStep sqrt M N i s)

theorem inv_stateAt (sqrt : K → K) (M N : Nat) (A0 Qin : Mat K) (i : Nat) (hi : i ≤ N)
    (hs : ∀ t, t < i → sqrt (normArg sqrt M N A0 Qin t) * sqrt (normArg sqrt M N A0 Qin t) = normArg sqrt M N A0 Qin t
      ∧ sqrt (normArg sqrt M N A0 Qin t) ≠ 0) :
    Inv M N A0 i (stateAt sqrt M N A0 Qin i) := by
  induction i with
  | zero => exact inv_init M N A0 Qin
  | succ n ih =>
    rw [stateAt_succ]
    have h := hs n (Nat.lt_succ_self n)
    exact inv_step sqrt M N n A0 _ (by omega) (ih (by omega) (fun t ht => hs t (by omega))) h.1 h.2

/- `Q * R = A` holds as soon as every value returned by `sqrt` is non-zero (`recon_step`); orthogonality is what needs the
   roots to be roots. -/

theorem recon_stateAt (sqrt : K → K) (M N : Nat) (A0 Qin : Mat K) (i : Nat) (hi : i ≤ N)
    (hne : ∀ t, t < i → sqrt (normArg sqrt M N A0 Qin t) ≠ 0) :
    ∀ k j, k < M → j < N →
      A0 k j = ∑ p ∈ range i, (stateAt sqrt M N A0 Qin i).Q k p * (stateAt sqrt M N A0 Qin i).R p j
        + (if i ≤ j then (stateAt sqrt M N A0 Qin i).W k j else 0) := by
  induction i with
  | zero => intro k j _ _; simp [stateAt, loop_nil, initSt]
  | succ n ih =>
    rw [stateAt_succ]
    exact recon_step M N n A0 _ _ _ (hne n (Nat.lt_succ_self n))
      (fun j => rzero_stateAt sqrt M N A0 Qin n n j (Or.inr (Nat.le_refl n)))
      (ih (by omega) fun t ht => hne t (by omega)) (outerStep_isStep sqrt M N n _)

end Fastor.QR
