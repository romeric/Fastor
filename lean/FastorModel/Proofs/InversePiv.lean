import FastorModel.Proofs.InverseLeaf
/- pivot vector is a permutation; apply_pivot / reconstruct_colwise; the pivoted direct inverse -/
namespace Fastor.Inv
open Matrix
variable {K : Type} [Field K]

/-- `p` permutes `0..M-1` -/
def IsPermOn (M : Nat) (p : Nat → Nat) : Prop :=
  (∀ i < M, p i < M) ∧ (∀ i < M, ∀ j < M, p i = p j → i = j)

theorem swapAt_perm {M : Nat} {p : Vec Nat} {a b : Nat} (hp : IsPermOn M p.get) (ha : a < M) (hb : b < M) :
    IsPermOn M (swapAt p a b).get := by
  refine ⟨fun i hi => ?_, fun i hi j hj h => ?_⟩
  · show (if i = a then p b else if i = b then p a else p i) < M
    split_ifs <;> apply hp.1 <;> assumption
  · have h' : (if i = a then p b else if i = b then p a else p i)
        = (if j = a then p b else if j = b then p a else p j) := h
    split_ifs at h' with h1 h2 h3 h4 h5 h6 <;>
      first
      | omega
      | (have := hp.2 _ (by assumption) _ (by assumption) h'; omega)

theorem maxIndex_lt {α : Type} (gt : α → α → Bool) (M : Nat) (A : Mat α) (j : Nat) (hj : j < M) :
    maxIndex gt M A j < M := by
  unfold maxIndex
  refine List.foldlRecOn (motive := (· < M)) _ _ hj fun mi hmi i hi => ?_
  rw [List.mem_range'_1] at hi
  split
  · omega
  · exact hmi

/-- **the pivot vector produced by the swap loop of `pivot_inplace` is a permutation of `0..M-1`**, for every
    matrix and every comparison (product of transpositions) -/
theorem pivotVec_perm {α : Type} (gt : α → α → Bool) (M : Nat) (A : Mat α) : IsPermOn M (pivotVec gt M A).get := by
  unfold pivotVec
  refine List.foldlRecOn (motive := fun p : Vec Nat => IsPermOn M p.get) _ _ ⟨fun i hi => hi, fun i _ j _ h => h⟩
    fun p hp x hx => ?_
  have hx := List.mem_range.mp hx
  simp only
  split
  · rw [memoV_eq]; exact swapAt_perm hp hx (maxIndex_lt gt M A x hx)
  · exact hp

/-- `apply_pivot` reads row `p i` into row `i` -/
theorem applyPivot_apply {α : Type} (A : Mat α) (p : Vec Nat) (i j : Nat) : (applyPivot A p) i j = A (p i) j := by
  show (if p i ≠ i then A (p i) j else A i j) = A (p i) j
  split
  · rfl
  · rename_i h; rw [not_not.mp h]

/-- invariant of the column loop of `reconstruct_colwise` after `k` iterations -/
theorem reconstruct_prefix {α : Type} (M : Nat) (Y : Mat α) (p : Vec Nat) (hp : IsPermOn M p.get) :
    ∀ k ≤ M,
      let X := (List.range k).foldl
        (fun (X : Mat α) i => if p i ≠ i then { get := fun r c => if c = p i then Y r i else X r c } else X) Y
      (∀ r, ∀ i < k, X r (p i) = Y r i) ∧ (∀ r c, (∀ i < k, p i ≠ c) → X r c = Y r c) := by
  intro k
  induction k with
  | zero => intro _; exact ⟨fun r i hi => absurd hi (Nat.not_lt_zero _), fun r c _ => rfl⟩
  | succ k ih =>
    intro hk
    obtain ⟨h1, h2⟩ := ih (by omega)
    rw [List.range_succ, List.foldl_append]
    simp only [List.foldl_cons, List.foldl_nil]
    by_cases hpk : p k = k
    · rw [if_neg (by simpa using hpk)]
      refine ⟨fun r i hi => ?_, fun r c hc => h2 r c (fun i hi => hc i (by omega))⟩
      by_cases hik : i = k
      · subst hik
        rw [hpk]
        apply h2
        intro i' hi' he
        have := hp.2 i' (by omega) i (by omega) (by rw [he, hpk])
        omega
      · exact h1 r i (by omega)
    · rw [if_pos hpk]
      refine ⟨fun r i hi => ?_, fun r c hc => ?_⟩
      · show (if p i = p k then Y r k else _) = Y r i
        by_cases hik : i = k
        · subst hik; rw [if_pos rfl]
        · have : p i ≠ p k := fun he => hik (hp.2 i (by omega) k (by omega) he)
          rw [if_neg this]; exact h1 r i (by omega)
      · show (if c = p k then Y r k else _) = Y r c
        have : c ≠ p k := fun he => hc k (by omega) he.symm
        rw [if_neg this]; exact h2 r c (fun i hi => hc i (by omega))

theorem reconstruct_spec {α : Type} (M : Nat) (Y : Mat α) (p : Vec Nat) (hp : IsPermOn M p.get) :
    ∀ r, ∀ i < M, (reconstructColwise M Y p) r (p i) = Y r i :=
  (reconstruct_prefix M Y p hp M (Nat.le_refl M)).1

theorem sum_perm (M : Nat) (p : Nat → Nat) (hp : IsPermOn M p) (f : Nat → K) :
    ∑ k ∈ Finset.range M, f k = ∑ i ∈ Finset.range M, f (p i) := by
  have hinj : Set.InjOn p (Finset.range M : Set Nat) := by
    intro i hi j hj h
    exact hp.2 i (Finset.mem_range.mp hi) j (Finset.mem_range.mp hj) h
  have himg : (Finset.range M).image p = Finset.range M := by
    apply Finset.eq_of_subset_of_card_le
    · intro x hx
      obtain ⟨i, hi, rfl⟩ := Finset.mem_image.mp hx
      exact Finset.mem_range.mpr (hp.1 i (Finset.mem_range.mp hi))
    · rw [Finset.card_image_of_injOn hinj]
  conv_lhs => rw [← himg]
  exact Finset.sum_image hinj

/-- column-wise reconstruction: if `Y` is a left inverse of the row-permuted matrix `apply_pivot(A,p)` and `p` is a
    permutation, then `reconstruct_colwise(Y,p)` is a left inverse of `A` -/
theorem reconstruct_left (M : Nat) (A Y : Mat K) (p : Vec Nat) (hp : IsPermOn M p.get)
    (hY : toMat M M Y * toMat M M (applyPivot A p) = 1) :
    toMat M M (reconstructColwise M Y p) * toMat M M A = 1 := by
  ext r c
  have h := congrFun (congrFun hY r) c
  rw [Matrix.mul_apply] at h ⊢
  rw [← h]
  show ∑ j : Fin M, (reconstructColwise M Y p) r.val j.val * A j.val c.val
      = ∑ j : Fin M, Y r.val j.val * (applyPivot A p) j.val c.val
  rw [Fin.sum_univ_eq_sum_range (fun k => (reconstructColwise M Y p) r.val k * A k c.val) M,
      Fin.sum_univ_eq_sum_range (fun k => Y r.val k * (applyPivot A p) k c.val) M,
      sum_perm M p.get hp]
  apply Finset.sum_congr rfl
  intro i hi
  have hi' := Finset.mem_range.mp hi
  rw [reconstruct_spec M Y p hp r.val i hi']
  rw [applyPivot_apply]

end Fastor.Inv
