import FastorModel.Model.Views
import Mathlib.Tactic.Ring
import Mathlib.Tactic.Linarith
/-
  Lemmas for C04, part 1: ranges — `seq::size`, the run-time normalisers and `to_positive` against the
  documented meaning of what the user writes.
-/
namespace Fastor.Views

inductive Enc
  | range (f l s : Nat)      -- `seq(f,l,s)`, `fseq<f,l,s>`, `iseq<f,l,s>`
  | toEnd (f k s : Nat)      -- `seq(f,last-k,s)` (`last` is the integer -1): from `f` to below `n-k`; `all` = `toEnd 0 0 1`
  | fromEnd (j k s : Nat)    -- `seq(last-j,last-k,s)`: from `n-j` to below `n-k`
  | idx (i : Int)            -- a plain integer (`seq(int i)`, `fix<i>`); negative = counted from the end
deriving Repr, DecidableEq

/-- the three integers the spelling puts into `seq` / `fseq` -/
def Enc.seq : Enc → Seq
  | .range f l s => ⟨f, l, s⟩
  | .toEnd f k s => ⟨f, -1 - (k : Int), s⟩
  | .fromEnd j k s => ⟨-1 - (j : Int), -1 - (k : Int), s⟩
  | .idx i => Seq.ofInt i

def Enc.isRange : Enc → Prop
  | .idx _ => False
  | _ => True

instance : DecidablePred Enc.isRange := fun e => by cases e <;> (unfold Enc.isRange; infer_instance)

def Enc.Adm (n : Nat) : Enc → Prop
  | .range f l s => f < l ∧ l ≤ n ∧ 0 < s
  | .toEnd f k s => f + k < n ∧ 0 < s
  | .fromEnd j k s => k < j ∧ j ≤ n ∧ 0 < s
  | .idx i => -(n : Int) ≤ i ∧ i < n

instance (n : Nat) : DecidablePred (Enc.Adm n) := fun e => by cases e <;> (unfold Enc.Adm; infer_instance)

/-- documented first selected element -/
def Enc.first (n : Nat) : Enc → Nat
  | .range f _ _ => f
  | .toEnd f _ _ => f
  | .fromEnd j _ _ => n - j
  | .idx i => (if i < 0 then (n : Int) + i else i).toNat

/-- documented end (exclusive) -/
def Enc.last (n : Nat) : Enc → Nat
  | .range _ l _ => l
  | .toEnd _ k _ => n - k
  | .fromEnd _ k _ => n - k
  | .idx i => (if i < 0 then (n : Int) + i else i).toNat + 1

def Enc.stepN : Enc → Nat
  | .range _ _ s => s
  | .toEnd _ _ s => s
  | .fromEnd _ _ s => s
  | .idx _ => 1

/-- documented number of selected elements: `ceil((last-first)/step)` -/
def Enc.countN (n : Nat) (e : Enc) : Nat := (e.last n - e.first n + e.stepN - 1) / e.stepN

theorem toPositive_eq_normN (N : Int) (s : Seq) : toPositive N s = normN N s := by
  obtain ⟨f, l, st⟩ := s
  simp only [toPositive, normN]
  split_ifs <;> simp only [Seq.mk.injEq, and_true, true_and] <;> omega

theorem nat_ceil_div (r s : Nat) (hs : 0 < s) :
    (if r % s = 0 then r / s else r / s + 1) = (r + s - 1) / s := by
  have h := Nat.div_add_mod r s
  have hm := Nat.mod_lt r hs
  split
  · next h0 =>
    symm; apply Nat.div_eq_of_lt_le
    · rw [Nat.mul_comm]; omega
    · have : (r / s + 1) * s = s * (r / s) + s := by ring
      omega
  · next h0 =>
    symm; apply Nat.div_eq_of_lt_le
    · have : (r / s + 1) * s = s * (r / s) + s := by ring
      omega
    · have : (r / s + 1 + 1) * s = s * (r / s) + s + s := by ring
      omega

theorem sizeInt_nat (r t : Nat) (ht : 0 < t) :
    (if (r : Int).tmod t = 0 then (r : Int).tdiv t else (r : Int).tdiv t + 1) = ((r + t - 1) / t : Nat) := by
  rw [← Int.ofNat_tdiv, ← Int.ofNat_tmod, ← nat_ceil_div _ _ ht]
  by_cases h : r % t = 0
  · simp [h]
  · have h' : ¬ ((r : Int) % (t : Int)) = 0 := by exact_mod_cast h
    simp [h, h']

/-- on a forward range of `r` elements' distance and step `t` the truncating computation is the ceiling division -/
theorem size_of_nat (s : Seq) (r t : Nat) (hr : s.last - s.first = r) (ht : s.step = t) (htpos : 0 < t) :
    s.size = ((r + t - 1) / t : Nat) := by
  unfold Seq.size
  simp only
  rw [hr, ht]
  exact sizeInt_nat _ _ htpos

theorem size_nat (f l s : Nat) (hs : 0 < s) (hfl : f ≤ l) :
    (Seq.mk f l s).size = ((l - f + s - 1) / s : Nat) :=
  size_of_nat _ (l - f) s (by simp only; omega) rfl hs

theorem adm_bounds (n : Nat) (e : Enc) (h : e.Adm n) :
    e.first n < e.last n ∧ e.last n ≤ n ∧ 0 < e.stepN := by
  cases e <;> simp only [Enc.Adm, Enc.first, Enc.last, Enc.stepN] at h ⊢ <;> (try split_ifs) <;> omega

theorem normN_plain (N f l s : Int) (hf : 0 ≤ f) (hl : 0 < l) : normN N ⟨f, l, s⟩ = ⟨f, l, s⟩ := by
  unfold normN
  rw [if_neg (by dsimp only; omega), if_neg (by dsimp only; omega), if_neg (by dsimp only; omega)]

theorem normN_toEnd (N f l s : Int) (hf : 0 ≤ f) (hl : l < 0) : normN N ⟨f, l, s⟩ = ⟨f, l + (N + 1), s⟩ := by
  unfold normN
  rw [if_pos (by dsimp only; omega)]

theorem normN_both (N f l s : Int) (hf : f < 0) (hl : l < 0) :
    normN N ⟨f, l, s⟩ = ⟨f + (N + 1), l + (N + 1), s⟩ := by
  unfold normN
  rw [if_neg (by dsimp only; omega), if_neg (by dsimp only; omega), if_pos (by dsimp only; omega)]

theorem normN_minus_one (N s : Int) : normN N ⟨-1, 0, s⟩ = ⟨N - 1, N, s⟩ := by
  unfold normN
  rw [if_neg (by dsimp only; omega), if_pos (by dsimp only; omega)]

theorem norm1_eq (N f l s : Int) :
    norm1 N ⟨f, l, s⟩ = ⟨if f < 0 then f + (N + 1) else f, if l < 0 then l + (N + 1) else l, s⟩ := rfl

/-- what the 2-D / n-D normaliser (and `to_positive`) makes of an admissible spelling -/
theorem normN_enc (n : Nat) (e : Enc) (h : e.Adm n) :
    normN n e.seq = ⟨(e.first n : Nat), (e.last n : Nat), (e.stepN : Nat)⟩ := by
  cases e <;> simp only [Enc.Adm] at h <;> simp only [Enc.seq, Seq.ofInt, Enc.first, Enc.last, Enc.stepN]
  case range f l s => exact normN_plain _ _ _ _ (by omega) (by omega)
  case toEnd f k s =>
    rw [normN_toEnd _ _ _ _ (by omega) (by omega), Seq.mk.injEq]
    exact ⟨rfl, by omega, rfl⟩
  case fromEnd j k s =>
    rw [normN_both _ _ _ _ (by omega) (by omega), Seq.mk.injEq]
    exact ⟨by omega, by omega, rfl⟩
  case idx i =>
    -- `seq(i)` is `[i-1, i)` below -1 (both ends from the end), `[-1, 0)` at -1 (the special case), `[i, i+1)` otherwise
    by_cases h1 : i < -1
    · rw [if_pos h1, if_pos h1, normN_both _ _ _ _ (by omega) (by omega), Seq.mk.injEq, if_pos (by omega)]
      exact ⟨by omega, by omega, by simp⟩
    · rw [if_neg h1, if_neg h1]
      by_cases h2 : i = -1
      · subst h2
        rw [show (-1 : Int) + 1 = 0 by rfl, normN_minus_one, Seq.mk.injEq, if_pos (by omega)]
        exact ⟨by omega, by omega, by simp⟩
      · rw [normN_plain _ _ _ _ (by omega) (by omega), Seq.mk.injEq, if_neg (by omega)]
        exact ⟨by omega, by omega, by simp⟩

theorem norm1_enc (n : Nat) (e : Enc) (h : e.Adm n) (hr : e.isRange) :
    norm1 n e.seq = ⟨(e.first n : Nat), (e.last n : Nat), (e.stepN : Nat)⟩ := by
  cases e <;> simp only [Enc.Adm] at h <;> simp only [Enc.seq, Enc.first, Enc.last, Enc.stepN, norm1_eq]
  case range f l s => rw [if_neg (by omega), if_neg (by omega)]
  case toEnd f k s =>
    rw [if_neg (by omega), if_pos (by omega), Seq.mk.injEq]
    exact ⟨rfl, by omega, rfl⟩
  case fromEnd j k s =>
    rw [if_pos (by omega), if_pos (by omega), Seq.mk.injEq]
    exact ⟨by omega, by omega, rfl⟩
  case idx i => exact hr.elim

theorem norm_eq (n : Nat) (e : Enc) (h : e.Adm n) (cls : Cls) (hc : cls ≠ .dyn1 ∨ e.isRange) :
    cls.norm n e.seq = ⟨(e.first n : Nat), (e.last n : Nat), (e.stepN : Nat)⟩ := by
  cases cls
  case dyn1 => exact hc.elim (fun h' => absurd rfl h') (norm1_enc n e h)
  case dyn2 | dynN => exact normN_enc n e h
  all_goals exact (toPositive_eq_normN _ _).trans (normN_enc n e h)

theorem ofSeq_nat (f l s : Nat) (hs : 0 < s) (hfl : f ≤ l) :
    Ax.ofSeq ⟨(f : Nat), (l : Nat), (s : Nat)⟩ = ⟨f, s, (l - f + s - 1) / s⟩ := by
  unfold Ax.ofSeq
  rw [size_nat f l s hs hfl]
  simp only [Int.toNat_natCast]

end Fastor.Views
