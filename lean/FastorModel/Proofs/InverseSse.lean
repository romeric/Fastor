import FastorModel.Model.InverseSse
import FastorModel.Proofs.InverseLeaf
/- the SSE intrinsic leaf kernels compute, entry by entry, the values of the scalar closed forms -/
namespace Fastor.Inv.Sse
open Fastor.Inv
variable {K : Type} [Field K]

theorem inv2f_eq (s : Nat → K) : ∀ k < 4, inv2f s k = inv2 s k := by
  intro k hk
  interval_cases k <;>
    simp only [inv2f, inv2, loadu, neg, shuffle, mul, add_ss, div_ss, V4.get, Nat.reduceAdd, Nat.reduceMod,
      Nat.reduceDiv] <;>
    ring

theorem inv2d_eq (s : Nat → K) : ∀ k < 4, inv2d s k = inv2 s k := by
  intro k hk
  interval_cases k <;>
    simp only [inv2d, inv2, loadu2, neg2, shuffle_pd, mul2, add2, div2, reverse2, V2.get, Nat.reduceAdd, Nat.reduceMod,
      Nat.reduceDiv, Nat.reduceLT, Nat.reduceSub, ↓reduceIte] <;>
    ring

/- The 4x4 kernels work on the four 2x2 blocks and divide by their own expression for the determinant.  The lanes
   are evaluated once, for all sixteen entries; `c` and `c'` stand for `1 / det` of the closed form and of the
   kernel, equal because the two determinant expressions are (one `ring`); what is left per entry is a cofactor
   identity without division. -/

theorem inv4f_eq (s : Nat → K) : ∀ k < 16, inv4f s k = inv4 s k := by
  intro k hk
  rw [show inv4 s k = _ from leafFlat_eq_adj 4 (by omega) (by omega) s k hk]
  simp only [inv4f, loadu, movelh, movehl, shuffle, mul, add, sub, mul_ss, add_ss, sub_ss, div_ss, set_ss_one, xorPNNP,
    V4.get, Nat.reduceAdd, Nat.reduceMod, Nat.reduceDiv]
  generalize hc : 1 / leafDet 4 s = c
  generalize hc' : (1 : K) / _ = c'
  have e : c' = c := by
    rw [← hc, ← hc']
    simp only [leafDet]
    ring
  subst e
  clear hc hc'
  interval_cases k <;>
    simp only [Nat.reduceLT, Nat.reduceSub, ↓reduceIte, adj, minor2] <;>
    ring

theorem inv4d_eq (s : Nat → K) : ∀ k < 16, inv4d s k = inv4 s k := by
  intro k hk
  rw [show inv4 s k = _ from leafFlat_eq_adj 4 (by omega) (by omega) s k hk]
  simp only [inv4d, loadu2, shuffle_pd, mul2, add2, sub2, mul_sd, add_sd, sub_sd, div_sd, set_sd_one, xorPN, xorNP,
    V2.get, Nat.reduceAdd, Nat.reduceMod, Nat.reduceDiv]
  generalize hc : 1 / leafDet 4 s = c
  generalize hc' : (1 : K) / _ = c'
  have e : c' = c := by
    rw [← hc, ← hc']
    simp only [leafDet]
    ring
  subst e
  clear hc hc'
  interval_cases k <;>
    simp only [adj, minor2] <;>
    ring

end Fastor.Inv.Sse
