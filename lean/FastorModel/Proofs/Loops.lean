import FastorModel.Core.Grid
/- Store lists indexed by `0 … n-1` and read-modify-write instruction lists with pairwise distinct positions. -/
namespace Fastor

theorem flatMap_single {β γ : Type} (f : β → γ) (l : List β) : l.flatMap (fun x => [f x]) = l.map f :=
  List.map_eq_flatMap.symm

theorem zip_map_self {α β : Type} (g : α → β) (xs : List α) : (xs.map g).zip xs = xs.map fun t => (g t, t) := by
  rw [List.zip_map_left, List.zip_eq_zipWith, List.zipWith_self, List.map_map]
  rfl

theorem zip_self_map {α β : Type} (g : α → β) (xs : List α) : xs.zip (xs.map g) = xs.map fun t => (t, g t) := by
  rw [List.zip_map_right, List.zip_eq_zipWith, List.zipWith_self, List.map_map]
  rfl

theorem laneStores_range {β : Type} (dst V : Nat) (g : Nat → β) :
    ((((List.range V).map g).zip (List.range ((List.range V).map g).length)).map fun ol => (dst + ol.2, ol.1)) =
      (List.range V).map fun l => (dst + l, g l) := by
  rw [List.length_map, List.length_range, zip_map_self, List.map_map]
  rfl

variable {α β : Type}

theorem writesExactly_range (b n : Nat) (g f : Nat → α) (hf : ∀ j, j < n → g j = f (b + j)) :
    WritesExactly ((List.range n).map fun j => (b + j, g j)) (fun p => b ≤ p ∧ p < b + n) f := by
  apply writesExactly_of_all_right
  · intro w hw
    obtain ⟨j, hj, rfl⟩ := List.mem_map.1 hw
    rw [List.mem_range] at hj
    exact ⟨⟨by omega, by omega⟩, hf j hj⟩
  · intro p hp
    exact ⟨(b + (p - b), g (p - b)), List.mem_map.2 ⟨p - b, List.mem_range.2 (by omega), rfl⟩, by simp only; omega⟩

theorem applyWrites_range_offset (lo W : Nat) (g cur : Nat → α) (q : Nat) :
    applyWrites ((List.range W).map fun l => (lo + l, g (lo + l))) cur q = if lo ≤ q ∧ q < lo + W then g q else cur q := by
  have h := applyWrites_of_exact (writesExactly_range lo W (fun l => g (lo + l)) g fun _ _ => rfl) cur q
  split
  · next hq => exact h.1 hq
  · next hq => exact h.2 hq

theorem applyWrites_range (n : Nat) (g cur : Nat → α) :
    applyWrites ((List.range n).map fun p => (p, g p)) cur = fun q => if q < n then g q else cur q := by
  funext q
  simpa using applyWrites_range_offset 0 n g cur q

theorem writesExactly_rows (M N : Nat) (g : Nat → Nat → α) :
    WritesExactly ((List.range M).flatMap fun i => (List.range N).map fun j => (i * N + j, g i j))
      (fun p => p < M * N) (fun p => g (p / N) (p % N)) := by
  have hrow : ∀ i ∈ List.range M, WritesExactly ((List.range N).map fun j => (i * N + j, g i j))
      (fun p => i * N ≤ p ∧ p < i * N + N) (fun p => g (p / N) (p % N)) :=
    fun i _ => writesExactly_range (i * N) N (g i) _ (fun j hj => by rw [pos_div hj, pos_mod hj])
  apply writesExactly_congr (writesExactly_flatMap _ _ _ _ hrow)
  intro p
  simp only [List.mem_range]
  constructor
  · rintro ⟨i, hi, _, h2⟩
    exact Nat.lt_of_lt_of_le (by rw [Nat.add_one_mul]; exact h2) (Nat.mul_le_mul_right N hi)
  · intro hp
    have hN : 0 < N := Nat.pos_of_ne_zero (by rintro rfl; simp at hp)
    have := Nat.div_add_mod p N
    have := Nat.mod_lt p hN
    exact ⟨p / N, (Nat.div_lt_iff_lt_mul hN).2 hp, by rw [Nat.mul_comm]; omega, by rw [Nat.mul_comm]; omega⟩

/-- `mem[p] = ap (mem[p]) v` for the instructions `(p, v)` in order; `applyWrites` is the case `ap _ v = v` -/
def rmw (ap : α → β → α) (ins : List (Nat × β)) (m : Nat → α) : Nat → α :=
  ins.foldl (fun m w => fun p => if p = w.1 then ap (m w.1) w.2 else m p) m

theorem applyWrites_eq_rmw (ws : List (Nat × α)) (m : Nat → α) : applyWrites ws m = rmw (fun _ v => v) ws m := rfl

theorem rmw_cons (ap : α → β → α) (w : Nat × β) (ins : List (Nat × β)) (m : Nat → α) :
    rmw ap (w :: ins) m = rmw ap ins (fun p => if p = w.1 then ap (m w.1) w.2 else m p) := rfl

theorem rmw_distinct {ι : Type} (ap : α → β → α) (I : List ι) (pos : ι → Nat) (val : ι → β) (m : Nat → α)
    (hnd : (I.map pos).Nodup) :
    (∀ x ∈ I, rmw ap (I.map fun x => (pos x, val x)) m (pos x) = ap (m (pos x)) (val x)) ∧
    (∀ p, p ∉ I.map pos → rmw ap (I.map fun x => (pos x, val x)) m p = m p) := by
  induction I generalizing m with
  | nil => exact ⟨fun _ h => absurd h List.not_mem_nil, fun _ _ => rfl⟩
  | cons y I ih =>
    rw [List.map_cons, List.nodup_cons] at hnd
    obtain ⟨ihv, ihf⟩ := ih (fun p => if p = pos y then ap (m (pos y)) (val y) else m p) hnd.2
    rw [List.map_cons, rmw_cons]
    constructor
    · intro x hx
      rcases List.mem_cons.1 hx with rfl | hx
      · rw [ihf _ hnd.1, if_pos rfl]
      · rw [ihv x hx, if_neg (fun e : pos x = pos y => hnd.1 (e ▸ List.mem_map_of_mem hx))]
    · intro p hp
      rw [List.map_cons, List.mem_cons, not_or] at hp
      rw [ihf p hp.2, if_neg hp.1]

end Fastor
