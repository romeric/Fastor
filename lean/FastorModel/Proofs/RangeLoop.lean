/- Counted loops as folds over `List.range' a len`, and the row scatter `dst[p i] := src[i]` of the `reconstruct` helpers of
   unary_piv_op.h. -/
namespace Fastor

variable {σ : Type}

theorem foldl_range'_succ (f : σ → Nat → σ) (s : σ) (a len : Nat) :
    (List.range' a (len + 1)).foldl f s = f ((List.range' a len).foldl f s) (a + len) := by
  rw [List.range'_concat, List.foldl_append, List.foldl_cons, List.foldl_nil, Nat.one_mul]

theorem foldl_range_succ (f : σ → Nat → σ) (s : σ) (n : Nat) :
    (List.range (n + 1)).foldl f s = f ((List.range n).foldl f s) n := by
  rw [List.range_succ, List.foldl_append, List.foldl_cons, List.foldl_nil]

theorem foldl_range'_induction (f : σ → Nat → σ) (s : σ) (a len : Nat) (P : Nat → σ → Prop) (h0 : P a s)
    (hstep : ∀ t x, a ≤ t → t < a + len → P t x → P (t + 1) (f x t)) :
    P (a + len) ((List.range' a len).foldl f s) := by
  induction len with
  | zero => exact h0
  | succ len ih =>
    rw [foldl_range'_succ]
    exact hstep _ _ (Nat.le_add_right a len) (Nat.lt_succ_self _)
      (ih fun t x h1 h2 => hstep t x h1 (Nat.lt_succ_of_lt h2))

theorem foldl_range_induction (f : σ → Nat → σ) (s : σ) (n : Nat) (P : Nat → σ → Prop) (h0 : P 0 s)
    (hstep : ∀ t x, t < n → P t x → P (t + 1) (f x t)) : P n ((List.range n).foldl f s) := by
  have h := foldl_range'_induction f s 0 n P h0 fun t x _ ht => hstep t x (by omega)
  rwa [Nat.zero_add, ← List.range_eq_range'] at h

/-- `for i < n: if p i ≠ i then dst[p i] := src[i]` on a copy `dst` of `src`, seen through a read function `rd`: a slot
`p i` that is never written has `p i = i`, and is not the target of another `i'`. -/
theorem scatter_get {β : Type} (n : Nat) (p : Nat → Nat) (g : Nat → β) (rd : σ → Nat → β) (wr : σ → Nat → σ) (s : σ)
    (hlt : ∀ i, i < n → p i < n) (hinj : ∀ i j, i < n → j < n → p i = p j → i = j)
    (hs : ∀ r, r < n → rd s r = g r)
    (hwr : ∀ x i r, i < n → r < n → rd (wr x i) r = if r = p i then g i else rd x r)
    (i : Nat) (hi : i < n) : rd ((List.range n).foldl (fun x i => if p i ≠ i then wr x i else x) s) (p i) = g i := by
  have key := foldl_range_induction (fun x i => if p i ≠ i then wr x i else x) s n
    (fun m x => (∀ i, i < m → rd x (p i) = g i) ∧ ∀ r, r < n → (∀ i, i < m → p i ≠ r) → rd x r = g r)
    ⟨fun i hi => absurd hi (Nat.not_lt_zero i), fun r hr _ => hs r hr⟩ ?_
  · exact key.1 i hi
  intro m x hm ⟨hdone, hrest⟩
  have hstep : ∀ r, r < n → r ≠ p m → rd (if p m ≠ m then wr x m else x) r = rd x r := fun r hr hne => by
    split
    · rw [hwr x m r hm hr, if_neg hne]
    · rfl
  refine ⟨fun i hi => ?_, fun r hr hne => ?_⟩
  · by_cases him : i = m
    · subst him
      by_cases hp : p i = i
      · rw [if_neg (not_not_intro hp)]
        exact (hrest (p i) (hlt i hm) fun j hj e => absurd (hinj j i (by omega) hm e) (by omega)).trans (congrArg g hp)
      · rw [if_pos hp, hwr x i (p i) hm (hlt i hm), if_pos rfl]
    · rw [hstep (p i) (hlt i (by omega)) fun h => him (hinj i m (by omega) hm h), hdone i (by omega)]
  · rw [hstep r hr fun h => hne m (Nat.lt_succ_self m) h.symm]
    exact hrest r hr fun j hj => hne j (Nat.lt_succ_of_lt hj)

end Fastor
