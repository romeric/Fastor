import FastorModel.Proofs.LULoops
/-
  Doolittle's equations, and `lu_simple_dispatcher` for M > 8 (the Doolittle loop nest): for every n the loops establish them.
-/
namespace Fastor.LU
open Finset

variable {K : Type} [Field K]

def DooU (A L U : Mat K) (r j : Nat) : Prop := U.get r j = A.get r j - ∑ k ∈ range r, L.get r k * U.get k j

def DooL (A L U : Mat K) (i c : Nat) : Prop :=
  L.get i c = (A.get i c - ∑ k ∈ range c, L.get i k * U.get k c) / U.get c c

section doolittle
variable {A L U L' U' : Mat K}

theorem DooU.congr {r j : Nat} (h : DooU A L U r j) (hL : ∀ k, k < r → L'.get r k = L.get r k)
    (hU : ∀ k, k ≤ r → U'.get k j = U.get k j) : DooU A L' U' r j := by
  unfold DooU at h ⊢
  rw [hU r (Nat.le_refl r), sum_range_congr fun k hk => by rw [hL k hk, hU k (Nat.le_of_lt hk)]]
  exact h

theorem DooL.congr {i c : Nat} (h : DooL A L U i c) (hL : ∀ k, k ≤ c → L'.get i k = L.get i k)
    (hU : ∀ k, k ≤ c → U'.get k c = U.get k c) : DooL A L' U' i c := by
  unfold DooL at h ⊢
  rw [hL c (Nat.le_refl c), hU c (Nat.le_refl c),
    sum_range_congr fun k hk => by rw [hL k (Nat.le_of_lt hk), hU k (Nat.le_of_lt hk)]]
  exact h

theorem dooU_of_subLoop {r j : Nat} (h : U.get r j = subLoop r (fun k => L.get r k * U.get k j) (A.get r j)) :
    DooU A L U r j := by
  rw [DooU, h, subLoop_eq]

theorem dooL_of_subLoop {i c : Nat}
    (h : L.get i c = subLoop c (fun k => L.get i k * U.get k c) (A.get i c) / U.get c c) : DooL A L U i c := by
  rw [DooL, h, subLoop_eq]

end doolittle

/-- Doolittle's equations (exactly the assignments of `lu_simple_dispatcher` and of the unrolled `_lufact` kernels, read as
equations between the final entries) force `L * U = A`. -/
theorem doolittle_equations_isLU (n : Nat) (A L U : Mat K)
    (hdiag : ∀ i, i < n → L.get i i = 1)
    (hlz : ∀ i j, i < n → j < n → i < j → L.get i j = 0)
    (huz : ∀ i j, i < n → j < n → j < i → U.get i j = 0)
    (hU : ∀ i j, i < n → j < n → i ≤ j → DooU A L U i j)
    (hL : ∀ i j, i < n → j < n → j < i → DooL A L U i j)
    (hpiv : ∀ j, j + 1 < n → U.get j j ≠ 0) : IsLU n A L U := by
  refine ⟨hdiag, hlz, huz, fun i j hi hj => ?_⟩
  by_cases hij : i ≤ j
  · exact sum_lower_unit hi (fun m => L.get i m) (fun m => U.get m j) _ (hdiag i hi) (fun m h1 h2 => hlz i m hi h2 h1)
      (hU i j hi hj hij)
  · exact sum_upper_div hj (fun m => L.get i m) (fun m => U.get m j) _ (hpiv j (by omega))
      (fun m h1 h2 => huz m j h2 hj h1) (hL i j hi hj (by omega))

def simpleState (n : Nat) (A : Mat K) (j : Nat) : Mat K × Mat K :=
  (List.range j).foldl (luSimpleCol n A) (Mat.zero n n, Mat.zero n n)

/-- the strategy is defined on A: every `U(j,j)` the loop nest divides by (all n of them) is non-zero -/
def SimpleDefined (n : Nat) (A : Mat K) : Prop := ∀ j, j < n → (simpleState n A (j + 1)).2.get j j ≠ 0

/-- after `j` columns: columns `≥ j` of both matrices still hold the fill, columns `< j` satisfy Doolittle's equations, with
zeros above (L) and below (U) the diagonal -/
structure SimpleInv (n j : Nat) (A L U : Mat K) : Prop where
  hasL : ∀ i c, L.has i c ↔ i < n ∧ c < n
  hasU : ∀ i c, U.has i c ↔ i < n ∧ c < n
  zeroL : ∀ i c, j ≤ c → L.get i c = 0
  zeroU : ∀ i c, j ≤ c → U.get i c = 0
  ueq : ∀ i c, c < j → i ≤ c → DooU A L U i c
  uzero : ∀ i c, c < j → c < i → U.get i c = 0
  leq : ∀ i c, c < j → c ≤ i → i < n → DooL A L U i c
  lzero : ∀ i c, c < j → i < c → L.get i c = 0
  piv : ∀ c, c < j → U.get c c ≠ 0

theorem simpleInv_init (n : Nat) (A : Mat K) : SimpleInv n 0 A (Mat.zero n n) (Mat.zero n n) := by
  refine ⟨has_zero n n, has_zero n n, fun i c _ => get_zero n n i c, fun i c _ => get_zero n n i c, ?_, ?_, ?_, ?_, ?_⟩ <;>
    intros <;> omega

theorem simpleCol_inv (n j : Nat) (A L U : Mat K) (h : SimpleInv n j A L U) (hj : j < n)
    (hp : (luSimpleCol n A (L, U) j).2.get j j ≠ 0) :
    SimpleInv n (j + 1) A (luSimpleCol n A (L, U) j).1 (luSimpleCol n A (L, U) j).2 := by
  obtain ⟨hasL, hasU, zeroL, zeroU, ueq, uzero, leq, lzero, piv⟩ := h
  -- the three stages of one column: `L(j,j) = 1`, column `j` of `U` top-down, column `j` of `L` from the diagonal down
  obtain ⟨L1, hL1⟩ : ∃ M, M = L.set j j 1 := ⟨_, rfl⟩
  obtain ⟨U', hU'⟩ : ∃ M, M = (List.range' 0 (j + 1)).foldl (fun (U : Mat K) i =>
      U.set i j (subLoop i (fun k => L1.get i k * U.get k j) (A.get i j))) U := ⟨_, rfl⟩
  obtain ⟨L', hL'⟩ : ∃ M, M = (List.range' j (n - j)).foldl (fun (L : Mat K) i =>
      L.set i j (subLoop j (fun k => L.get i k * U'.get k j) (A.get i j) / U'.get j j)) L1 := ⟨_, rfl⟩
  have e : luSimpleCol n A (L, U) j = (L', U') := by rw [hL', hU', hL1, ← List.range_eq_range']; rfl
  rw [e] at hp ⊢
  dsimp only at hp ⊢
  have getL1 : ∀ i c, c ≠ j → L1.get i c = L.get i c := fun i c hc => by
    rw [hL1, Mat.get_set, if_neg fun h => hc h.2.1]
  obtain ⟨u1, u2, u3⟩ := foldl_set_col j (fun M i => subLoop i (fun k => L1.get i k * M.get k j) (A.get i j)) 0 (j + 1) U U' hU'
    (fun M M' t h => subLoop_congr _ fun k hk => by rw [h k j (Or.inr hk)])
    (fun t _ ht => (hasU t j).2 ⟨by omega, hj⟩)
  obtain ⟨l1, l2, l3⟩ := foldl_set_col j (fun M i => subLoop j (fun k => M.get i k * U'.get k j) (A.get i j) / U'.get j j)
    j (n - j) L1 L' hL' (fun M M' t h => by rw [subLoop_congr _ fun k hk => by rw [h t k (Or.inl (by omega))]])
    (fun t _ ht => by rw [hL1, Mat.has_set]; exact (hasL t j).2 ⟨by omega, hj⟩)
  have getL' : ∀ i c, c ≠ j → L'.get i c = L.get i c := fun i c hc => by rw [l2 i c (Or.inl hc), getL1 i c hc]
  have getU' : ∀ i c, c ≠ j → U'.get i c = U.get i c := fun i c hc => u2 i c (Or.inl hc)
  refine ⟨fun i c => by rw [l1, hL1, Mat.has_set]; exact hasL i c, fun i c => by rw [u1]; exact hasU i c, ?_, ?_, ?_, ?_, ?_, ?_, ?_⟩
  · intro i c hc; rw [getL' i c (by omega)]; exact zeroL i c (by omega)
  · intro i c hc; rw [getU' i c (by omega)]; exact zeroU i c (by omega)
  · intro i c hc hic
    by_cases hcj : c = j
    · subst hcj
      exact (dooU_of_subLoop (u3 i (Nat.zero_le i) (by omega))).congr (fun k hk => l2 i k (Or.inl (by omega))) (fun k _ => rfl)
    · exact (ueq i c (by omega) hic).congr (fun k hk => getL' i k (by omega)) (fun k _ => getU' k c hcj)
  · intro i c hc hci
    by_cases hcj : c = j
    · subst hcj; rw [u2 i c (Or.inr (Or.inr (by omega)))]; exact zeroU i c (Nat.le_refl _)
    · rw [getU' i c hcj]; exact uzero i c (by omega) hci
  · intro i c hc hci hi
    by_cases hcj : c = j
    · subst hcj
      exact dooL_of_subLoop (l3 i hci (by omega))
    · exact (leq i c (by omega) hci hi).congr (fun k hk => getL' i k (by omega)) (fun k _ => getU' k c hcj)
  · intro i c hc hic
    by_cases hcj : c = j
    · subst hcj
      rw [l2 i c (Or.inr (Or.inl hic)), hL1, Mat.get_set, if_neg fun h => by omega]
      exact zeroL i c (Nat.le_refl _)
    · rw [getL' i c hcj]; exact lzero i c (by omega) hic
  · intro c hc
    by_cases hcj : c = j
    · subst hcj; exact hp
    · rw [getU' c c hcj]; exact piv c (by omega)

theorem simpleState_succ (n : Nat) (A : Mat K) (j : Nat) :
    simpleState n A (j + 1) = luSimpleCol n A (simpleState n A j) j :=
  foldl_range_succ _ _ j

theorem simpleState_inv (n : Nat) (A : Mat K) (hdef : SimpleDefined n A) :
    ∀ j, j ≤ n → SimpleInv n j A (simpleState n A j).1 (simpleState n A j).2 := by
  intro j
  induction j with
  | zero => intro _; exact simpleInv_init n A
  | succ j ih =>
    intro hj
    have hd := hdef j (by omega)
    rw [simpleState_succ] at hd ⊢
    exact simpleCol_inv n j A _ _ (ih (by omega)) (by omega) hd

/-- `lu_simple_dispatcher`, M > 8 (the loops are correct for every n) -/
theorem luSimpleLoops_isLU (n : Nat) (A : Mat K) (hdef : SimpleDefined n A) :
    IsLU n A (luSimpleLoops n A).1 (luSimpleLoops n A).2 := by
  have h := simpleState_inv n A hdef n (Nat.le_refl _)
  have e : luSimpleLoops n A = simpleState n A n := rfl
  rw [e]
  apply doolittle_equations_isLU n A _ _
  · intro i hi
    rw [h.leq i i hi (Nat.le_refl _) hi, ← h.ueq i i hi (Nat.le_refl _)]
    exact div_self (h.piv i hi)
  · intro i j _ hj hij; exact h.lzero i j hj hij
  · intro i j _ hj hji; exact h.uzero i j hj hji
  · intro i j _ hj hij; exact h.ueq i j hj hij
  · intro i j hi hj hji; exact h.leq i j hj (by omega) hi
  · intro j hj; exact h.piv j (by omega)

end Fastor.LU
