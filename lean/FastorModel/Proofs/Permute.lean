import FastorModel.Model.Permute
import FastorModel.Proofs.Layout
/-
  Proofs about the permute model (C14).
  Part 1: boxes, row-major offsets, the code's index arithmetic, the recursive Cartesian loop.
-/
namespace Fastor.Permute

def InBox : List Nat → List Nat → Prop
  | [], [] => True
  | d :: ds, x :: xs => x < d ∧ InBox ds xs
  | _, _ => False

def flat : List Nat → List Nat → Nat
  | d :: ds, x :: xs => x * prod ds + flat ds xs
  | _, _ => 0

/-- `as[mi[0]], as[mi[1]], …` -/
def gather (mi as : List Nat) : List Nat := mi.map fun k => as.getD k 0

theorem prod_cons (d : Nat) (ds : List Nat) : prod (d :: ds) = d * prod ds := rfl

/-! `prod`, `InBox`, `flat` are `Layout.prod`, `Layout.Box`, `Layout.rowFlat` -/

theorem prod_eq : ∀ ds : List Nat, prod ds = Layout.prod ds
  | [] => rfl
  | d :: ds => by rw [prod_cons, prod_eq ds]; rfl

theorem inBox_iff_box : ∀ {ds xs : List Nat}, InBox ds xs ↔ Layout.Box ds xs
  | [], [] => Iff.rfl
  | [], _ :: _ => Iff.rfl
  | _ :: _, [] => Iff.rfl
  | _ :: ds, _ :: xs => and_congr_right fun _ => inBox_iff_box (ds := ds) (xs := xs)

theorem flat_eq : ∀ ds xs : List Nat, flat ds xs = Layout.rowFlat ds xs
  | [], [] => rfl
  | [], _ :: _ => rfl
  | _ :: _, [] => rfl
  | _ :: ds, _ :: xs => by simp only [flat, Layout.rowFlat, flat_eq ds xs, prod_eq]

theorem InBox.length_eq {dims as : List Nat} (h : InBox dims as) : as.length = dims.length :=
  (inBox_iff_box.1 h).length_eq

theorem flat_lt {dims as : List Nat} (h : InBox dims as) : flat dims as < prod dims := by
  rw [flat_eq, prod_eq]; exact Layout.rowFlat_lt (inBox_iff_box.1 h)

theorem flat_inj {dims as bs : List Nat} (ha : InBox dims as) (hb : InBox dims bs) (h : flat dims as = flat dims bs) :
    as = bs := by
  rw [flat_eq, flat_eq] at h; exact Layout.rowFlat_inj (inBox_iff_box.1 ha) (inBox_iff_box.1 hb) h

theorem flat_surj (dims : List Nat) (q : Nat) (h : q < prod dims) : ∃ as, InBox dims as ∧ flat dims as = q := by
  obtain ⟨hb, hf⟩ := Layout.unflatRow_spec (prod_eq dims ▸ h)
  exact ⟨_, inBox_iff_box.2 hb, by rw [flat_eq, hf]⟩
theorem inBox_iff_getD : ∀ {dims as : List Nat},
    InBox dims as ↔ as.length = dims.length ∧ ∀ k, k < dims.length → as.getD k 0 < dims.getD k 0
  | [], [] => by simp [InBox]
  | [], _ :: _ => by simp [InBox]
  | _ :: _, [] => by simp [InBox]
  | d :: ds, x :: xs => by
    simp only [InBox, inBox_iff_getD (dims := ds) (as := xs), List.length_cons]
    constructor
    · rintro ⟨hx, hl, h⟩
      refine ⟨by omega, ?_⟩
      intro k hk
      cases k with
      | zero => simpa using hx
      | succ k => simpa using h k (by omega)
    · rintro ⟨hl, h⟩
      refine ⟨by simpa using h 0 (by omega), by omega, ?_⟩
      intro k hk
      simpa using h (k + 1) (by omega)


def sumRange (n : Nat) (f : Nat → Nat) : Nat := (List.range n).foldl (fun acc it => acc + f it) 0

theorem sumRange_succ_left (n : Nat) (f : Nat → Nat) : sumRange (n + 1) f = f 0 + sumRange n (fun it => f (it + 1)) := by
  unfold sumRange
  rw [List.range_succ_eq_map, List.foldl_cons, List.foldl_map, foldl_add_shift]
  simp

theorem sumRange_succ_right (n : Nat) (f : Nat → Nat) : sumRange (n + 1) f = sumRange n f + f n := by
  unfold sumRange
  rw [List.range_succ, List.foldl_append]; simp

theorem sumRange_congr {n : Nat} {f g : Nat → Nat} (h : ∀ it, it < n → f it = g it) : sumRange n f = sumRange n g := by
  induction n with
  | zero => rfl
  | succ n ih =>
    rw [sumRange_succ_right, sumRange_succ_right, ih (fun it hit => h it (by omega)), h n (by omega)]

theorem productsFrom_cons_succ (d : Nat) (ds : List Nat) (i : Nat) : productsFrom (d :: ds) (i + 1) = productsFrom ds i := by
  simp [productsFrom]

theorem productsFrom_zero (ds : List Nat) : productsFrom ds 0 = prod ds := by simp [productsFrom, prod]

/-- the row-major offset written the way the loop body computes it: all but the last component times the
    product of the later extents, plus the last component -/
theorem flat_eq_sum : ∀ (ds xs : List Nat), xs.length = ds.length → ds ≠ [] →
    flat ds xs = sumRange (ds.length - 1) (fun it => productsFrom ds (it + 1) * xs.getD it 0) + xs.getD (ds.length - 1) 0
  | [], _, _, h => absurd rfl h
  | [d], [x], _, _ => by simp [flat, prod, sumRange]
  | d :: d' :: ds, x :: x' :: xs, hl, _ => by
    have ih := flat_eq_sum (d' :: ds) (x' :: xs) (by simpa using hl) (by simp)
    have e : (d :: d' :: ds).length - 1 = ((d' :: ds).length - 1) + 1 := by simp
    rw [e, sumRange_succ_left]
    simp only [flat] at ih ⊢
    rw [ih]
    simp only [productsFrom_cons_succ, productsFrom_zero, List.length_cons, List.getD_cons_zero, List.getD_cons_succ,
      Nat.add_sub_cancel, prod_cons]
    rw [Nat.mul_comm x]; omega
  | _ :: _ :: _, [], hl, _ => by simp at hl
  | _ :: _ :: _, [_], hl, _ => by simp at hl
  | [_], [], hl, _ => by simp at hl
  | [_], _ :: _ :: _, hl, _ => by simp at hl

theorem nprods_getD (ds : List Nat) (it : Nat) (hit : it < ds.length) :
    (nprods ds).getD it 0 = if it + 1 = ds.length then 0 else productsFrom ds (it + 1) := by
  unfold nprods
  simp only [List.getD_eq_getElem?_getD, List.getElem?_map, List.getElem?_range hit, Option.map_some, Option.getD_some]
  split
  · rfl
  · have h1 : it + 1 < ds.length := by omega
    simp [h1]

theorem gather_length (mi as : List Nat) : (gather mi as).length = mi.length := by simp [gather]

theorem gather_getD (mi as : List Nat) (n : Nat) (hn : n < mi.length) :
    (gather mi as).getD n 0 = as.getD (mi.getD n 0) 0 := by
  simp [gather, List.getD_eq_getElem?_getD, List.getElem?_map, List.getElem?_eq_getElem hn]

theorem foldl_range_eq_sumRange (n : Nat) (f : Nat → Nat) (init : Nat) :
    (List.range n).foldl (fun acc it => acc + f it) init = init + sumRange n f := foldl_add_shift _ _ _

/-- **index arithmetic**: for `bound = r-1` (the `index_out` loops) and `bound = r` (the `index_a` loops, whose
    last term has a zero factor) the computed offset is the row-major offset of the gathered multi-index -/
theorem codeIndex_eq_flat (ds mi as : List Nat) (bound : Nat) (hne : ds ≠ []) (hmi : mi.length = ds.length)
    (hb : bound = ds.length - 1 ∨ bound = ds.length) :
    codeIndex (nprods ds) mi as ds.length bound = flat ds (gather mi as) := by
  have hr : 0 < ds.length := List.length_pos_iff.2 hne
  rw [flat_eq_sum ds (gather mi as) (by rw [gather_length, hmi]) hne]
  unfold codeIndex
  rw [foldl_range_eq_sumRange, gather_getD mi as _ (by omega), Nat.add_comm]
  congr 1
  have hmain : sumRange (ds.length - 1) (fun it => (nprods ds).getD it 0 * as.getD (mi.getD it 0) 0)
      = sumRange (ds.length - 1) (fun it => productsFrom ds (it + 1) * (gather mi as).getD it 0) := by
    apply sumRange_congr
    intro it hit
    rw [nprods_getD ds it (by omega), gather_getD mi as it (by omega)]
    have : ¬ it + 1 = ds.length := by omega
    simp [this]
  rcases hb with hb | hb
  · rw [hb, hmain]
  · have e : ds.length = (ds.length - 1) + 1 := by omega
    rw [hb, e, sumRange_succ_right, ← e, hmain, nprods_getD ds _ (by omega)]
    have : ds.length - 1 + 1 = ds.length := by omega
    simp [this]


def lexBox : List Nat → List (List Nat)
  | [] => [[]]
  | d :: ds => (List.range d).flatMap fun i => (lexBox ds).map fun tl => i :: tl

theorem mem_lexBox : ∀ {dims as : List Nat}, as ∈ lexBox dims ↔ InBox dims as
  | [], [] => by simp [lexBox, InBox]
  | [], _ :: _ => by simp [lexBox, InBox]
  | d :: ds, [] => by simp [lexBox, InBox]
  | d :: ds, x :: xs => by
    simp only [lexBox, List.mem_flatMap, List.mem_range, List.mem_map, InBox, ← mem_lexBox (dims := ds) (as := xs)]
    constructor
    · rintro ⟨i, hi, tl, htl, h⟩
      injection h with h1 h2
      subst h1; subst h2; exact ⟨hi, htl⟩
    · rintro ⟨hx, hxs⟩
      exact ⟨x, hx, xs, hxs, rfl⟩

theorem drop_set_self : ∀ (l : List Nat) (n v : Nat), n < l.length → (l.set n v).drop n = v :: l.drop (n + 1)
  | _ :: _, 0, _, _ => by simp
  | x :: xs, n + 1, v, h => by
    simp only [List.set_cons_succ, List.drop_succ_cons]
    exact drop_set_self xs n v (by simpa using h)
  | [], _, _, h => by simp at h

/-- the nest over the remaining extents `ds` extends the already fixed outer components (stored from the
    top of `idx` downwards and reversed by `reverse_copy`) by every multi-index of `ds` in lexicographic order -/
theorem cartesian_eq : ∀ (ds idx : List Nat), ds.length ≤ idx.length →
    cartesian ds idx = (lexBox ds).map fun tl => (idx.drop ds.length).reverse ++ tl
  | [], idx, _ => by simp [cartesian, lexBox]
  | d :: ds, idx, h => by
    have hlt : ds.length < idx.length := by simp only [List.length_cons] at h; omega
    simp only [cartesian, lexBox, List.map_flatMap, List.map_map, List.length_cons]
    congr 1
    funext i
    rw [cartesian_eq ds (idx.set ds.length i) (by simp; omega), drop_set_self idx _ i hlt]
    simp [Function.comp_def]

theorem cartesian_zeros (dims : List Nat) : cartesian dims (List.replicate dims.length 0) = lexBox dims := by
  rw [cartesian_eq dims _ (by simp)]
  simp

/-! ### Part 2: permutations, inverse maps, the move lists -/

variable {α : Type}

/-- `mi` and `rev` are mutually inverse maps on `0..r-1` -/
structure IsInv (mi rev : List Nat) (r : Nat) : Prop where
  lmi : mi.length = r
  lrev : rev.length = r
  left : ∀ n, n < r → mi.getD n 0 < r ∧ rev.getD (mi.getD n 0) 0 = n
  right : ∀ k, k < r → rev.getD k 0 < r ∧ mi.getD (rev.getD k 0) 0 = k

theorem IsInv.symm {mi rev : List Nat} {r : Nat} (h : IsInv mi rev r) : IsInv rev mi r :=
  ⟨h.lrev, h.lmi, h.right, h.left⟩

theorem ext_getD {l1 l2 : List Nat} (hl : l1.length = l2.length) (h : ∀ k, k < l1.length → l1.getD k 0 = l2.getD k 0) :
    l1 = l2 := by
  apply List.ext_getElem hl
  intro k h1 h2
  have := h k h1
  simpa [List.getD_eq_getElem?_getD, List.getElem?_eq_getElem h1, List.getElem?_eq_getElem h2] using this

theorem gather_gather {mi rev : List Nat} {r : Nat} (h : IsInv mi rev r) (as : List Nat) (hl : as.length = r) :
    gather rev (gather mi as) = as := by
  apply ext_getD (by rw [gather_length, h.lrev, hl])
  intro k hk
  rw [gather_length, h.lrev] at hk
  rw [gather_getD rev _ k (by rw [h.lrev]; exact hk), gather_getD mi as _ (by rw [h.lmi]; exact (h.right k hk).1),
    (h.right k hk).2]

theorem gather_inBox {mi rev : List Nat} {r : Nat} (h : IsInv mi rev r) {dims as : List Nat} (hd : dims.length = r)
    (hb : InBox dims as) : InBox (gather mi dims) (gather mi as) := by
  rw [inBox_iff_getD] at hb ⊢
  refine ⟨by simp [gather_length], ?_⟩
  intro n hn
  rw [gather_length, h.lmi] at hn
  rw [gather_getD mi as n (by rw [h.lmi]; exact hn), gather_getD mi dims n (by rw [h.lmi]; exact hn)]
  exact hb.2 _ (by rw [hd]; exact (h.left n hn).1)

theorem gather_range (as : List Nat) : gather (List.range as.length) as = as := by
  apply ext_getD (by simp [gather_length])
  intro k hk
  rw [gather_length, List.length_range] at hk
  rw [gather_getD _ as k (by simpa using hk)]
  simp [List.getD_eq_getElem?_getD, List.getElem?_range hk]

/-- a program whose stores are `out[flat (gather mi dims) (gather mi i)] = a[flat dims i]`, one per multi-index `i` of
    the box: every cell of the permuted result gets its element, nothing else is written -/
theorem permuting_correct {ws : List (Nat × α)} {mi rev dims : List Nat} (hinv : IsInv mi rev dims.length) (a m : Nat → α)
    (hws : ∀ w, w ∈ ws ↔ ∃ i, InBox dims i ∧ w = (flat (gather mi dims) (gather mi i), a (flat dims i))) :
    (∀ i, InBox dims i → applyWrites ws m (flat (gather mi dims) (gather mi i)) = a (flat dims i)) ∧
    (∀ pos, prod (gather mi dims) ≤ pos → applyWrites ws m pos = m pos) ∧
    (∀ pos, pos < prod (gather mi dims) → ∃ i, InBox dims i ∧ flat (gather mi dims) (gather mi i) = pos) := by
  have hol : (gather mi dims).length = dims.length := by rw [gather_length, hinv.lmi]
  obtain ⟨h1, h2⟩ := Layout.applyWrites_indexed hws (fun i j hi hj h => by
    have e := flat_inj (gather_inBox hinv rfl hi) (gather_inBox hinv rfl hj) h
    rw [← gather_gather hinv i hi.length_eq, e, gather_gather hinv j hj.length_eq]) m
  refine ⟨h1, fun pos hpos => h2 pos fun i hi => ?_, fun pos hpos => ?_⟩
  · have := flat_lt (gather_inBox hinv rfl hi)
    omega
  · obtain ⟨j, hj, hf⟩ := flat_surj _ pos hpos
    refine ⟨gather rev j, ?_, ?_⟩
    · have := gather_inBox hinv.symm hol hj
      rwa [gather_gather hinv dims rfl] at this
    · rw [gather_gather hinv.symm j (by rw [hj.length_eq, hol]), hf]

theorem gather_ne_nil {mi rev dims : List Nat} (hinv : IsInv mi rev dims.length) (hne : dims ≠ []) : gather mi dims ≠ [] := by
  intro h
  have := gather_length mi dims
  rw [h, hinv.lmi] at this
  exact hne (List.length_eq_zero_iff.1 this.symm)

/-- **forward-map loop body** (C++14 `permute`, legacy `permutation`): over any loop skeleton that visits
    exactly the input box -/
theorem forward_correct (v : Variant) (mi rev dims : List Nat) (hne : dims ≠ [])
    (hst : ∀ as, as ∈ loopStates v dims ↔ InBox dims as) (hinv : IsInv mi rev dims.length)
    (a m : Nat → α) :
    let ws := movesWrites a (forwardMoves v mi dims (gather mi dims))
    (∀ i, InBox dims i → applyWrites ws m (flat (gather mi dims) (gather mi i)) = a (flat dims i)) ∧
    (∀ pos, prod (gather mi dims) ≤ pos → applyWrites ws m pos = m pos) ∧
    (∀ pos, pos < prod (gather mi dims) → ∃ i, InBox dims i ∧ flat (gather mi dims) (gather mi i) = pos) := by
  have hol : (gather mi dims).length = dims.length := by rw [gather_length, hinv.lmi]
  apply permuting_correct hinv a m
  intro w
  simp only [movesWrites, forwardMoves, List.mem_map, List.map_map, Function.comp_def, hst]
  refine exists_congr fun as => and_congr_right fun has => ?_
  have e1 := codeIndex_eq_flat (gather mi dims) mi as (dims.length - 1) (gather_ne_nil hinv hne) (by rw [hol, hinv.lmi])
    (Or.inl (by rw [hol]))
  have e2 := codeIndex_eq_flat dims (List.range dims.length) as dims.length hne (by simp) (Or.inr rfl)
  rw [hol] at e1
  rw [e1, e2, ← has.length_eq, gather_range, eq_comm]

/-- **reverse-map loop body** (C++17 `permute`): the skeleton visits exactly the output box -/
theorem reverse_correct (v : Variant) (mi rev dims : List Nat) (hne : dims ≠ [])
    (hst : ∀ as, as ∈ loopStates v (gather mi dims) ↔ InBox (gather mi dims) as) (hinv : IsInv mi rev dims.length)
    (a m : Nat → α) :
    let ws := movesWrites a (reverseMoves v rev dims (gather mi dims))
    (∀ i, InBox dims i → applyWrites ws m (flat (gather mi dims) (gather mi i)) = a (flat dims i)) ∧
    (∀ pos, prod (gather mi dims) ≤ pos → applyWrites ws m pos = m pos) ∧
    (∀ pos, pos < prod (gather mi dims) → ∃ i, InBox dims i ∧ flat (gather mi dims) (gather mi i) = pos) := by
  have hol : (gather mi dims).length = dims.length := by rw [gather_length, hinv.lmi]
  apply permuting_correct hinv a m
  intro w
  simp only [movesWrites, reverseMoves, List.mem_map, List.map_map, Function.comp_def, hst]
  -- the stores of a multi-index `as` of the output box, in closed form
  have key : ∀ as, InBox (gather mi dims) as →
      (codeIndex (nprods (gather mi dims)) (List.range dims.length) as dims.length (dims.length - 1),
        a (codeIndex (nprods dims) rev as dims.length dims.length)) = (flat (gather mi dims) as, a (flat dims (gather rev as))) := by
    intro as has
    have e1 := codeIndex_eq_flat (gather mi dims) (List.range dims.length) as (dims.length - 1) (gather_ne_nil hinv hne)
      (by simp [hol]) (Or.inl (by rw [hol]))
    rw [hol] at e1
    rw [e1, codeIndex_eq_flat dims rev as dims.length hne hinv.lrev (Or.inr rfl), ← hol, ← has.length_eq, gather_range]
  -- the output box is the image of the input box under `gather mi`
  constructor
  · rintro ⟨as, has, rfl⟩
    have hb := gather_inBox hinv.symm hol has
    rw [gather_gather hinv dims rfl] at hb
    exact ⟨gather rev as, hb, by rw [key as has, gather_gather hinv.symm as (by rw [has.length_eq, hol])]⟩
  · rintro ⟨i, hi, rfl⟩
    exact ⟨gather mi i, gather_inBox hinv rfl hi, by rw [key _ (gather_inBox hinv rfl hi), gather_gather hinv i hi.length_eq]⟩

theorem loopStates_recursive_mem (dims as : List Nat) : as ∈ loopStates .recursive dims ↔ InBox dims as := by
  simp only [loopStates, cartesian_zeros, mem_lexBox]

/-! ### Part 3: the metafunctions on a permutation of `0..r-1` -/

theorem countLess_eq_countP (l : List Nat) (x : Nat) : countLess l x = l.countP (fun y => decide (y < x)) := by
  induction l with
  | nil => rfl
  | cons y l ih =>
    have : countLess (y :: l) x = countLess l x + (if y < x then 1 else 0) := rfl
    rw [this, ih, List.countP_cons]; simp

theorem countP_lt_range (r x : Nat) : (List.range r).countP (fun y => decide (y < x)) = min x r := by
  induction r with
  | zero => simp
  | succ r ih =>
    rw [List.range_succ, List.countP_append, ih]
    by_cases h : r < x <;> simp [h] <;> omega

theorem perm_facts {p : List Nat} {r : Nat} (hp : p.Perm (List.range r)) :
    p.length = r ∧ p.Nodup ∧ ∀ x, x ∈ p ↔ x < r :=
  ⟨by rw [hp.length_eq, List.length_range], hp.nodup_iff.2 List.nodup_range, fun x => by rw [hp.mem_iff, List.mem_range]⟩

theorem countLess_perm {p : List Nat} {r : Nat} (hp : p.Perm (List.range r)) {x : Nat} (hx : x < r) :
    countLess p x = x := by
  rw [countLess_eq_countP, hp.countP_eq, countP_lt_range]; omega

/-- `new_permute_impl::resulting_index` is the pack itself -/
theorem newIdx_eq {p : List Nat} {r : Nat} (hp : p.Perm (List.range r)) : newIdx p = p := by
  obtain ⟨hl, _, hm⟩ := perm_facts hp
  unfold newIdx
  conv => rhs; rw [← List.map_id p]
  apply List.map_congr_left
  intro x hx
  have hx' := (hm x).1 hx
  rw [countLess_perm hp hx', hl]
  simp [List.getD_eq_getElem?_getD, List.getElem?_range hx']

/-- `new_permute_impl::resulting_tensor` has extents `dims[p[n]]` -/
theorem newDims_eq {p : List Nat} {r : Nat} (hp : p.Perm (List.range r)) (dims : List Nat) :
    newDims p dims = gather p dims := by
  obtain ⟨_, _, hm⟩ := perm_facts hp
  unfold newDims gather
  apply List.map_congr_left
  intro x hx
  rw [countLess_perm hp ((hm x).1 hx)]

/-- the inverse permutation as a list: position of `k` in `p` -/
def invOf (p : List Nat) : List Nat := (List.range p.length).map fun k => p.idxOf k

theorem getD_eq_getElem' (l : List Nat) (n : Nat) (h : n < l.length) : l.getD n 0 = l[n] := by
  simp [List.getD_eq_getElem?_getD, List.getElem?_eq_getElem h]

theorem isInv_invOf {p : List Nat} {r : Nat} (hp : p.Perm (List.range r)) : IsInv p (invOf p) r := by
  obtain ⟨hl, hnd, hm⟩ := perm_facts hp
  have hget : ∀ k, k < r → (invOf p).getD k 0 = p.idxOf k := by
    intro k hk
    simp [invOf, List.getD_eq_getElem?_getD, List.getElem?_map, List.getElem?_range (hl ▸ hk)]
  refine ⟨hl, by simp [invOf, hl], ?_, ?_⟩
  · intro n hn
    have hn' : n < p.length := hl ▸ hn
    have h1 : p.getD n 0 = p[n] := getD_eq_getElem' p n hn'
    have h2 : p[n] < r := (hm _).1 (List.getElem_mem hn')
    refine ⟨h1 ▸ h2, ?_⟩
    rw [h1, hget _ h2]
    exact hnd.idxOf_getElem n hn'
  · intro k hk
    have hmem : k ∈ p := (hm k).2 hk
    have hlt : p.idxOf k < p.length := List.idxOf_lt_length_of_mem hmem
    rw [hget k hk]
    refine ⟨hl ▸ hlt, ?_⟩
    rw [getD_eq_getElem' p _ hlt]
    exact List.getElem_idxOf hlt

theorem isInv_unique {mi rev rev' : List Nat} {r : Nat} (h : IsInv mi rev r) (h' : IsInv mi rev' r) : rev = rev' := by
  apply ext_getD (by rw [h.lrev, h'.lrev])
  intro k hk
  rw [h.lrev] at hk
  obtain ⟨hk1, hk2⟩ := h.right k hk
  have := (h'.left _ hk1).2
  rw [hk2] at this
  exact this.symm

end Fastor.Permute
