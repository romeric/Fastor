import FastorModel.Proofs.MatmulFills
import FastorModel.Proofs.TmatmulFills
/-
  C07: the *intermediate* store events (`Seg.pre`) of the matmul / tmatmul kernel models read nothing
  (spilled lanes, `kk = 0`) or re-read a prefix `k < kk ≤ K` of the `k` range of a cell that a final
  event of the same segment also produces (partial sums of the `M % u` remainder blocks and of
  `_matvecmul`).  `PreOK` is a property of one segment; `AllSegs` lifts it through the loop structure of
  the kernels (append / flatMap / map / if), with no arithmetic involved.
-/
namespace Fastor.Matmul
open Fastor

def PreOK (K : Nat) (s : Seg) : Prop :=
  ∀ e ∈ s.pre, e.kk = 0 ∨ (e.k0 = 0 ∧ e.kk ≤ K ∧ ∃ e' ∈ s.fin, e'.r = e.r ∧ e'.c = e.c)

def AllSegs (Q : Seg → Prop) (segs : List Seg) : Prop := ∀ s ∈ segs, Q s

variable {Q : Seg → Prop}

@[simp] theorem allSegs_nil : AllSegs Q [] := by simp [AllSegs]
@[simp] theorem allSegs_append {A B : List Seg} : AllSegs Q (A ++ B) ↔ AllSegs Q A ∧ AllSegs Q B := by
  simp only [AllSegs, List.mem_append]
  exact ⟨fun h => ⟨fun s hs => h s (Or.inl hs), fun s hs => h s (Or.inr hs)⟩,
    fun h s hs => hs.elim (h.1 s) (h.2 s)⟩
@[simp] theorem allSegs_flatMap {ι : Type} {L : List ι} {f : ι → List Seg} :
    AllSegs Q (L.flatMap f) ↔ ∀ x ∈ L, AllSegs Q (f x) := by
  simp only [AllSegs, List.mem_flatMap]
  exact ⟨fun h x hx s hs => h s ⟨x, hx, hs⟩, fun h s ⟨x, hx, hs⟩ => h x hx s hs⟩
@[simp] theorem allSegs_map {ι : Type} {L : List ι} {f : ι → Seg} :
    AllSegs Q (L.map f) ↔ ∀ x ∈ L, Q (f x) := by
  simp only [AllSegs, List.mem_map]
  exact ⟨fun h x hx => h _ ⟨x, hx, rfl⟩, fun h s ⟨x, hx, e⟩ => e ▸ h x hx⟩
@[simp] theorem allSegs_singleton {s : Seg} : AllSegs Q [s] ↔ Q s := by simp [AllSegs]
@[simp] theorem allSegs_ite {c : Prop} [Decidable c] {A B : List Seg} :
    AllSegs Q (if c then A else B) ↔ (c → AllSegs Q A) ∧ (¬ c → AllSegs Q B) := by
  split <;> simp [*]

variable {K : Nat}

@[simp] theorem preOK_block (rows cols : List Nat) (st : Nat) : PreOK K (block K rows cols st) := by
  intro e he; simp [block] at he

@[simp] theorem preOK_blockPartial (rows cols : List Nat) (st : Nat) : PreOK K (blockPartial K rows cols st) := by
  intro e he
  simp only [blockPartial, List.mem_flatMap, List.mem_range] at he
  obtain ⟨k, hk, he⟩ := he
  obtain ⟨a, b, c, _, e0⟩ := mem_cellEvents.1 he
  right
  exact ⟨e0, by omega, ⟨e.r, e.c, K, st, 0⟩, mem_cellEvents.2 ⟨a, b, rfl, rfl, rfl⟩, rfl, rfl⟩

@[simp] theorem allSegs_interior (V i j u nR nC : Nat) : AllSegs (PreOK K) (interior K V i j u nR nC) :=
  allSegs_map.2 fun _ _ => preOK_block _ _ _
@[simp] theorem allSegs_interiorScalar (i j u nR : Nat) : AllSegs (PreOK K) (interiorScalar K i j u nR) :=
  allSegs_map.2 fun _ _ => preOK_block _ _ _
@[simp] theorem allSegs_interiorMask (masks : Bool) (i j u nR w : Nat) :
    AllSegs (PreOK K) (interiorMask masks K i j u nR w) :=
  allSegs_map.2 fun _ _ => preOK_block _ _ _

theorem allSegs_base (M N V : Nat) (bl : Blocking) : AllSegs (PreOK K) (base M K N V bl) := by
  unfold base
  simp only [allSegs_append, allSegs_flatMap, allSegs_map, allSegs_ite, allSegs_nil, allSegs_interior,
    allSegs_interiorScalar, preOK_block, preOK_blockPartial, implies_true, and_self]

theorem allSegs_baseMasked (masks : Bool) (M N V : Nat) (bl : Blocking) :
    AllSegs (PreOK K) (baseMasked masks M K N V bl) := by
  unfold baseMasked
  simp only [allSegs_append, allSegs_flatMap, allSegs_map, allSegs_ite, allSegs_nil, allSegs_interior,
    allSegs_interiorMask, preOK_block, preOK_blockPartial, implies_true, and_self]

theorem allSegs_tiny (M N V : Nat) : AllSegs (PreOK K) (tiny M K N V) := by
  unfold tiny
  simp only [allSegs_flatMap, allSegs_append, allSegs_map, preOK_block, implies_true, and_self]

theorem allSegs_nonPrimitive (M N : Nat) : AllSegs (PreOK K) (nonPrimitive M K N) := by
  unfold nonPrimitive
  simp only [allSegs_flatMap, allSegs_map, preOK_block, implies_true]

theorem preOK_smallNRow (masks : Bool) (N V r : Nat) (sp lg : Bool) : PreOK K (smallNRow masks K N V r sp lg) := by
  intro e he
  left
  unfold smallNRow at he
  simp only at he
  split at he
  · simp only [List.mem_map, List.mem_range] at he
    obtain ⟨l, _, rfl⟩ := he; rfl
  · simp at he

theorem allSegs_smallN (masks : Bool) (M N V : Nat) : AllSegs (PreOK K) (smallN masks M K N V) := by
  unfold smallN
  simp only [allSegs_map]
  intro r _
  exact preOK_smallNRow masks N V r _ _

theorem preOK_matvecGroup (K1 i n : Nat) (hK1 : K1 ≤ K) : PreOK K (matvecGroup K K1 i n) := by
  intro e he
  unfold matvecGroup at he ⊢
  simp only at he ⊢
  split at he
  · simp at he
  · rename_i hne
    right
    simp only [List.mem_append, List.mem_map, List.mem_flatMap] at he
    rcases he with ⟨r, hr, rfl⟩ | ⟨j, hj, r, hr, rfl⟩
    · refine ⟨rfl, hK1, ?_⟩
      rw [if_neg hne]
      exact ⟨_, List.mem_map.2 ⟨r, hr, rfl⟩, rfl, rfl⟩
    · obtain ⟨t, _, hlt⟩ := (mem_forRange (by omega : 0 < 1)).1 hj
      refine ⟨rfl, by simp only; omega, ?_⟩
      rw [if_neg hne]
      exact ⟨_, List.mem_map.2 ⟨r, hr, rfl⟩, rfl, rfl⟩

theorem allSegs_matvec (M V : Nat) : AllSegs (PreOK K) (matvec M K V) := by
  have hK1 : K / V * V ≤ K := Nat.div_mul_le_self K V
  unfold matvec
  simp only [allSegs_ite, allSegs_append, allSegs_map, allSegs_singleton, allSegs_nil, preOK_block,
    preOK_matvecGroup _ _ _ hK1, implies_true, and_self]

/-- In a kernel that fills `M × N` with events of at most `K` terms and whose intermediate events are well formed,
    every store event, final or intermediate, accumulates nothing or is for a cell of the grid with at most `K` terms -/
theorem event_in_grid {P : St → Prop} {M N : Nat} {segs : List Seg} (hfill : Fills N P segs (· < M) (· < N))
    (hP : ∀ e, P e → e.kk ≤ K) (hpre : AllSegs (PreOK K) segs) {s : Seg} (hs : s ∈ segs) {e : St}
    (he : e ∈ s.events) : e.kk = 0 ∨ (e.r < M ∧ e.c < N ∧ e.kk ≤ K) := by
  rcases List.mem_append.1 he with h | h
  · rcases hpre s hs e h with h0 | ⟨_, hkk, e', he', hr, hc⟩
    · exact Or.inl h0
    · obtain ⟨hr', hc', _⟩ := hfill.inside s hs e' he'
      exact Or.inr ⟨hr ▸ hr', hc ▸ hc', hkk⟩
  · obtain ⟨hr, hc, h⟩ := hfill.inside s hs e h
    exact Or.inr ⟨hr, hc, hP e h⟩

theorem reads_in_operands {M N : Nat} {e : St} (h : e.kk = 0 ∨ (e.r < M ∧ e.c < N ∧ e.kk ≤ K)) {k : Nat}
    (hk : k < e.kk) : e.r * K + k < M * K ∧ k * N + e.c < K * N := by
  obtain ⟨hr, hc, hkk⟩ := h.resolve_left (by omega)
  exact ⟨pos_lt hr (by omega), pos_lt (by omega) hc⟩

end Fastor.Matmul

namespace Fastor.Tmatmul
open Fastor Fastor.Matmul

variable {K : Nat}

@[simp] theorem preOK_tblock (rows cols : List Nat) (st k0 kk : Nat) : PreOK K (tblock rows cols st k0 kk) := by
  intro e he; simp [tblock] at he

@[simp] theorem allSegs_tinterior (lt rt : UpLo) (V i j u nR nC : Nat) :
    AllSegs (PreOK K) (tinterior lt rt K V i j u nR nC) :=
  allSegs_map.2 fun _ _ => preOK_tblock _ _ _ _ _
@[simp] theorem allSegs_tinteriorScalar (lt rt : UpLo) (i j u nR : Nat) :
    AllSegs (PreOK K) (tinteriorScalar lt rt K i j u nR) :=
  allSegs_map.2 fun _ _ => preOK_tblock _ _ _ _ _

theorem allSegs_tbase (lt rt : UpLo) (M N V : Nat) (bl : Blocking) : AllSegs (PreOK K) (tbase lt rt M K N V bl) := by
  unfold tbase
  simp only [allSegs_append, allSegs_flatMap, allSegs_map, allSegs_ite, allSegs_nil, allSegs_interior,
    allSegs_tinterior, allSegs_tinteriorScalar, preOK_tblock, preOK_blockPartial, implies_true, and_self]

theorem allSegs_tbaseMasked (lt rt : UpLo) (masks : Bool) (M N V : Nat) (bl : Blocking) :
    AllSegs (PreOK K) (tbaseMasked lt rt masks M K N V bl) := by
  unfold tbaseMasked
  simp only [allSegs_append, allSegs_flatMap, allSegs_map, allSegs_ite, allSegs_nil, allSegs_interior,
    allSegs_interiorMask, preOK_block, preOK_tblock, preOK_blockPartial, implies_true, and_self]

theorem allSegs_tnonPrimitive (lt rt : UpLo) (M N : Nat) : AllSegs (PreOK K) (tnonPrimitive lt rt M K N) := by
  unfold tnonPrimitive
  simp only [allSegs_flatMap, allSegs_map, preOK_tblock, implies_true]

end Fastor.Tmatmul
