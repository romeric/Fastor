import FastorModel.Proofs.Inverse
import Mathlib.Tactic.IntervalCases
/- closed forms `_inverse<T,1..4>`: cofactors times `1 / det`, hence left inverses -/
namespace Fastor.Inv
open Matrix
variable {K : Type} [Field K]

theorem flat_entry (n : Nat) (A : Mat K) (l j : Nat) (hj : j < n) : flat n A (l * n + j) = A l j := by
  show A ((l * n + j) / n) ((l * n + j) % n) = A l j
  rw [pos_div hj, pos_mod hj]

theorem leaf_of_flat (n : Nat) (A : Mat K) (g : (Nat → K) → Nat → K)
    (H : ∀ i < n, ∀ j < n,
      ∑ l ∈ Finset.range n, g (flat n A) (i * n + l) * (flat n A) (l * n + j) = if i = j then 1 else 0) :
    toMat n n (unflat n (g (flat n A))) * toMat n n A = 1 := by
  ext i j
  rw [Matrix.mul_apply, Matrix.one_apply]
  have h := H i.val i.isLt j.val j.isLt
  rw [← Fin.sum_univ_eq_sum_range (fun l => g (flat n A) (i.val * n + l) * (flat n A) (l * n + j.val))] at h
  have e : (∑ l : Fin n, toMat n n (unflat n (g (flat n A))) i l * toMat n n A l j)
      = ∑ l : Fin n, g (flat n A) (i.val * n + l.val) * (flat n A) (l.val * n + j.val) := by
    apply Finset.sum_congr rfl
    intro l _
    rw [flat_entry n A l.val j.val j.isLt]
    rfl
  rw [e, h]
  simp [Fin.ext_iff]

/-- a matrix of cofactors `d` scaled by the inverse `c` of the determinant is a left inverse -/
theorem flat_left_of_adj {n : Nat} {s g d : Nat → K} {det c : K} (hg : ∀ k < n * n, g k = d k * c) (hc : det * c = 1)
    (hadj : ∀ i < n, ∀ j < n, ∑ l ∈ Finset.range n, d (i * n + l) * s (l * n + j) = if i = j then det else 0) :
    ∀ i < n, ∀ j < n, ∑ l ∈ Finset.range n, g (i * n + l) * s (l * n + j) = if i = j then 1 else 0 := by
  intro i hi j hj
  have e : ∑ l ∈ Finset.range n, g (i * n + l) * s (l * n + j)
      = (∑ l ∈ Finset.range n, d (i * n + l) * s (l * n + j)) * c := by
    rw [Finset.sum_mul]
    apply Finset.sum_congr rfl
    intro l hl
    rw [hg _ (pos_lt hi (Finset.mem_range.mp hl)), mul_right_comm]
  rw [e, hadj i hi j hj]
  split
  · exact hc
  · exact zero_mul c

def minor2 (s : Nat → K) (a b c d : Nat) : K := s a * s b - s c * s d

/-- the cofactor the closed form `_inverse<T,n>` multiplies by `1 / det` in entry `k` (the `d0, d1, …` of the source) -/
def adj (n : Nat) (s : Nat → K) (k : Nat) : K :=
  match n with
  | 1 => 1
  | 2 =>
    match k with
    | 0 => s 3
    | 1 => - s 1
    | 2 => - s 2
    | 3 => s 0
    | _ => 0
  | 3 =>
    match k with
    | 0 => s 4 * s 8 - s 5 * s 7
    | 1 => (- s 1) * s 8 + s 2 * s 7
    | 2 => s 1 * s 5 - s 2 * s 4
    | 3 => (- s 3) * s 8 + s 5 * s 6
    | 4 => s 0 * s 8 - s 2 * s 6
    | 5 => (- s 0) * s 5 + s 2 * s 3
    | 6 => s 3 * s 7 - s 4 * s 6
    | 7 => (- s 0) * s 7 + s 1 * s 6
    | 8 => s 0 * s 4 - s 1 * s 3
    | _ => 0
  | 4 =>
    match k with
    | 0 => s 5 * minor2 s 10 15 11 14 - s 6 * minor2 s 9 15 11 13 + s 7 * minor2 s 9 14 10 13
    | 1 => s 2 * minor2 s 9 15 11 13 - s 1 * minor2 s 10 15 11 14 - s 3 * minor2 s 9 14 10 13
    | 2 => s 13 * minor2 s 2 7 3 6 - s 14 * minor2 s 1 7 3 5 + s 15 * minor2 s 1 6 2 5
    | 3 => s 10 * minor2 s 1 7 3 5 - s 9 * minor2 s 2 7 3 6 - s 11 * minor2 s 1 6 2 5
    | 4 => s 6 * minor2 s 8 15 11 12 - s 4 * minor2 s 10 15 11 14 - s 7 * minor2 s 8 14 10 12
    | 5 => s 0 * minor2 s 10 15 11 14 - s 2 * minor2 s 8 15 11 12 + s 3 * minor2 s 8 14 10 12
    | 6 => s 14 * minor2 s 0 7 3 4 - s 12 * minor2 s 2 7 3 6 - s 15 * minor2 s 0 6 2 4
    | 7 => s 8 * minor2 s 2 7 3 6 - s 10 * minor2 s 0 7 3 4 + s 11 * minor2 s 0 6 2 4
    | 8 => s 4 * minor2 s 9 15 11 13 - s 5 * minor2 s 8 15 11 12 + s 7 * minor2 s 8 13 9 12
    | 9 => s 1 * minor2 s 8 15 11 12 - s 0 * minor2 s 9 15 11 13 - s 3 * minor2 s 8 13 9 12
    | 10 => s 12 * minor2 s 1 7 3 5 - s 13 * minor2 s 0 7 3 4 + s 15 * minor2 s 0 5 1 4
    | 11 => s 9 * minor2 s 0 7 3 4 - s 8 * minor2 s 1 7 3 5 - s 11 * minor2 s 0 5 1 4
    | 12 => s 5 * minor2 s 8 14 10 12 - s 4 * minor2 s 9 14 10 13 - s 6 * minor2 s 8 13 9 12
    | 13 => s 0 * minor2 s 9 14 10 13 - s 1 * minor2 s 8 14 10 12 + s 2 * minor2 s 8 13 9 12
    | 14 => s 13 * minor2 s 0 6 2 4 - s 12 * minor2 s 1 6 2 5 - s 14 * minor2 s 0 5 1 4
    | 15 => s 8 * minor2 s 1 6 2 5 - s 9 * minor2 s 0 6 2 4 + s 10 * minor2 s 0 5 1 4
    | _ => 0
  | _ => 0

theorem leafFlat_eq_adj (n : Nat) (h1 : 1 ≤ n) (h4 : n ≤ 4) (s : Nat → K) (k : Nat) (hk : k < n * n) :
    leafFlat n s k = adj n s k * (1 / leafDet n s) := by
  interval_cases n <;> interval_cases k <;> first | rfl | exact (one_mul _).symm

/-- the cofactor expansions: row `i` of the cofactors times column `j` of `s` is the determinant expanded along
    column `i` for `i = j`, and a determinant with a repeated column otherwise -/
theorem adj_mul (n : Nat) (h4 : n ≤ 4) (s : Nat → K) : ∀ i < n, ∀ j < n,
    ∑ l ∈ Finset.range n, adj n s (i * n + l) * s (l * n + j) = if i = j then leafDet n s else 0 := by
  intro i hi j hj
  -- the sums are written out before `adj` is unfolded: under the binder every entry of the table would be expanded
  interval_cases n <;> interval_cases i <;> interval_cases j <;>
    simp only [Finset.sum_range_succ, Finset.sum_range_zero, Nat.reduceMul, Nat.reduceAdd, zero_add,
      Nat.reduceEqDiff, ↓reduceIte] <;>
    simp only [adj, minor2, leafDet, Nat.reduceMul, Nat.reduceAdd] <;>
    ring

theorem leaf_left (n : Nat) (h1 : 1 ≤ n) (h4 : n ≤ 4) (A : Mat K) (h : leafDet n (flat n A) ≠ 0) :
    toMat n n (leafInv n A) * toMat n n A = 1 :=
  leaf_of_flat n A (leafFlat n)
    (flat_left_of_adj (leafFlat_eq_adj n h1 h4 _) (mul_one_div_cancel h) (adj_mul n h4 _))

/-- every value the recursion divides by (the determinant of every leaf block: leading blocks and Schur
    complements, as met by the code) is non-zero -/
def InvDefined (M : Nat) (A : Mat K) : Prop := ∀ x ∈ invDivs M A, x ≠ 0

/-- the block recursion `inverse_dispatcher` is a left inverse for every size (strong induction on the size) -/
theorem inv_left : ∀ M, 0 < M → ∀ A : Mat K, InvDefined M A → toMat M M (inv M A) * toMat M M A = 1 := by
  intro M
  induction M using Nat.strong_induction_on with
  | _ M ih =>
    intro hM A hdef
    by_cases h4 : M ≤ 4
    · rw [inv, dif_pos h4]
      apply leaf_left M hM h4
      have e : invDivs M A = [leafDet M (flat M A)] := by rw [invDivs, dif_pos h4]
      exact hdef _ (by rw [e]; simp)
    · have hN := splitPoint_pos (M := M) (by omega)
      have hN' := splitPoint_lt (M := M) (by omega)
      rw [inv, dif_neg h4]
      simp only [memo_eq]
      have hd := hdef
      rw [InvDefined, invDivs, dif_neg h4] at hd
      simp only [memo_eq, List.mem_append] at hd
      have ha := ih (splitPoint M) hN' hN (blk A 0 0) (fun x hx => hd x (Or.inl hx))
      have hs := ih (M - splitPoint M) (by omega) (by omega) _ (fun x hx => hd x (Or.inr hx))
      clear hd hdef ih
      generalize splitPoint M = N at *
      generalize hRe : M - N = R at *
      have hMe : M = N + R := by omega
      subst hMe
      rw [toMat_assemble, toMat_blocks N R A]
      apply reindex_mul_eq_one
      simp only [toMat_add', toMat_neg', toMat_sub', toMat_matmul] at hs ⊢
      exact block_left_inv _ _ _ _ _ _ ha hs

end Fastor.Inv
