import FastorModel.Model.RandomViews
import FastorModel.Props.C02
import FastorModel.Proofs.Loops
/-
  Lemmas for C19: the loop shapes of the view code enumerate `0 .. n-1` in order, and the lanes of the
  gather are the scalar reads.
-/
namespace Fastor.RandomViews
open Fastor Fastor.Expr

/-- **vector body + scalar tail visit every position once, in order**, when each vector iteration
    produces per lane what the scalar iteration produces -/
theorem vecThenTail_eq {β : Type} (n ex : Nat) (hn : n < 2 ^ 64) (hex : ex ≤ 64) (vec : Nat → List β) (sc : Nat → β)
    (hvec : ∀ i, vec i = (List.range (2 ^ ex)).map fun l => sc (i + l)) :
    vecThenTail n (2 ^ ex) vec sc = (List.range n).map sc := by
  unfold vecThenTail
  rw [C02.roundDown_pow2 n ex hn hex]
  exact vecTail_eq n (2 ^ ex) (Nat.pow_pos (by omega)) vec sc hvec

variable {α : Type}

/-- the instruction lists of the index-tensor and mask views are read-modify-write lists -/
theorem exec_eq_rmw (ap : α → α → α) (ins : List (Nat × α)) (mem : Nat → α) : exec ap ins mem = rmw ap ins mem := rfl

/-- `vector_setter` + `set`: the two reversals cancel, lane `l` is `data[inds[l]]` -/
theorem vectorSetter_eq (data : Nat → α) (inds : List Nat) : vectorSetter data inds = inds.map data := by
  unfold vectorSetter setLanes
  rw [List.map_reverse, List.reverse_reverse]

section
variable [Zero α] [Add α] [Sub α] [Mul α]
/-- **vector evaluation of any tree is the scalar evaluation lane by lane** (gather lanes = scalar reads) -/
theorem evalV_eq (ofInt : Int → α) (env : Nat → Nat → α) (it : Nat → Nat) (mask : Nat → Bool) (V : Nat) (e : Src) (i : Nat) :
    evalV ofInt env it mask V e i = (List.range V).map fun l => evalS ofInt env it mask e (i + l) := by
  induction e with
  | v w => simp [evalV, evalS, vectorSetter_eq, laneInds, forRange_zero_one]
  | f w => simp [evalV, evalS, forRange_zero_one]
  | t w => simp [evalV, evalS]
  | c k => simp [evalV, evalS, List.map_const']
  | bin op l r ihl ihr =>
    simp only [evalV, evalS, ihl, ihr]
    rw [List.zipWith_map, List.zipWith_self]

end

theorem laneW_range {β : Type} (dst V : Nat) (g : Nat → β) :
    laneW dst ((List.range V).map g) = (List.range V).map fun l => (dst + l, g l) :=
  laneStores_range dst V g

/-- plain assignment is `applyWrites`: the last instruction for a position wins -/
theorem exec_set_eq_applyWrites (ins : List (Nat × α)) (mem : Nat → α) :
    exec (fun _ y => y) ins mem = applyWrites ins mem := by
  rfl

end Fastor.RandomViews
