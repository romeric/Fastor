import FastorModel.Model.ViewWrite
import FastorModel.Proofs.Loops
/-
  Lemmas for C05/C18: (1) the memory semantics of a program of iterations whose stored positions are
  pairwise distinct (`exec_spec`), (2) the lanes of the 1-D / row loops listed in order (`seg_lanes`).
-/
namespace Fastor.ViewWrite
open Fastor

variable {α : Type} [Add α] [Sub α] [Mul α] [Div α]

/-- one iteration, right-hand side independent of the destination tensor: the per-lane read-modify-writes
    (`rmw`) and the stores of values computed beforehand (the other kinds) are both instruction lists at
    pairwise distinct positions -/
theorem execIter_spec (op : WOp) (r : Nat → α) (m : Nat → α) (it : Iter)
    (hnd : (it.lanes.map (·.1)).Nodup) :
    (∀ l ∈ it.lanes, execIter op (fun _ => r) m it l.1 = op.ap (m l.1) (r l.2)) ∧
    (∀ p, p ∉ it.lanes.map (·.1) → execIter op (fun _ => r) m it p = m p) := by
  obtain ⟨kind, lanes⟩ := it
  cases kind
  -- the `.rmw` branch of `execIter` is `rmw op.ap` written out as a fold
  case rmw => exact rmw_distinct op.ap lanes (·.1) (fun l => r l.2) m hnd
  all_goals
    simp only [execIter, applyWrites_eq_rmw]
    exact rmw_distinct (fun _ v => v) lanes (·.1) (fun l => op.ap (m l.1) (r l.2)) m hnd

def lanesOf (its : List Iter) : List (Nat × Nat) := its.flatMap (·.lanes)

theorem writeSeq_eq (its : List Iter) : writeSeq its = (lanesOf its).map (·.1) := by
  unfold writeSeq lanesOf
  rw [List.map_flatMap]

theorem execIter_const (op : WOp) (rhs : (Nat → α) → Nat → α) (m : Nat → α) (it : Iter) :
    execIter op rhs m it = execIter op (fun _ => rhs m) m it := by
  obtain ⟨kind, lanes⟩ := it
  cases kind <;> rfl

/-- **a right-hand side that reads the destination tensor only at the lane's own position** (source and
    destination coincide exactly), stored positions pairwise distinct: the in-order execution gives
    `op(old p, rhs(old) j)` at every lane `(p, j)` and keeps every other position -/
theorem exec_spec_local (op : WOp) (rhs : (Nat → α) → Nat → α) (its : List Iter) (m : Nat → α)
    (hnd : ((lanesOf its).map (·.1)).Nodup)
    (hloc : ∀ (m1 m2 : Nat → α) (l : Nat × Nat), l ∈ lanesOf its → m1 l.1 = m2 l.1 → rhs m1 l.2 = rhs m2 l.2) :
    (∀ l ∈ lanesOf its, exec op rhs its m l.1 = op.ap (m l.1) (rhs m l.2)) ∧
    (∀ p, p ∉ (lanesOf its).map (·.1) → exec op rhs its m p = m p) := by
  induction its generalizing m with
  | nil => exact ⟨fun _ h => absurd h List.not_mem_nil, fun _ _ => rfl⟩
  | cons it its ih =>
    have hl : lanesOf (it :: its) = it.lanes ++ lanesOf its := List.flatMap_cons
    rw [hl] at hloc
    rw [hl, List.map_append, List.nodup_append] at hnd
    obtain ⟨hnd1, hnd2, hdisj⟩ := hnd
    -- the first iteration acts on `m`, the rest on its result; the two touch disjoint positions
    have h1 := execIter_spec op (rhs m) m it hnd1
    rw [← execIter_const] at h1
    have ih' := ih (execIter op rhs m it) hnd2 (fun m1 m2 l hmem => hloc m1 m2 l (List.mem_append_right _ hmem))
    show (∀ l ∈ lanesOf (it :: its), exec op rhs its (execIter op rhs m it) l.1 = _) ∧
      ∀ p, p ∉ (lanesOf (it :: its)).map (·.1) → exec op rhs its (execIter op rhs m it) p = _
    rw [hl]
    refine ⟨?_, ?_⟩
    · intro l hmem
      rcases List.mem_append.1 hmem with hm | hm
      · rw [ih'.2 _ (fun hin => hdisj l.1 (List.mem_map_of_mem hm) l.1 hin rfl)]
        exact h1.1 l hm
      · have hkeep := h1.2 _ (fun hin => hdisj l.1 hin l.1 (List.mem_map_of_mem hm) rfl)
        rw [ih'.1 l hm, hkeep, hloc _ m l (List.mem_append_right _ hm) hkeep]
    · intro p hp
      rw [List.map_append, List.mem_append, not_or] at hp
      rw [ih'.2 p hp.2, h1.2 p hp.1]

/-- **a program whose stored positions are pairwise distinct**: every lane `(p, j)` ends as
    `op(old p, rhs j)` and every position that is no lane's keeps its value -/
theorem exec_spec (op : WOp) (r : Nat → α) (its : List Iter) (m : Nat → α)
    (hnd : ((lanesOf its).map (·.1)).Nodup) :
    (∀ l ∈ lanesOf its, exec op (fun _ => r) its m l.1 = op.ap (m l.1) (r l.2)) ∧
    (∀ p, p ∉ (lanesOf its).map (·.1) → exec op (fun _ => r) its m p = m p) :=
  exec_spec_local op (fun _ => r) its m hnd (fun _ _ _ _ _ => rfl)

/-- the same for lanes listed through an index set: `lanesOf its = I.map (pos, j)` with `pos` injective on `I` -/
theorem exec_indexed {ι : Type} (op : WOp) (r : Nat → α) (its : List Iter) (m : Nat → α) (I : List ι)
    (pos j : ι → Nat) (hl : lanesOf its = I.map fun x => (pos x, j x)) (hnd : (I.map pos).Nodup) :
    (∀ x ∈ I, exec op (fun _ => r) its m (pos x) = op.ap (m (pos x)) (r (j x))) ∧
    (∀ p, (∀ x ∈ I, p ≠ pos x) → exec op (fun _ => r) its m p = m p) := by
  have hpos : (lanesOf its).map (·.1) = I.map pos := by rw [hl, List.map_map]; rfl
  have h := exec_spec op r its m (by rw [hpos]; exact hnd)
  rw [hpos, hl] at h
  exact ⟨fun x hx => h.1 _ (List.mem_map_of_mem hx),
    fun p hp => h.2 p (fun hin => by obtain ⟨x, hx, rfl⟩ := List.mem_map.1 hin; exact hp x hx rfl)⟩

theorem rd_pow2 (x e : Nat) (hx : x < 2 ^ 64) (he : e ≤ 64) : rd x (2 ^ e) = x / 2 ^ e * 2 ^ e :=
  and_not_low_bits x e hx he

/-- the lanes of `segIters`, in order: element `k` of the run for `k = 0 .. n-1`, each exactly once —
    whichever of the three routes is taken, for every power-of-two width -/
theorem seg_lanes (e : Nat) (he : e ≤ 64) (vea : Bool) (strided : IKind) (pb jb : Nat) (a : Ax) (hn : a.ext < 2 ^ 64) :
    lanesOf (segIters (2 ^ e) vea strided pb jb a) =
      (List.range a.ext).map fun k => (pb + (k * a.step + a.first), jb + k) := by
  have hsplit : ∀ kindv : IKind,
      lanesOf ((forRange 0 (rd a.ext (2 ^ e)) (2 ^ e)).map (fun i => (⟨kindv, (List.range (2 ^ e)).map fun l =>
          (pb + ((i + l) * a.step + a.first), jb + (i + l))⟩ : Iter)) ++
        (forRange (forExit 0 (rd a.ext (2 ^ e)) (2 ^ e)) a.ext 1).map
          (fun i => (⟨.scalar, [(pb + (i * a.step + a.first), jb + i)]⟩ : Iter))) =
      (List.range a.ext).map fun k => (pb + (k * a.step + a.first), jb + k) := by
    intro kindv
    unfold lanesOf
    rw [rd_pow2 a.ext e hn he, List.flatMap_append, List.flatMap_map, List.flatMap_map, flatMap_single]
    exact vecTail_eq a.ext (2 ^ e) (Nat.pow_pos (by omega)) _ _ (fun _ => rfl)
  unfold segIters
  by_cases hs : a.step = 1
  · rw [if_pos hs]
    exact hsplit .vstore
  · rw [if_neg hs]
    cases vea with
    | true => exact hsplit strided
    | false =>
      unfold lanesOf
      rw [if_neg Bool.false_ne_true, List.flatMap_map, flatMap_single, forRange_zero_one]

end Fastor.ViewWrite
