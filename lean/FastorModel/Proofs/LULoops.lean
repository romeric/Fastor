import FastorModel.Proofs.LUBasic
/-
  Loops of element stores `M(i,j) = value computed from M`, read as a system of equations between the FINAL entries.
-/
namespace Fastor.LU
open Finset

variable {K : Type} [Field K]

/-- A loop `for t = a .. a+len-1: M(pi t, pj t) = v M t` that writes distinct positions, the value of step `t` reading no
position that step `t` or a later step writes.  Then every value was computed from entries that are already final, so the
result `R` satisfies `R(pi t, pj t) = v R t`; nothing else changes. -/
theorem foldl_set_spec (pi pj : Nat → Nat) (v : Mat K → Nat → K) (a : Nat) : ∀ (len : Nat) (M0 R : Mat K),
    R = (List.range' a len).foldl (fun M t => M.set (pi t) (pj t) (v M t)) M0 →
    (∀ t t', a ≤ t → t < t' → t' < a + len → ¬ (pi t = pi t' ∧ pj t = pj t')) →
    (∀ M M' t, (∀ i j, (∀ t', t ≤ t' → t' < a + len → ¬ (i = pi t' ∧ j = pj t')) → M.get i j = M'.get i j) → v M t = v M' t) →
    (∀ t, a ≤ t → t < a + len → M0.has (pi t) (pj t)) →
    (∀ i j, R.has i j ↔ M0.has i j) ∧
    (∀ i j, (∀ t, a ≤ t → t < a + len → ¬ (i = pi t ∧ j = pj t)) → R.get i j = M0.get i j) ∧
    (∀ t, a ≤ t → t < a + len → R.get (pi t) (pj t) = v R t) := by
  intro len
  induction len with
  | zero =>
    intro M0 R hR _ _ _
    subst hR
    exact ⟨fun i j => Iff.rfl, fun i j _ => rfl, fun t h1 h2 => by omega⟩
  | succ len ih =>
    intro M0 R hR hinj hind hhas
    rw [foldl_range'_succ] at hR
    obtain ⟨h1, h2, h3⟩ := ih M0 _ rfl (fun t t' ht htt' ht' => hinj t t' ht htt' (by omega))
      (fun M M' t h => hind M M' t fun i j hij => h i j fun t' h1 h2 => hij t' h1 (by omega))
      (fun t ht ht' => hhas t ht (by omega))
    generalize (List.range' a len).foldl (fun M t => M.set (pi t) (pj t) (v M t)) M0 = S at hR h1 h2 h3
    subst hR
    have hlast : S.has (pi (a + len)) (pj (a + len)) := (h1 _ _).2 (hhas _ (Nat.le_add_right a len) (Nat.lt_succ_self _))
    -- the last store changes one position, which no value `v · t` reads
    have hv : ∀ t, a ≤ t → t < a + (len + 1) → v (S.set (pi (a + len)) (pj (a + len)) (v S (a + len))) t = v S t := by
      intro t _ ht
      apply hind
      intro i j hij
      rw [Mat.get_set, if_neg fun h => hij (a + len) (by omega) (Nat.lt_succ_self _) ⟨h.1, h.2.1⟩]
    refine ⟨fun i j => by rw [Mat.has_set, h1], fun i j hij => ?_, fun t ht ht' => ?_⟩
    · rw [Mat.get_set, if_neg fun h => hij (a + len) (Nat.le_add_right a len) (Nat.lt_succ_self _) ⟨h.1, h.2.1⟩]
      exact h2 i j fun t ht ht' => hij t ht (by omega)
    · rw [hv t ht ht', Mat.get_set]
      by_cases hl : t = a + len
      · subst hl
        rw [if_pos ⟨rfl, rfl, hlast⟩]
      · rw [if_neg fun h => hinj t (a + len) ht (by omega) (Nat.lt_succ_self _) ⟨h.1, h.2.1⟩]
        exact h3 t ht (by omega)

/-- rows `a .. a+len-1` of column `s`; the value for row `t` may read column `s` above row `t` -/
theorem foldl_set_col (s : Nat) (v : Mat K → Nat → K) (a len : Nat) (M0 R : Mat K)
    (hR : R = (List.range' a len).foldl (fun M t => M.set t s (v M t)) M0)
    (hind : ∀ M M' t, (∀ i j, j ≠ s ∨ i < t → M.get i j = M'.get i j) → v M t = v M' t)
    (hhas : ∀ t, a ≤ t → t < a + len → M0.has t s) :
    (∀ i j, R.has i j ↔ M0.has i j) ∧
    (∀ i j, j ≠ s ∨ i < a ∨ a + len ≤ i → R.get i j = M0.get i j) ∧
    (∀ t, a ≤ t → t < a + len → R.get t s = v R t) := by
  obtain ⟨h1, h2, h3⟩ := foldl_set_spec (fun t => t) (fun _ => s) v a len M0 R hR (fun t t' _ h _ e => by omega)
    (fun M M' t h => hind M M' t fun i j hij => h i j fun t' _ _ e => by omega) hhas
  exact ⟨h1, fun i j hij => h2 i j fun t _ _ e => by omega, h3⟩

/-- columns `a .. a+len-1` of row `s`; the value for column `t` may read row `s` left of column `t` -/
theorem foldl_set_row (s : Nat) (v : Mat K → Nat → K) (a len : Nat) (M0 R : Mat K)
    (hR : R = (List.range' a len).foldl (fun M t => M.set s t (v M t)) M0)
    (hind : ∀ M M' t, (∀ i j, i ≠ s ∨ j < t → M.get i j = M'.get i j) → v M t = v M' t)
    (hhas : ∀ t, a ≤ t → t < a + len → M0.has s t) :
    (∀ i j, R.has i j ↔ M0.has i j) ∧
    (∀ i j, i ≠ s ∨ j < a ∨ a + len ≤ j → R.get i j = M0.get i j) ∧
    (∀ t, a ≤ t → t < a + len → R.get s t = v R t) := by
  obtain ⟨h1, h2, h3⟩ := foldl_set_spec (fun _ => s) (fun t => t) v a len M0 R hR (fun t t' _ h _ e => by omega)
    (fun M M' t h => hind M M' t fun i j hij => h i j fun t' _ _ e => by omega) hhas
  exact ⟨h1, fun i j hij => h2 i j fun t _ _ e => by omega, h3⟩

end Fastor.LU
