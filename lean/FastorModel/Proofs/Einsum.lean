import Mathlib.Algebra.BigOperators.Group.Finset.Basic
import Mathlib.Algebra.Ring.Defs
import Mathlib.Tactic.Ring
import Mathlib.Data.List.Basic
import Mathlib.Data.List.GetD
import FastorModel.Model.Einsum
/-
  Helper lemmas for C03 (pairwise einsum).
  * T1: the accumulation fold `accAt` is a sum over the events that touch the cell;
  * T2: the loop nest `assignments dims 1` enumerates every in-range assignment exactly once;
  * T3: row-major offsets (`flat`, `flatAt`) are injective on in-range multi-indices and stay below the
    product of the extents;
  * the metafunctions: `uniq` through its recursion (`uniq_cons`) and its law for concatenations
    (`uniq_append`), `resultIdx`, `resultDims`, `loopDims`, `posIn`; consistent extents are a function
    of the index names (`Consistent.eq_map`);
  * T5: a cell of the scalar loop nest holds the terms of the assignments addressed to it;
  * T6: under the conditions in which the library vectorises, the vector loop nest expands to the
    scalar one;
  * the matrix-matrix pattern `A C , C B` and the route that selects it.
-/
namespace Fastor.Einsum

variable {R : Type} [CommSemiring R]

theorem foldl_cond_add {ε : Type} (c : ε → Prop) [DecidablePred c] (v : ε → R) (evs : List ε) (init : R) :
    evs.foldl (fun acc e => if c e then v e + acc else acc) init
      = init + ((evs.filter (fun e => decide (c e))).map v).sum := by
  induction evs generalizing init with
  | nil => simp
  | cons e es ih =>
    simp only [List.foldl_cons, ih, List.filter_cons]
    by_cases h : c e
    · simp [h, add_comm (v e) init, add_assoc]
    · simp [h]

/-- the value of cell `q` is the sum of the contributions of the events whose lane window contains
    `q` (any lane counts) -/
theorem accAt_eq_sum_lanes (a b : Nat → R) (evs : List Acc) (q : Nat) :
    accAt a b evs q
      = (((evs.filter (fun e => decide (e.io ≤ q ∧ q < e.io + e.lanes)))).map
          (fun e => a e.ia * b (e.ib + (q - e.io)))).sum := by
  unfold accAt
  rw [foldl_cond_add (fun e : Acc => e.io ≤ q ∧ q < e.io + e.lanes)
    (fun e => a e.ia * b (e.ib + (q - e.io))) evs 0]
  simp

/-- **T1** scalar events (`lanes = 1`): the cell holds the sum of the products of the events
    addressed to it -/
theorem accAt_eq_sum (a b : Nat → R) (evs : List Acc) (h1 : ∀ e ∈ evs, e.lanes = 1) (q : Nat) :
    accAt a b evs q = ((evs.filter (fun e => decide (e.io = q))).map (fun e => a e.ia * b e.ib)).sum := by
  have hf : ∀ e ∈ evs, decide (e.io ≤ q ∧ q < e.io + e.lanes) = decide (e.io = q) := fun e he => by
    have := h1 e he
    rw [decide_eq_decide]
    omega
  rw [accAt_eq_sum_lanes, List.filter_congr hf]
  refine congrArg List.sum (List.map_congr_left fun e he => ?_)
  rw [of_decide_eq_true (List.mem_filter.1 he).2, Nat.sub_self, Nat.add_zero]

abbrev InRange (x dims : List Nat) : Prop := List.Forall₂ (· < ·) x dims

theorem assignments_cons_one (d : Nat) (ds : List Nat) :
    assignments (d :: ds) 1
      = (List.range d).flatMap fun i => (assignments ds 1).map fun r => i :: r := by
  cases ds with
  | nil =>
    simp only [assignments, forRange_zero_one]
    generalize List.range d = l
    induction l with
    | nil => simp
    | cons x xs ih => simp [List.flatMap_cons, ih]
  | cons e es => simp only [assignments]

theorem mem_assignments_iff {dims σ : List Nat} : σ ∈ assignments dims 1 ↔ InRange σ dims := by
  induction dims generalizing σ with
  | nil => simp [assignments, InRange]
  | cons d ds ih =>
    rw [assignments_cons_one]
    simp only [List.mem_flatMap, List.mem_range, List.mem_map]
    constructor
    · rintro ⟨i, hi, r, hr, rfl⟩
      exact List.Forall₂.cons hi (ih.1 hr)
    · intro h
      cases h with
      | cons hi hr => exact ⟨_, hi, _, ih.2 hr, rfl⟩

theorem assignments_nodup (dims : List Nat) : (assignments dims 1).Nodup := by
  induction dims with
  | nil => simp [assignments]
  | cons d ds ih =>
    rw [assignments_cons_one, List.nodup_flatMap]
    refine ⟨fun i _ => ih.map (fun r s h => (List.cons.inj h).2), ?_⟩
    refine List.Pairwise.imp_of_mem ?_ List.nodup_range
    intro i j _ _ hij
    simp only [Function.onFun, List.disjoint_left, List.mem_map]
    rintro σ ⟨r, _, rfl⟩ ⟨s, _, h⟩
    exact hij (List.cons.inj h).1.symm

theorem inRange_iff_getD {x dims : List Nat} :
    InRange x dims ↔ x.length = dims.length ∧ ∀ k < dims.length, x.getD k 0 < dims.getD k 0 := by
  rw [InRange, List.forall₂_iff_get]
  refine and_congr_right fun hl => ⟨fun h k hk => ?_, fun h k h₁ h₂ => ?_⟩
  · rw [List.getD_eq_getElem _ _ (hl ▸ hk), List.getD_eq_getElem _ _ hk]
    exact h k (hl ▸ hk) hk
  · have := h k h₂
    rwa [List.getD_eq_getElem _ _ h₁, List.getD_eq_getElem _ _ h₂] at this

theorem InRange.length_eq {x dims : List Nat} (h : InRange x dims) : x.length = dims.length :=
  List.Forall₂.length_eq h

theorem InRange.getD_lt {x dims : List Nat} (h : InRange x dims) {k : Nat} (hk : k < dims.length) :
    x.getD k 0 < dims.getD k 0 := (inRange_iff_getD.1 h).2 k hk

def flat (dims x : List Nat) : Nat :=
  ((strides dims).zip x).foldl (fun acc sp => acc + sp.1 * sp.2) 0

@[simp] theorem prod_nil : prod [] = 1 := rfl

theorem prod_eq (l : List Nat) : prod l = l.prod := List.prod_eq_foldl_nat.symm

theorem prod_cons (d : Nat) (ds : List Nat) : prod (d :: ds) = d * prod ds := by
  rw [prod_eq, prod_eq, List.prod_cons]

@[simp] theorem flat_nil_left (x : List Nat) : flat [] x = 0 := by simp [flat, strides]
@[simp] theorem flat_nil_right (dims : List Nat) : flat dims [] = 0 := by simp [flat]

theorem flat_cons (d : Nat) (ds : List Nat) (x : Nat) (xs : List Nat) :
    flat (d :: ds) (x :: xs) = prod ds * x + flat ds xs := by
  unfold flat
  simp only [strides, List.zip_cons_cons, List.foldl_cons]
  rw [foldl_add_shift (fun sp : Nat × Nat => sp.1 * sp.2)]
  simp [prod]

theorem flatAt_eq_flat (dims pos as : List Nat) :
    flatAt dims pos as = flat dims (pos.map (as.getD · 0)) := by
  -- the same fold, once the accumulator is a variable
  have aux (st : List Nat) : ∀ (pos : List Nat) (init : Nat),
      (st.zip pos).foldl (fun acc sp => acc + sp.1 * as.getD sp.2 0) init
        = (st.zip (pos.map (as.getD · 0))).foldl (fun acc sp => acc + sp.1 * sp.2) init := by
    induction st with
    | nil => simp
    | cons s ss ih =>
      intro pos init
      cases pos with
      | nil => simp
      | cons p ps => simp only [List.zip_cons_cons, List.foldl_cons, List.map_cons]; exact ih _ _
  exact aux _ _ _

theorem flat_lt_prod {dims x : List Nat} (h : InRange x dims) : flat dims x < prod dims := by
  induction h with
  | nil => simp
  | @cons a d as ds had _ ih =>
    rw [flat_cons, prod_cons]
    calc prod ds * a + flat ds as < prod ds * a + prod ds := by omega
      _ = prod ds * (a + 1) := by ring
      _ ≤ prod ds * d := Nat.mul_le_mul_left _ had
      _ = d * prod ds := Nat.mul_comm _ _

/-- **T3** row-major offsets are injective on in-range multi-indices -/
theorem flat_injective {dims x y : List Nat} (hx : InRange x dims) (hy : InRange y dims)
    (h : flat dims x = flat dims y) : x = y := by
  induction hx generalizing y with
  | nil => cases hy; rfl
  | @cons a d as ds had has ih =>
    cases hy with
    | @cons c _ cs _ hcd hcs =>
      rw [flat_cons, flat_cons] at h
      have h1 := flat_lt_prod has
      have h2 := flat_lt_prod hcs
      have hpos : 0 < prod ds := by omega
      have hac : a = c := by
        have e := congrArg (· / prod ds) h
        simp only [Nat.mul_add_div hpos, Nat.div_eq_of_lt h1, Nat.div_eq_of_lt h2] at e
        exact e
      subst hac
      have : flat ds as = flat ds cs := by omega
      rw [ih hcs this]

/-- every cell below the product of the extents is the offset of an in-range multi-index -/
theorem flat_surjective (dims : List Nat) {q : Nat} (hq : q < prod dims) :
    ∃ x, InRange x dims ∧ flat dims x = q := by
  induction dims generalizing q with
  | nil => exact ⟨[], List.Forall₂.nil, by simp at hq; simp [hq]⟩
  | cons d ds ih =>
    rw [prod_cons] at hq
    have hpos : 0 < prod ds := by
      rcases Nat.eq_zero_or_pos (prod ds) with h | h
      · rw [h] at hq; omega
      · exact h
    obtain ⟨xs, hxs, hf⟩ := ih (q := q % prod ds) (Nat.mod_lt _ hpos)
    refine ⟨q / prod ds :: xs, List.Forall₂.cons ?_ hxs, ?_⟩
    · exact (Nat.div_lt_iff_lt_mul hpos).2 hq
    · rw [flat_cons, hf]; exact Nat.div_add_mod _ _

def uniqStep (acc : List Nat) (x : Nat) : List Nat := if acc.contains x then acc else acc ++ [x]

/-- `uniq_t` started from the indices `acc` appends the unique indices not among them -/
theorem foldl_uniqStep (l acc : List Nat) :
    l.foldl uniqStep acc = acc ++ (uniq l).filter (fun z => decide (z ∉ acc)) := by
  induction l generalizing acc with
  | nil => exact (List.append_nil acc).symm
  | cons y l ih =>
    have hy : uniq (y :: l) = [y] ++ (uniq l).filter (fun z => decide (z ∉ [y])) := ih [y]
    rw [List.foldl_cons, ih, hy, List.filter_append, List.filter_filter]
    by_cases h : y ∈ acc
    · have e : uniqStep acc y = acc := by simp [uniqStep, h]
      rw [e]
      simp only [List.filter_cons, List.filter_nil, h, not_true_eq_false, decide_false,
        Bool.false_eq_true, if_false, List.nil_append]
      congr 1
      apply List.filter_congr
      intro z _
      by_cases hz : z ∈ acc
      · simp [hz]
      · have : z ≠ y := fun e => hz (e ▸ h)
        simp [hz, this]
    · have e : uniqStep acc y = acc ++ [y] := by simp [uniqStep, h]
      rw [e]
      simp only [List.filter_cons, List.filter_nil, h, not_false_eq_true, decide_true, if_true,
        List.append_assoc, List.singleton_append]
      congr 2
      apply List.filter_congr
      intro z _
      simp [Bool.and_comm]

/-- `uniq_t`, recursively: the head, then the unique indices of the tail other than the head -/
theorem uniq_cons (y : Nat) (l : List Nat) : uniq (y :: l) = y :: (uniq l).filter (· != y) := by
  show l.foldl uniqStep [y] = _
  rw [foldl_uniqStep]
  simp [bne, beq_eq_decide]

theorem mem_uniq {l : List Nat} {x : Nat} : x ∈ uniq l ↔ x ∈ l := by
  induction l with
  | nil => rfl
  | cons y l ih =>
    rw [uniq_cons, List.mem_cons, List.mem_cons, List.mem_filter, ih, bne_iff_ne]
    by_cases h : x = y <;> simp [h]

theorem uniq_nodup (l : List Nat) : (uniq l).Nodup := by
  induction l with
  | nil => exact List.nodup_nil
  | cons y l ih =>
    rw [uniq_cons, List.nodup_cons, List.mem_filter]
    exact ⟨fun h => by simp at h, ih.filter _⟩

theorem uniq_filter (P : Nat → Bool) (l : List Nat) : uniq (l.filter P) = (uniq l).filter P := by
  induction l with
  | nil => rfl
  | cons y l ih =>
    rw [uniq_cons, List.filter_cons, List.filter_cons]
    by_cases hP : P y = true
    · rw [if_pos hP, if_pos hP, uniq_cons, ih, List.filter_filter, List.filter_filter]
      congr 1
      apply List.filter_congr
      intro z _
      exact Bool.and_comm _ _
    · rw [if_neg hP, if_neg hP, ih, List.filter_filter]
      apply List.filter_congr
      intro z _
      by_cases hz : z = y
      · simp [hz, hP]
      · simp [hz]

theorem uniq_of_nodup {l : List Nat} (h : l.Nodup) : uniq l = l := by
  induction l with
  | nil => rfl
  | cons y l ih =>
    rw [List.nodup_cons] at h
    rw [uniq_cons, ih h.2, List.filter_eq_self.2]
    intro z hz
    exact bne_iff_ne.2 fun e => h.1 (e ▸ hz)

/-- the unique indices of a concatenation: those of the first list, then the new ones of the second -/
theorem uniq_append (l m : List Nat) :
    uniq (l ++ m) = uniq l ++ (uniq m).filter (fun z => decide (z ∉ l)) := by
  have := foldl_uniqStep m (uniq l)
  rw [show uniq (l ++ m) = m.foldl uniqStep (uniq l) from List.foldl_append .., this]
  congr 1
  apply List.filter_congr
  intro z _
  simp [mem_uniq]

theorem uniq_length_le (l : List Nat) : (uniq l).length ≤ l.length := by
  induction l with
  | nil => exact Nat.le_refl _
  | cons y l ih =>
    rw [uniq_cons, List.length_cons, List.length_cons]
    exact Nat.succ_le_succ (Nat.le_trans (List.length_filter_le _ _) ih)

theorem nodup_of_uniq_length {l : List Nat} (h : (uniq l).length = l.length) : l.Nodup := by
  induction l with
  | nil => exact List.nodup_nil
  | cons y l ih =>
    rw [uniq_cons, List.length_cons, List.length_cons, Nat.add_right_cancel_iff] at h
    have h1 := List.length_filter_le (· != y) (uniq l)
    have h2 := uniq_length_le l
    have hl : (uniq l).length = l.length := by omega
    refine List.nodup_cons.2 ⟨fun hy => ?_, ih hl⟩
    have := List.length_filter_eq_length_iff.1 (h.trans hl.symm) y (mem_uniq.2 hy)
    simp at this

theorem uniq_append_dup (X C B : List Nat) (h : ∀ x ∈ C, x ∈ X) :
    uniq (X ++ (C ++ B)) = uniq (X ++ B) := by
  rw [uniq_append, uniq_append X B, uniq_append C B, List.filter_append, List.filter_filter,
    List.filter_eq_nil_iff.2 fun x hx => by simpa using h x (mem_uniq.1 hx), List.nil_append]
  congr 1
  apply List.filter_congr
  intro z _
  by_cases hz : z ∈ X
  · simp [hz]
  · have hc : z ∉ C := fun hc => hz (h z hc)
    simp [hz, hc]

theorem occursOnce_iff {cat : List Nat} {x : Nat} : occursOnce cat x = true ↔ cat.count x = 1 := by
  simp [occursOnce]

theorem count_resultIdx (cat : List Nat) (x : Nat) :
    (resultIdx cat).count x = if cat.count x = 1 then 1 else 0 := by
  unfold resultIdx
  by_cases h : cat.count x = 1
  · rw [List.count_filter (occursOnce_iff.2 h), if_pos h, h]
  · rw [if_neg h, List.count_eq_zero]
    exact fun hm => h (occursOnce_iff.1 (List.mem_filter.1 hm).2)

theorem resultIdx_nodup (cat : List Nat) : (resultIdx cat).Nodup := by
  rw [List.nodup_iff_count_le_one]
  intro x
  rw [count_resultIdx]
  split <;> omega

theorem mem_resultIdx {cat : List Nat} {x : Nat} : x ∈ resultIdx cat ↔ cat.count x = 1 := by
  rw [← List.count_pos_iff, count_resultIdx]
  split <;> simp [*]

/-- the result indices are the once-occurring ones *in order of first appearance* -/
theorem resultIdx_eq_filter_uniq (cat : List Nat) :
    resultIdx cat = (uniq cat).filter (occursOnce cat) := by
  rw [← uniq_filter]; exact (uniq_of_nodup (resultIdx_nodup cat)).symm

theorem getD_map_idxOf (f : Nat → Nat) {l : List Nat} {u : Nat} (hu : u ∈ l) :
    (l.map f).getD (l.idxOf u) 0 = f u := by
  have hlt := List.idxOf_lt_length_iff.2 hu
  rw [List.getD_eq_getElem _ _ (by rwa [List.length_map]), List.getElem_map, List.getElem_idxOf hlt]

theorem idxOf_of_count_one {l : List Nat} {x i : Nat} (hc : l.count x = 1) (hi : l[i]? = some x) :
    l.idxOf x = i := by
  induction l generalizing i with
  | nil => simp at hi
  | cons y ys ih =>
    rw [List.count_cons] at hc
    cases i with
    | zero =>
      have : y = x := by simpa using hi
      simp [this]
    | succ i =>
      rw [List.getElem?_cons_succ] at hi
      have hpos := List.count_pos_iff.2 (List.mem_of_getElem? hi)
      have hyx : y ≠ x := by
        rintro rfl
        simp at hc
        omega
      rw [List.idxOf_cons_ne _ hyx, ih (by simpa [hyx] using hc) hi]

theorem mem_zip_getElem? {cat catDims : List Nat} {x d : Nat} (h : (x, d) ∈ cat.zip catDims) :
    ∃ i : Nat, cat[i]? = some x ∧ catDims[i]? = some d := by
  obtain ⟨i, hi, he⟩ := List.mem_iff_getElem.1 h
  rw [List.getElem_zip] at he
  simp only [List.length_zip, Nat.lt_min] at hi
  refine ⟨i, ?_, ?_⟩
  · rw [List.getElem?_eq_getElem hi.1]; exact congrArg some (Prod.mk.inj he).1
  · rw [List.getElem?_eq_getElem hi.2]; exact congrArg some (Prod.mk.inj he).2

theorem zip_lookup_once {cat catDims : List Nat} {x d : Nat} (h : (x, d) ∈ cat.zip catDims)
    (hc : cat.count x = 1) : catDims.getD (cat.idxOf x) 0 = d := by
  obtain ⟨i, h1, h2⟩ := mem_zip_getElem? h
  rw [idxOf_of_count_one hc h1, List.getD_eq_getElem?_getD, h2]; rfl

/-- every occurrence of an index name carries the same extent -/
def Consistent (cat catDims : List Nat) : Prop :=
  ∀ i j, i < cat.length → j < cat.length → cat.getD i 0 = cat.getD j 0 →
    catDims.getD i 0 = catDims.getD j 0

theorem zip_lookup_consistent {cat catDims : List Nat} (hcons : Consistent cat catDims) {x d : Nat}
    (h : (x, d) ∈ cat.zip catDims) : catDims.getD (cat.idxOf x) 0 = d := by
  obtain ⟨i, h1, h2⟩ := mem_zip_getElem? h
  have hx : x ∈ cat := List.mem_of_getElem? h1
  have hj : cat.idxOf x < cat.length := List.idxOf_lt_length_iff.2 hx
  have hi : i < cat.length := by
    rcases Nat.lt_or_ge i cat.length with h | h
    · exact h
    · rw [List.getElem?_eq_none h] at h1; cases h1
  have := hcons (cat.idxOf x) i hj hi (by
    rw [List.getD_eq_getElem?_getD, List.getD_eq_getElem?_getD, h1, List.getElem?_eq_getElem hj,
      List.getElem_idxOf hj])
  rw [this, List.getD_eq_getElem?_getD, h2]; rfl

theorem Consistent.eq_map {cat catDims : List Nat} (hcons : Consistent cat catDims)
    (hlen : cat.length = catDims.length) :
    catDims = cat.map fun x => catDims.getD (cat.idxOf x) 0 := by
  have h : ∀ p ∈ cat.zip catDims, p.2 = (fun x => catDims.getD (cat.idxOf x) 0) p.1 := fun _ hp =>
    (zip_lookup_consistent hcons hp).symm
  generalize (fun x => catDims.getD (cat.idxOf x) 0) = ext at h ⊢
  calc catDims = (cat.zip catDims).map Prod.snd := (List.map_snd_zip (Nat.le_of_eq hlen.symm)).symm
    _ = (cat.zip catDims).map (ext ∘ Prod.fst) := List.map_congr_left h
    _ = ((cat.zip catDims).map Prod.fst).map ext := List.map_map.symm
    _ = cat.map ext := by rw [List.map_fst_zip (Nat.le_of_eq hlen)]

/-- `resultDims`: the extents of the result indices, read off the operands -/
theorem resultDims_eq_map {cat catDims : List Nat} (hlen : cat.length = catDims.length) :
    resultDims cat catDims = (resultIdx cat).map fun x => catDims.getD (cat.idxOf x) 0 := by
  unfold resultDims resultIdx
  have hfst : cat = (cat.zip catDims).map Prod.fst := (List.map_fst_zip (by omega)).symm
  conv_rhs => rw [hfst, List.filter_map, List.map_map]
  rw [← hfst]
  apply List.map_congr_left
  rintro ⟨x, d⟩ hm
  obtain ⟨hz, hP⟩ := List.mem_filter.1 hm
  simp only [Function.comp]
  exact (zip_lookup_once hz (occursOnce_iff.1 hP)).symm

theorem loopDims_length (cat catDims : List Nat) : (loopDims cat catDims).length = (uniq cat).length := by
  simp [loopDims]

theorem lookup_lt {cat catDims σ : List Nat} (hσ : InRange σ (loopDims cat catDims)) {x : Nat}
    (hx : x ∈ cat) :
    σ.getD ((uniq cat).idxOf x) 0 < catDims.getD (cat.idxOf x) 0 := by
  have hj : (uniq cat).idxOf x < (uniq cat).length := List.idxOf_lt_length_iff.2 (mem_uniq.2 hx)
  have := hσ.getD_lt (k := (uniq cat).idxOf x) (by rw [loopDims_length]; exact hj)
  have e : (loopDims cat catDims).getD ((uniq cat).idxOf x) 0 = catDims.getD (cat.idxOf x) 0 :=
    getD_map_idxOf _ (mem_uniq.2 hx)
  rwa [e] at this

theorem resultDims_map (ext : Nat → Nat) (cat : List Nat) :
    resultDims cat (cat.map ext) = (resultIdx cat).map ext := by
  rw [resultDims_eq_map (List.length_map _).symm]
  exact List.map_congr_left fun x hx => getD_map_idxOf ext (List.mem_filter.1 hx).1

theorem loopDims_map (ext : Nat → Nat) (cat : List Nat) :
    loopDims cat (cat.map ext) = (uniq cat).map ext :=
  List.map_congr_left fun _ hu => getD_map_idxOf ext (mem_uniq.1 hu)

def freeOf (cat σ : List Nat) : List Nat := (posIn cat (resultIdx cat)).map (σ.getD · 0)

theorem freeOf_inRange {cat catDims σ : List Nat} (hlen : cat.length = catDims.length)
    (hσ : InRange σ (loopDims cat catDims)) : InRange (freeOf cat σ) (resultDims cat catDims) := by
  rw [resultDims_eq_map hlen]
  unfold freeOf posIn InRange findIndex
  rw [List.map_map, List.forall₂_map_left_iff, List.forall₂_map_right_iff, List.forall₂_same]
  intro x hx
  exact lookup_lt hσ (List.mem_filter.1 hx).1

theorem operand_inRange {cat catDims idx dims σ : List Nat} (hcons : Consistent cat catDims)
    (hl : idx.length = dims.length) (hsub : ∀ z ∈ idx.zip dims, z ∈ cat.zip catDims)
    (hσ : InRange σ (loopDims cat catDims)) :
    InRange ((posIn cat idx).map (σ.getD · 0)) dims := by
  unfold posIn InRange findIndex
  rw [List.map_map, List.forall₂_map_left_iff, List.forall₂_iff_zip]
  refine ⟨hl, ?_⟩
  intro x d hz
  have hz' := hsub _ hz
  have hx : x ∈ cat := (List.of_mem_zip hz').1
  have := lookup_lt hσ hx
  rw [zip_lookup_consistent hcons hz'] at this
  exact this

def Pair.free (p : Pair) (σ : List Nat) : List Nat := (posIn p.cat p.resIdx).map (σ.getD · 0)

def Pair.term (p : Pair) (a b : Nat → R) (σ : List Nat) : R :=
  a (flatAt p.dI (posIn p.cat p.I) σ) * b (flatAt p.dJ (posIn p.cat p.J) σ)

theorem Pair.free_eq_freeOf (p : Pair) (σ : List Nat) : p.free σ = freeOf p.cat σ := rfl

theorem Pair.cat_length (p : Pair) (hI : p.I.length = p.dI.length) (hJ : p.J.length = p.dJ.length) :
    p.cat.length = p.catDims.length := by
  simp [Pair.cat, Pair.catDims, hI, hJ]

theorem Pair.loopEvents_one (p : Pair) :
    p.loopEvents 1 = (assignments p.loopDims 1).map fun as =>
      { io := flatAt p.resDims (posIn p.cat p.resIdx) as,
        ia := flatAt p.dI (posIn p.cat p.I) as,
        ib := flatAt p.dJ (posIn p.cat p.J) as,
        lanes := 1 } := by
  simp [Pair.loopEvents]

theorem Pair.io_eq_flat (p : Pair) (σ : List Nat) :
    flatAt p.resDims (posIn p.cat p.resIdx) σ = flat p.resDims (p.free σ) := flatAt_eq_flat _ _ _

theorem Pair.free_inRange (p : Pair) (hI : p.I.length = p.dI.length) (hJ : p.J.length = p.dJ.length)
    {σ : List Nat} (hσ : σ ∈ assignments p.loopDims 1) : InRange (p.free σ) p.resDims :=
  freeOf_inRange (p.cat_length hI hJ) (mem_assignments_iff.1 hσ)

/-- the scalar loop nest: a cell holds the sum of the terms of the assignments addressed to it -/
theorem Pair.accAt_loopEvents_one (p : Pair) (a b : Nat → R) (q : Nat) :
    accAt a b (p.loopEvents 1) q
      = (((assignments p.loopDims 1).filter
          (fun σ => decide (flatAt p.resDims (posIn p.cat p.resIdx) σ = q))).map (p.term a b)).sum := by
  rw [Pair.loopEvents_one, accAt_eq_sum a b _ (fun e he => by
    obtain ⟨σ, _, rfl⟩ := List.mem_map.1 he
    rfl), List.filter_map, List.map_map]
  rfl

/-- the cell with result multi-index `m` holds the sum of the terms of all assignments whose free
    part is `m` -/
theorem Pair.loopnest_cell (p : Pair) (hI : p.I.length = p.dI.length) (hJ : p.J.length = p.dJ.length)
    (a b : Nat → R) {m : List Nat} (hm : InRange m p.resDims) :
    accAt a b (p.loopEvents 1) (flat p.resDims m)
      = (((assignments p.loopDims 1).filter (fun σ => decide (p.free σ = m))).map (p.term a b)).sum := by
  have hf : ∀ σ ∈ assignments p.loopDims 1,
      decide (flatAt p.resDims (posIn p.cat p.resIdx) σ = flat p.resDims m) = decide (p.free σ = m) :=
    fun σ hσ => by
      rw [decide_eq_decide, p.io_eq_flat]
      exact ⟨flat_injective (p.free_inRange hI hJ hσ) hm, fun h => by rw [h]⟩
  rw [p.accAt_loopEvents_one, List.filter_congr hf]

/-! ### T6: the vectorised loop nest

A vector event covers `lanes` consecutive cells; `expand` replaces it by the scalar events it stands
for.  This never changes the final content of any cell, and under the conditions in which the library
vectorises, expanding the events of the vector loop nest gives *the scalar loop nest itself*. -/

def expand (e : Acc) : List Acc :=
  (List.range e.lanes).map fun l => { io := e.io + l, ia := e.ia, ib := e.ib + l, lanes := 1 }

theorem filter_range_eq (c n q : Nat) :
    (List.range n).filter (fun l => decide (c + l = q))
      = if c ≤ q ∧ q < c + n then [q - c] else [] := by
  induction n with
  | zero =>
    have : ¬ (c ≤ q ∧ q < c + 0) := by omega
    rw [if_neg this]; rfl
  | succ n ih =>
    rw [List.range_succ, List.filter_append, ih]
    by_cases h1 : c ≤ q ∧ q < c + n
    · have h2 : c ≤ q ∧ q < c + (n + 1) := by omega
      have h3 : ¬ (c + n = q) := by omega
      rw [if_pos h1, if_pos h2]
      simp [h3]
    · by_cases h3 : c + n = q
      · have h2 : c ≤ q ∧ q < c + (n + 1) := by omega
        have h4 : q - c = n := by omega
        rw [if_neg h1, if_pos h2]
        simp [h3, h4]
      · have h2 : ¬ (c ≤ q ∧ q < c + (n + 1)) := by omega
        rw [if_neg h1, if_neg h2]
        simp [h3]

theorem expand_lanes {evs : List Acc} : ∀ e ∈ evs.flatMap expand, e.lanes = 1 := by
  intro e he
  obtain ⟨e0, _, h⟩ := List.mem_flatMap.1 he
  obtain ⟨l, _, rfl⟩ := List.mem_map.1 h
  rfl

theorem accAt_expand (a b : Nat → R) (evs : List Acc) (q : Nat) :
    accAt a b (evs.flatMap expand) q = accAt a b evs q := by
  rw [accAt_eq_sum a b _ expand_lanes, accAt_eq_sum_lanes]
  induction evs with
  | nil => simp
  | cons e es ih =>
    rw [List.flatMap_cons, List.filter_append, List.map_append, List.sum_append, ih,
      List.filter_cons]
    have he : (expand e).filter (fun e' => decide (e'.io = q))
        = ((List.range e.lanes).filter (fun l => decide (e.io + l = q))).map
            fun l => { io := e.io + l, ia := e.ia, ib := e.ib + l, lanes := 1 } := by
      unfold expand
      rw [List.filter_map]
      rfl
    rw [he, filter_range_eq]
    by_cases hc : e.io ≤ q ∧ q < e.io + e.lanes
    · rw [if_pos hc]
      simp [hc]
    · rw [if_neg hc]
      simp [hc]

theorem assignments_cons_of_ne_nil (d : Nat) (ds : List Nat) (V : Nat) (h : ds ≠ []) :
    assignments (d :: ds) V
      = (List.range d).flatMap fun i => (assignments ds V).map fun r => i :: r := by
  cases ds with
  | nil => exact absurd rfl h
  | cons e es => simp only [assignments]

theorem assignments_snoc (ds : List Nat) (d V : Nat) :
    assignments (ds ++ [d]) V
      = (assignments ds 1).flatMap fun r => (forRange 0 d V).map fun i => r ++ [i] := by
  induction ds with
  | nil => simp [assignments]
  | cons e es ih =>
    rw [List.cons_append, assignments_cons_of_ne_nil _ _ _ (by simp), ih, assignments_cons_one]
    simp only [List.flatMap_assoc, List.flatMap_map, List.map_flatMap, List.map_map,
      Function.comp_def, List.cons_append]

/-- if the innermost loop variable enters the output and the second-operand offsets with unit stride
    and does not enter the first-operand offset, the vector loop nest (step `V`, `V` lanes per event)
    expands to the scalar loop nest, event for event and in the same order -/
theorem vector_events_expand (L : List Nat) (k V : Nat) (hV : 0 < V) (io ia ib : List Nat → Nat)
    (hio : ∀ r ∈ assignments L 1, ∀ i, io (r ++ [i]) = io (r ++ [0]) + i)
    (hia : ∀ r ∈ assignments L 1, ∀ i, ia (r ++ [i]) = ia (r ++ [0]))
    (hib : ∀ r ∈ assignments L 1, ∀ i, ib (r ++ [i]) = ib (r ++ [0]) + i) :
    ((assignments (L ++ [k * V]) V).map
        (fun σ => ({ io := io σ, ia := ia σ, ib := ib σ, lanes := V } : Acc))).flatMap expand
      = (assignments (L ++ [k * V]) 1).map
          (fun σ => ({ io := io σ, ia := ia σ, ib := ib σ, lanes := 1 } : Acc)) := by
  rw [assignments_snoc, assignments_snoc, forRange_mul k V hV, forRange_zero_one, range_mul]
  simp only [List.map_flatMap, List.flatMap_assoc, List.flatMap_map, List.map_map, Function.comp_def]
  apply List.flatMap_congr
  intro r hr
  apply List.flatMap_congr
  intro t _
  unfold expand
  apply List.map_congr_left
  intro l _
  simp only
  rw [hio r hr (t * V + l), hio r hr (t * V), hia r hr (t * V + l), hia r hr (t * V),
    hib r hr (t * V + l), hib r hr (t * V)]
  simp only [Acc.mk.injEq, and_true, true_and]
  omega

theorem flat_snoc (dims x' : List Nat) (i : Nat) (h : dims.length = x'.length + 1) :
    flat dims (x' ++ [i]) = flat dims (x' ++ [0]) + i := by
  induction x' generalizing dims with
  | nil =>
    match dims, h with
    | [d], _ => simp [flat_cons]
  | cons x xs ih =>
    match dims, h with
    | d :: ds, h =>
      simp only [List.cons_append, flat_cons]
      rw [ih ds (by simpa using h)]
      omega

theorem uniq_snoc {cat' : List Nat} {jl : Nat} (hn : jl ∉ cat') :
    uniq (cat' ++ [jl]) = uniq cat' ++ [jl] := by
  rw [uniq_append, show uniq [jl] = [jl] from rfl]
  simp [hn]

section snoc
variable {cat' : List Nat} {jl : Nat} {idx r : List Nat}

theorem read_snoc (hn : jl ∉ cat') (hidx : ∀ x ∈ idx, x ∈ cat') (hr : r.length = (uniq cat').length)
    (i : Nat) :
    (posIn (cat' ++ [jl]) idx).map ((r ++ [i]).getD · 0) = (posIn cat' idx).map (r.getD · 0) := by
  unfold posIn findIndex
  rw [List.map_map, List.map_map, uniq_snoc hn]
  apply List.map_congr_left
  intro x hx
  have hm := mem_uniq.2 (hidx x hx)
  simp only [Function.comp]
  rw [List.idxOf_append_of_mem hm, List.getD_eq_getElem?_getD, List.getD_eq_getElem?_getD,
    List.getElem?_append_left (hr ▸ List.idxOf_lt_length_iff.2 hm)]

theorem read_snoc_last (hn : jl ∉ cat') (hidx : ∀ x ∈ idx, x ∈ cat')
    (hr : r.length = (uniq cat').length) (i : Nat) :
    (posIn (cat' ++ [jl]) (idx ++ [jl])).map ((r ++ [i]).getD · 0)
      = (posIn cat' idx).map (r.getD · 0) ++ [i] := by
  have e : posIn (cat' ++ [jl]) (idx ++ [jl]) = posIn (cat' ++ [jl]) idx ++ [r.length] := by
    unfold posIn findIndex
    rw [List.map_append, uniq_snoc hn, hr]
    simp [List.idxOf_append_of_notMem fun h => hn (mem_uniq.1 h)]
  rw [e, List.map_append, read_snoc hn hidx hr]
  simp

end snoc

theorem resultIdx_snoc {cat' : List Nat} {jl : Nat} (hn : jl ∉ cat') :
    resultIdx (cat' ++ [jl]) = cat'.filter (occursOnce (cat' ++ [jl])) ++ [jl] := by
  unfold resultIdx
  rw [List.filter_append]
  congr 1
  have : occursOnce (cat' ++ [jl]) jl = true := by
    rw [occursOnce_iff, List.count_append, List.count_eq_zero.2 hn]
    simp
  simp [this]

/-- **T6.**  When the last index `jl` of the second operand occurs nowhere else (it is free — then it
    is the innermost loop variable and the last result index) and `V > 0` divides its extent, the
    vector loop nest expands to the scalar loop nest, event for event and in the same order. -/
theorem Pair.loopEvents_vector_expand (p : Pair) (hI : p.I.length = p.dI.length)
    (hJ : p.J.length = p.dJ.length) (J' : List Nat) (jl : Nat) (hJeq : p.J = J' ++ [jl])
    (hnI : jl ∉ p.I) (hnJ : jl ∉ J') (k V : Nat) (hV : 0 < V) (hdl : p.dJ.getLastD 1 = k * V) :
    (p.loopEvents V).flatMap expand = p.loopEvents 1 := by
  -- shape of the concatenated lists
  have hcat : p.cat = (p.I ++ J') ++ [jl] := by simp [Pair.cat, hJeq]
  have hn : jl ∉ p.I ++ J' := by simp [hnI, hnJ]
  obtain ⟨dJ', x, hdJ⟩ : ∃ dJ' x, p.dJ = dJ' ++ [x] := by
    rcases List.eq_nil_or_concat p.dJ with h | ⟨l, b, h⟩
    · rw [h, hJeq] at hJ; simp at hJ
    · exact ⟨l, b, by simpa using h⟩
  have hlen' : J'.length = dJ'.length := by rw [hJeq, hdJ] at hJ; simpa using hJ
  have hx : x = k * V := by rw [hdJ] at hdl; simpa using hdl
  have hcatDims : p.catDims = (p.dI ++ dJ') ++ [x] := by simp [Pair.catDims, hdJ]
  -- the loop extents: the innermost loop is that of `jl`
  have hL : p.loopDims
      = (uniq (p.I ++ J')).map (fun u => p.catDims.getD (findIndex p.cat u) 0) ++ [k * V] := by
    unfold Pair.loopDims Einsum.loopDims
    rw [hcat, uniq_snoc hn, List.map_append]
    congr 1
    simp only [List.map_cons, List.map_nil, findIndex]
    rw [List.idxOf_append_of_notMem hn, hcatDims]
    have : (p.I ++ J').length = (p.dI ++ dJ').length := by simp [hI, hlen']
    simp [this, hx]
  -- `jl` is the last result index
  obtain ⟨R', hR', hR⟩ : ∃ R', (∀ x ∈ R', x ∈ p.I ++ J') ∧ p.resIdx = R' ++ [jl] :=
    ⟨_, fun x hx => (List.mem_filter.1 hx).1, by unfold Pair.resIdx; rw [hcat]; exact resultIdx_snoc hn⟩
  have hRD : p.resDims.length = R'.length + 1 := by
    unfold Pair.resDims
    rw [resultDims_eq_map (p.cat_length hI hJ), List.length_map]
    show p.resIdx.length = _
    rw [hR, List.length_append, List.length_singleton]
  have hred : p.resDims.isEmpty = false := by
    cases h : p.resDims with
    | nil => rw [h] at hRD; simp at hRD
    | cons _ _ => rfl
  have hrlen : ∀ r ∈ assignments
      ((uniq (p.I ++ J')).map (fun u => p.catDims.getD (findIndex p.cat u) 0)) 1,
      r.length = (uniq (p.I ++ J')).length := fun r hr => by
    rw [(mem_assignments_iff.1 hr).length_eq, List.length_map]
  unfold Pair.loopEvents
  simp only [hred, Bool.false_eq_true, if_false]
  rw [hL]
  apply vector_events_expand _ k V hV
  · intro r hr i
    rw [flatAt_eq_flat, flatAt_eq_flat, hR, hcat,
      read_snoc_last hn hR' (hrlen r hr), read_snoc_last hn hR' (hrlen r hr)]
    exact flat_snoc _ _ _ (by simp [posIn, hRD])
  · intro r hr i
    rw [flatAt_eq_flat, flatAt_eq_flat, hcat,
      read_snoc hn (fun x hx => List.mem_append_left _ hx) (hrlen r hr),
      read_snoc hn (fun x hx => List.mem_append_left _ hx) (hrlen r hr)]
  · intro r hr i
    rw [flatAt_eq_flat, flatAt_eq_flat, hJeq, hcat,
      read_snoc_last hn (fun x hx => List.mem_append_right _ hx) (hrlen r hr),
      read_snoc_last hn (fun x hx => List.mem_append_right _ hx) (hrlen r hr)]
    exact flat_snoc _ _ _ (by rw [← hJ, hJeq]; simp [posIn])
/-- the arithmetic of `is_vectorisable::stride` -/
def strideOf (fastest sse avx : Nat) (c : Bool) : Nat :=
  if c then 1
  else if fastest % sse == 0 && fastest % avx == 0 then avx
  else if fastest % sse == 0 then sse
  else 1

theorem Pair.stride_eq (p : Pair) (sz : Nat) (vec : Bool) :
    p.stride sz vec = strideOf (p.dJ.getLastD 1) (16 / sz) (32 / sz)
      (!vec || (p.I.contains (p.J.getLastD 0) || decide (p.J.count (p.J.getLastD 0) > 1))) := rfl

theorem strideOf_cases (f sse avx : Nat) (c : Bool) (hsse : 0 < sse) (havx : 1 < avx) :
    strideOf f sse avx c = 1 ∨
    (c = false ∧ f ≠ 1 ∧ 0 < strideOf f sse avx c ∧
      f = f / strideOf f sse avx c * strideOf f sse avx c) := by
  unfold strideOf
  split_ifs with hc h2 h1
  · exact Or.inl rfl
  · rw [Bool.and_eq_true, beq_iff_eq, beq_iff_eq] at h2
    refine Or.inr ⟨by simpa using hc, ?_, by omega, (Nat.div_mul_cancel (Nat.dvd_of_mod_eq_zero h2.2)).symm⟩
    rintro rfl
    rw [Nat.mod_eq_of_lt havx] at h2
    omega
  · rw [beq_iff_eq] at h1
    by_cases h3 : sse = 1
    · exact Or.inl h3
    · refine Or.inr ⟨by simpa using hc, ?_, hsse, (Nat.div_mul_cancel (Nat.dvd_of_mod_eq_zero h1)).symm⟩
      rintro rfl
      rw [Nat.mod_eq_of_lt (by omega)] at h1
      omega
  · exact Or.inl rfl
/-- what `is_vectorisable` guarantees: either the stride is 1 or the last index of the second operand
    occurs nowhere else and the (positive) stride divides its extent -/
theorem Pair.stride_cases (p : Pair) (hJ : p.J.length = p.dJ.length) (sz : Nat)
    (hsz : 0 < sz ∧ sz ≤ 16) (vec : Bool) :
    p.stride sz vec = 1 ∨
    ∃ J' jl k, p.J = J' ++ [jl] ∧ jl ∉ p.I ∧ jl ∉ J' ∧ 0 < p.stride sz vec ∧
      p.dJ.getLastD 1 = k * p.stride sz vec := by
  have hsse : 0 < 16 / sz := Nat.div_pos hsz.2 hsz.1
  have havx : 1 < 32 / sz := by
    have : 2 ≤ 32 / sz := (Nat.le_div_iff_mul_le hsz.1).2 (by omega)
    omega
  rw [Pair.stride_eq]
  rcases strideOf_cases (p.dJ.getLastD 1) (16 / sz) (32 / sz)
    (!vec || (p.I.contains (p.J.getLastD 0) || decide (p.J.count (p.J.getLastD 0) > 1))) hsse havx
    with h | ⟨hc, hf, hpos, hdiv⟩
  · exact Or.inl h
  · right
    rcases List.eq_nil_or_concat p.J with hnil | ⟨J', jl, hJc⟩
    · exfalso
      rw [hnil] at hJ
      have : p.dJ = [] := List.length_eq_zero_iff.1 hJ.symm
      rw [this] at hf
      exact hf rfl
    · have hJ' : p.J = J' ++ [jl] := by simpa using hJc
      simp only [hJ', List.getLastD_concat, Bool.or_eq_false_iff, decide_eq_false_iff_not,
        List.count_append] at hc
      obtain ⟨_, hcI, hcJ⟩ := hc
      refine ⟨J', jl, _, hJ', ?_, ?_, hpos, hdiv⟩
      · intro hm
        rw [List.contains_iff_mem.2 hm] at hcI; cases hcI
      · intro hm
        have := List.count_pos_iff.2 hm
        have h1 : List.count jl [jl] = 1 := by simp
        omega

theorem InRange.append {x y d e : List Nat} (hx : InRange x d) (hy : InRange y e) :
    InRange (x ++ y) (d ++ e) := List.rel_append hx hy

theorem InRange.split {σ d e : List Nat} (h : InRange σ (d ++ e)) :
    ∃ x y, σ = x ++ y ∧ InRange x d ∧ InRange y e :=
  ⟨σ.take d.length, σ.drop d.length, (List.take_append_drop _ _).symm,
    List.forall₂_take_append _ _ _ h, List.forall₂_drop_append _ _ _ h⟩

theorem prod_append (ds es : List Nat) : prod (ds ++ es) = prod ds * prod es := by
  rw [prod_eq, prod_eq, prod_eq, List.prod_append]

theorem flat_append {ds x : List Nat} (hx : x.length = ds.length) (es y : List Nat) :
    flat (ds ++ es) (x ++ y) = flat ds x * prod es + flat es y := by
  induction ds generalizing x with
  | nil =>
    have : x = [] := List.length_eq_zero_iff.1 hx
    subst this; simp
  | cons d ds ih =>
    match x, hx with
    | v :: vs, hx =>
      simp only [List.cons_append, flat_cons]
      rw [ih (by simpa using hx), prod_append]
      ring

theorem map_getD_idxOf {l d : List Nat} (hnd : l.Nodup) (hl : l.length = d.length) :
    l.map (fun u => d.getD (l.idxOf u) 0) = d := by
  apply List.ext_getElem (by rw [List.length_map, hl])
  intro i h1 h2
  rw [List.getElem_map, hnd.idxOf_getElem, List.getD_eq_getElem _ _ h2]

theorem map_getD_idxOf₃ {A C B x c y : List Nat} (hnd : (A ++ (C ++ B)).Nodup)
    (hA : A.length = x.length) (hC : C.length = c.length) (hB : B.length = y.length) :
    A.map (fun u => (x ++ (c ++ y)).getD ((A ++ (C ++ B)).idxOf u) 0) = x ∧
    C.map (fun u => (x ++ (c ++ y)).getD ((A ++ (C ++ B)).idxOf u) 0) = c ∧
    B.map (fun u => (x ++ (c ++ y)).getD ((A ++ (C ++ B)).idxOf u) 0) = y := by
  have h := map_getD_idxOf (d := x ++ (c ++ y)) hnd (by simp [hA, hC, hB])
  rw [List.map_append, List.map_append] at h
  obtain ⟨vA, h'⟩ := List.append_inj h (by rw [List.length_map, hA])
  exact ⟨vA, List.append_inj h' (by rw [List.length_map, hC])⟩
/-- the pattern of a generalised matrix-matrix product: `I = A ++ C`, `J = C ++ B` -/
def gemmPair (A C B dA dC dB : List Nat) : Pair :=
  { I := A ++ C, J := C ++ B, dI := dA ++ dC, dJ := dC ++ dB }

section gemm
variable {A C B dA dC dB : List Nat}

theorem gemm_uniq (hnd : (A ++ C ++ B).Nodup) :
    uniq (gemmPair A C B dA dC dB).cat = A ++ (C ++ B) := by
  show uniq ((A ++ C) ++ (C ++ B)) = _
  rw [uniq_append_dup (A ++ C) C B fun x hx => List.mem_append_right _ hx, uniq_of_nodup hnd,
    List.append_assoc]

theorem gemm_resIdx (hnd : (A ++ C ++ B).Nodup) :
    (gemmPair A C B dA dC dB).resIdx = A ++ B := by
  show ((A ++ C) ++ (C ++ B)).filter (occursOnce ((A ++ C) ++ (C ++ B))) = _
  -- the names of `A` and `B` occur once, those of `C` twice
  have key : ∀ x, (0 < A.count x ∨ 0 < B.count x → occursOnce ((A ++ C) ++ (C ++ B)) x = true) ∧
      (0 < C.count x → ¬ occursOnce ((A ++ C) ++ (C ++ B)) x = true) := fun x => by
    have := List.nodup_iff_count_le_one.1 hnd x
    rw [List.count_append, List.count_append] at this
    rw [occursOnce_iff, List.count_append, List.count_append, List.count_append]
    omega
  simp only [List.filter_append]
  rw [List.filter_eq_self.2 fun x hx => (key x).1 (Or.inl (List.count_pos_iff.2 hx)),
    List.filter_eq_nil_iff.2 fun x hx => (key x).2 (List.count_pos_iff.2 hx),
    List.filter_eq_self.2 fun x hx => (key x).1 (Or.inr (List.count_pos_iff.2 hx)),
    List.append_nil, List.nil_append]

theorem gemm_nodup (hnd : (A ++ C ++ B).Nodup) : (A ++ (C ++ B)).Nodup := by
  rwa [← List.append_assoc]

theorem gemm_dims (hnd : (A ++ C ++ B).Nodup) (hA : A.length = dA.length)
    (hC : C.length = dC.length) (hB : B.length = dB.length) :
    (gemmPair A C B dA dC dB).loopDims = dA ++ (dC ++ dB) ∧
    (gemmPair A C B dA dC dB).resDims = dA ++ dB := by
  -- the extents are a function of the names
  obtain ⟨eA, eC, eB⟩ := map_getD_idxOf₃ (gemm_nodup hnd) hA hC hB
  generalize (fun u => (dA ++ (dC ++ dB)).getD ((A ++ (C ++ B)).idxOf u) 0) = ext at eA eC eB
  have hcd : (gemmPair A C B dA dC dB).catDims = (gemmPair A C B dA dC dB).cat.map ext := by
    show (dA ++ dC) ++ (dC ++ dB) = ((A ++ C) ++ (C ++ B)).map ext
    simp only [List.map_append, eA, eC, eB]
  unfold Pair.loopDims Pair.resDims
  rw [hcd, loopDims_map, resultDims_map, gemm_uniq hnd]
  show _ ∧ (gemmPair A C B dA dC dB).resIdx.map ext = _
  rw [gemm_resIdx hnd]
  simp only [List.map_append, eA, eC, eB, and_self]

/-- what an assignment `x ++ c ++ y` selects -/
theorem gemm_reads (hnd : (A ++ C ++ B).Nodup) {x c y : List Nat}
    (hx : x.length = dA.length) (hc : c.length = dC.length) (hy : y.length = dB.length)
    (hA : A.length = dA.length) (hC : C.length = dC.length) (hB : B.length = dB.length) :
    let p := gemmPair A C B dA dC dB
    p.free (x ++ (c ++ y)) = x ++ y ∧
    flatAt p.dI (posIn p.cat p.I) (x ++ (c ++ y)) = flat dA x * prod dC + flat dC c ∧
    flatAt p.dJ (posIn p.cat p.J) (x ++ (c ++ y)) = flat dC c * prod dB + flat dB y := by
  intro p
  obtain ⟨vA, vC, vB⟩ := map_getD_idxOf₃ (x := x) (c := c) (y := y) (gemm_nodup hnd)
    (by omega) (by omega) (by omega)
  have hpos : ∀ idx : List Nat, (posIn p.cat idx).map ((x ++ (c ++ y)).getD · 0)
      = idx.map fun u => (x ++ (c ++ y)).getD ((A ++ (C ++ B)).idxOf u) 0 := fun idx => by
    unfold posIn findIndex
    rw [gemm_uniq hnd, List.map_map]
    rfl
  refine ⟨?_, ?_, ?_⟩
  · show (posIn p.cat p.resIdx).map _ = _
    rw [hpos, gemm_resIdx hnd, List.map_append, vA, vB]
  · rw [flatAt_eq_flat, hpos]
    show flat (dA ++ dC) (List.map _ (A ++ C)) = _
    rw [List.map_append, vA, vC, flat_append hx]
  · rw [flatAt_eq_flat, hpos]
    show flat (dC ++ dB) (List.map _ (C ++ B)) = _
    rw [List.map_append, vC, vB, flat_append hc]
end gemm

/-- summing over the in-range multi-indices of `dims` in loop order is summing over their offsets -/
theorem sum_assignments_flat (dims : List Nat) (g : Nat → R) :
    ∑ c ∈ (assignments dims 1).toFinset, g (flat dims c) = ∑ k ∈ Finset.range (prod dims), g k := by
  apply Finset.sum_bij (fun c _ => flat dims c)
  · intro c hc
    exact Finset.mem_range.2 (flat_lt_prod (mem_assignments_iff.1 (List.mem_toFinset.1 hc)))
  · intro c₁ h₁ c₂ h₂ h
    exact flat_injective (mem_assignments_iff.1 (List.mem_toFinset.1 h₁))
      (mem_assignments_iff.1 (List.mem_toFinset.1 h₂)) h
  · intro k hk
    obtain ⟨c, hc, hf⟩ := flat_surjective dims (Finset.mem_range.1 hk)
    exact ⟨c, List.mem_toFinset.2 (mem_assignments_iff.2 hc), hf⟩
  · intro c _; rfl

/-- **re-routing, matrix-matrix.**  For the pattern `I = A ++ C`, `J = C ++ B` with all names
    distinct, the loop nest leaves in cell `(i, j)` of the `prod dA × prod dB` result the entry of the
    matrix product of the operands flattened to `prod dA × prod dC` and `prod dC × prod dB`. -/
theorem gemm_cell {A C B dA dC dB : List Nat} (hnd : (A ++ C ++ B).Nodup)
    (hA : A.length = dA.length) (hC : C.length = dC.length) (hB : B.length = dB.length)
    (a b : Nat → R) {x y : List Nat} (hx : InRange x dA) (hy : InRange y dB) :
    accAt a b ((gemmPair A C B dA dC dB).loopEvents 1) (flat dA x * prod dB + flat dB y)
      = ∑ k ∈ Finset.range (prod dC), a (flat dA x * prod dC + k) * b (k * prod dB + flat dB y) := by
  have hI : (gemmPair A C B dA dC dB).I.length = (gemmPair A C B dA dC dB).dI.length := by
    simp [gemmPair, hA, hC]
  have hJ : (gemmPair A C B dA dC dB).J.length = (gemmPair A C B dA dC dB).dJ.length := by
    simp [gemmPair, hC, hB]
  obtain ⟨hLD, hRD⟩ := gemm_dims hnd hA hC hB
  have hq : flat dA x * prod dB + flat dB y
      = flat (gemmPair A C B dA dC dB).resDims (x ++ y) := by
    rw [hRD, flat_append hx.length_eq]
  rw [hq, Pair.loopnest_cell _ hI hJ a b (m := x ++ y) (by rw [hRD]; exact hx.append hy),
    hLD, ← List.sum_toFinset _ ((assignments_nodup _).filter _),
    ← sum_assignments_flat dC
      (fun k => a (flat dA x * prod dC + k) * b (k * prod dB + flat dB y))]
  symm
  apply Finset.sum_bij (fun c _ => x ++ (c ++ y))
  · intro c hc
    have hc' := mem_assignments_iff.1 (List.mem_toFinset.1 hc)
    rw [List.mem_toFinset, List.mem_filter]
    refine ⟨mem_assignments_iff.2 (hx.append (hc'.append hy)), ?_⟩
    rw [decide_eq_true_eq]
    exact (gemm_reads hnd hx.length_eq hc'.length_eq hy.length_eq hA hC hB).1
  · intro c₁ _ c₂ _ h
    exact List.append_cancel_right (List.append_cancel_left h)
  · intro σ hσ
    rw [List.mem_toFinset, List.mem_filter, decide_eq_true_eq] at hσ
    obtain ⟨x', r, rfl, hx', hr⟩ := (mem_assignments_iff.1 hσ.1).split
    obtain ⟨c, y', rfl, hc, hy'⟩ := hr.split
    have hf := (gemm_reads hnd hx'.length_eq hc.length_eq hy'.length_eq hA hC hB).1
    rw [hf] at hσ
    obtain ⟨e1, e2⟩ := List.append_inj hσ.2 (by rw [hx'.length_eq, hx.length_eq])
    subst e1 e2
    exact ⟨c, List.mem_toFinset.2 (mem_assignments_iff.2 hc), rfl⟩
  · intro c hc
    have hc' := mem_assignments_iff.1 (List.mem_toFinset.1 hc)
    obtain ⟨_, h2, h3⟩ := gemm_reads hnd hx.length_eq hc'.length_eq hy.length_eq hA hC hB
    unfold Pair.term
    rw [h2, h3]

theorem Pair.route_gemm (p : Pair) (h : p.route = .gemm) :
    matchTwoEnds p.I p.J (p.I.length + p.J.length - (uniq p.cat).length) = true := by
  unfold Pair.route at h
  dsimp only at h
  split at h
  · cases h
  split at h
  · cases h
  split at h
  · cases h
  split at h
  · rename_i hc
    exact (Bool.and_eq_true_iff.1 hc).2
  · split at h <;> cases h

/-- the shape behind `route = gemm` -/
theorem Pair.gemm_structure (p : Pair) (hI : p.I.length = p.dI.length) (hJ : p.J.length = p.dJ.length)
    (hcons : Consistent p.cat p.catDims) (h : p.route = .gemm) :
    ∃ A C B dA dC dB, p = gemmPair A C B dA dC dB ∧ (A ++ C ++ B).Nodup ∧
      A.length = dA.length ∧ C.length = dC.length ∧ B.length = dB.length ∧
      C.length = p.I.length + p.J.length - (uniq p.cat).length ∧ C ≠ [] := by
  have hm := p.route_gemm h
  generalize hnc : p.I.length + p.J.length - (uniq p.cat).length = nc at hm
  unfold matchTwoEnds at hm
  simp only [Bool.and_eq_true, bne_iff_ne, ne_eq, decide_eq_true_eq, beq_iff_eq] at hm
  obtain ⟨⟨⟨h0, hle1⟩, hle2⟩, hdrop⟩ := hm
  have hnu : (uniq p.cat).length ≤ p.I.length + p.J.length := by
    have := uniq_length_le p.cat
    simpa [Pair.cat] using this
  -- the pieces
  have eI : p.I = p.I.take (p.I.length - nc) ++ p.J.take nc := by
    rw [← hdrop, List.take_append_drop]
  have eJ : p.J = p.J.take nc ++ p.J.drop nc := (List.take_append_drop _ _).symm
  have edJ : p.dJ = p.dJ.take nc ++ p.dJ.drop nc := (List.take_append_drop _ _).symm
  have edrop : p.dI.drop (p.I.length - nc) = p.dJ.take nc := by
    have hmap := hcons.eq_map (p.cat_length hI hJ)
    generalize (fun x => p.catDims.getD (p.cat.idxOf x) 0) = ext at hmap
    obtain ⟨eI, eJ⟩ : p.dI = p.I.map ext ∧ p.dJ = p.J.map ext :=
      List.append_inj (hmap.trans List.map_append) (by rw [List.length_map, hI])
    rw [eI, eJ, ← List.map_drop, ← List.map_take, hdrop]
  have edI : p.dI = p.dI.take (p.I.length - nc) ++ p.dJ.take nc := by
    rw [← edrop, List.take_append_drop]
  refine ⟨p.I.take (p.I.length - nc), p.J.take nc, p.J.drop nc,
    p.dI.take (p.I.length - nc), p.dJ.take nc, p.dJ.drop nc, ?_, ?_, ?_, ?_, ?_, ?_, ?_⟩
  · unfold gemmPair
    rw [← eI, ← eJ, ← edI, ← edJ]
  · apply nodup_of_uniq_length
    have e : uniq p.cat = uniq (p.I.take (p.I.length - nc) ++ p.J.take nc ++ p.J.drop nc) := by
      have ecat : p.cat = (p.I.take (p.I.length - nc) ++ p.J.take nc) ++ (p.J.take nc ++ p.J.drop nc) := by
        rw [← eI, ← eJ]; rfl
      rw [ecat]
      exact uniq_append_dup _ _ _ (fun x hx => List.mem_append_right _ hx)
    rw [← e]
    simp only [List.length_append, List.length_take, List.length_drop]
    omega
  · simp only [List.length_take]; omega
  · simp only [List.length_take]; omega
  · simp only [List.length_drop]; omega
  · simp only [List.length_take]; omega
  · intro hC
    have := congrArg List.length hC
    simp only [List.length_take, List.length_nil] at this
    omega

/-- the shape handed to `_matmul` for the matrix-matrix pattern -/
theorem gemmShape_of_gemm (A C B dA dC dB : List Nat) (hC : C.length = dC.length)
    (hnc : C.length = (gemmPair A C B dA dC dB).I.length + (gemmPair A C B dA dC dB).J.length
      - (uniq (gemmPair A C B dA dC dB).cat).length)
    (hr : (gemmPair A C B dA dC dB).route = .gemm) :
    (gemmPair A C B dA dC dB).gemmShape
      = (prod dA * prod dC / prod dC, prod dC, prod dC * prod dB / prod dC, false) := by
  unfold Pair.gemmShape
  rw [hr]
  simp only
  rw [← hnc, hC, show (gemmPair A C B dA dC dB).dJ.take dC.length = dC from List.take_left' rfl]
  show (prod (dA ++ dC) / prod dC, prod dC, prod (dC ++ dB) / prod dC, false) = _
  rw [prod_append, prod_append]
end Fastor.Einsum
