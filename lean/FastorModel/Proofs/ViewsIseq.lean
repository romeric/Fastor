import FastorModel.Proofs.ViewsRead
/-
  Lemmas for C04, part 4: the immediate `iseq` overloads of BlockIndexing.h — nested counted loops
  `for (i=F; i<L; i+=S) { … out(counter…) = (*this)(i…); counter++ }` through scalar indexing.
-/
namespace Fastor.Views

theorem zip_forRange (f l s : Nat) :
    (forRange f l s).zip (List.range (forCount f l s)) =
      (List.range (forCount f l s)).map (fun t => (f + t * s, t)) := by
  unfold forRange
  exact zip_map_self _ _

/-- triples `(F,L,S)` with positive steps; the result extents are the loop counts -/
def IseqOk : List Nat → List Nat → List (Nat × Nat × Nat) → Prop
  | _ :: pds, r :: rds, (f, l, s) :: rest => 0 < s ∧ r = forCount f l s ∧ IseqOk pds rds rest
  | [], [], [] => True
  | _, _, _ => False

/-- documented source multi-index of result element `j` -/
def iseqSrc : List (Nat × Nat × Nat) → List Nat → List Nat
  | (f, _, s) :: rest, j :: js => (f + j * s) :: iseqSrc rest js
  | _, _ => []

theorem iseqSrc_length (tr : List (Nat × Nat × Nat)) (j : List Nat) (h : tr.length = j.length) :
    (iseqSrc tr j).length = j.length := by
  induction tr generalizing j with
  | nil => cases j <;> simp_all [iseqSrc]
  | cons t tr ih =>
    obtain ⟨f, l, s⟩ := t
    cases j with
    | nil => simp at h
    | cons j js => simp only [iseqSrc, List.length_cons] at h ⊢; rw [ih js (by omega)]

theorem iseqOk_lengths {pd rd : List Nat} {tr : List (Nat × Nat × Nat)} (h : IseqOk pd rd tr) :
    pd.length = rd.length ∧ rd.length = tr.length := by
  induction pd generalizing rd tr with
  | nil => cases rd <;> cases tr <;> simp_all [IseqOk]
  | cons p pd ih =>
    cases rd with
    | nil => simp [IseqOk] at h
    | cons r rd =>
      cases tr with
      | nil => simp [IseqOk] at h
      | cons t tr =>
        obtain ⟨f, l, s⟩ := t
        simp only [IseqOk] at h
        have := ih h.2.2
        simp only [List.length_cons]; omega

end Fastor.Views
