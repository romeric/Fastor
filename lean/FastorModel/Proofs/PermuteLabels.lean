import FastorModel.Proofs.PermuteMeta
import Batteries.Data.List.Perm
/-
  `permute_mapped_index_t<Index<R...>, Index<O...>>` on arbitrary label packs (as the explicit-output einsum calls it):
  for distinct labels `R` and a rearrangement `O` of them it is "the position in `R` of each label of `O`".
  Route: the sorting metafunctions only compare values, so they are invariant under the order isomorphism
  label ↦ rank, which turns a distinct pack into a permutation of `0..n-1` (covered by PermuteMeta).
-/
namespace Fastor.Permute

def OrdIso (S : Nat → Prop) (g : Nat → Nat) : Prop := ∀ x y, S x → S y → (x ≤ y ↔ g x ≤ g y)

theorem OrdIso.lt {S g} (h : OrdIso S g) {x y} (hx : S x) (hy : S y) : x < y ↔ g x < g y := by
  have := h y x hy hx; omega

theorem OrdIso.inj {S g} (h : OrdIso S g) {x y} (hx : S x) (hy : S y) (e : g x = g y) : x = y := by
  have h1 := (h x y hx hy).2 (by omega); have h2 := (h y x hy hx).2 (by omega); omega

theorem OrdIso.min {S g} (h : OrdIso S g) {m n} (hm : S m) (hn : S n) :
    (if g m ≤ g n then g m else g n) = g (if m ≤ n then m else n) := by
  by_cases c : m ≤ n
  · simp [c, (h m n hm hn).1 c]
  · have : ¬ g m ≤ g n := fun c' => c ((h m n hm hn).2 c')
    simp [c, this]

theorem metaMin_mem (l : List Nat) (m : Nat) : metaMin m l ∈ m :: l := by
  rcases (metaMin_spec l m).2 with h | h
  · rw [h]; simp
  · exact List.mem_cons_of_mem _ h

theorem metaMin_map {S g} (h : OrdIso S g) : ∀ (l : List Nat) (m : Nat), S m → (∀ x ∈ l, S x) →
    metaMin (g m) (l.map g) = g (metaMin m l)
  | [], m, _, _ => rfl
  | [n], m, hm, hl => by
    show (if g m ≤ g n then g m else g n) = g (if m ≤ n then m else n)
    exact h.min hm (hl n (by simp))
  | n :: r :: rs, m, hm, hl => by
    have hn : S n := hl n (by simp)
    have hp : S (if m ≤ n then m else n) := by split <;> assumption
    have hrs : ∀ x ∈ r :: rs, S x := fun x hx => hl x (List.mem_cons_of_mem _ hx)
    have ih := metaMin_map h (r :: rs) (if m ≤ n then m else n) hp hrs
    simp only [List.map_cons] at ih ⊢
    rw [metaMin_cons2, metaMin_cons2, h.min hm hn, ih]
    have hmm : S (metaMin (if m ≤ n then m else n) (r :: rs)) := by
      rcases List.mem_cons.1 (metaMin_mem (r :: rs) (if m ≤ n then m else n)) with e | e
      · rw [e]; exact hp
      · exact hrs _ e
    by_cases c : (if m ≤ n then m else n) ≤ metaMin (if m ≤ n then m else n) (r :: rs)
    · simp [c, (h _ _ hp hmm).1 c]
    · have : ¬ g (if m ≤ n then m else n) ≤ g (metaMin (if m ≤ n then m else n) (r :: rs)) :=
        fun c' => c ((h _ _ hp hmm).2 c')
      simp [c, this]

theorem metaArgmin_map {S g} (h : OrdIso S g) : ∀ (rest : List Nat) (m n : Nat), S m → S n → (∀ x ∈ rest, S x) →
    metaArgmin (g m) (g n) (rest.map g) = metaArgmin m n rest
  | [], m, n, hm, hn, _ => by
    show (if g m < g n then 0 else 1) = (if m < n then 0 else 1)
    by_cases c : m < n
    · simp [c, (h.lt hm hn).1 c]
    · have : ¬ g m < g n := fun c' => c ((h.lt hm hn).2 c')
      simp [c, this]
  | r :: rs, m, n, hm, hn, hl => by
    have hp : S (if m ≤ n then m else n) := by split <;> assumption
    have hr : S r := hl r (by simp)
    have hrs : ∀ x ∈ rs, S x := fun x hx => hl x (List.mem_cons_of_mem _ hx)
    have ih := metaArgmin_map h rs (if m ≤ n then m else n) r hp hr hrs
    have hmin := metaMin_map h (r :: rs) (if m ≤ n then m else n) hp hl
    simp only [List.map_cons] at hmin ⊢
    rw [metaArgmin_cons, metaArgmin_cons, h.min hm hn, hmin, ih]
    have hmm : S (metaMin (if m ≤ n then m else n) (r :: rs)) := by
      rcases List.mem_cons.1 (metaMin_mem (r :: rs) (if m ≤ n then m else n)) with e | e
      · rw [e]; exact hp
      · exact hl _ e
    have e1 : (g (if m ≤ n then m else n) ≤ g (metaMin (if m ≤ n then m else n) (r :: rs))) ↔
        ((if m ≤ n then m else n) ≤ metaMin (if m ≤ n then m else n) (r :: rs)) := (h _ _ hp hmm).symm
    have e2 : (g m < g n) ↔ (m < n) := (h.lt hm hn).symm
    simp only [e1, e2]

theorem argminOf_map {S g} (h : OrdIso S g) (vals : List Nat) (hv : ∀ x ∈ vals, S x) :
    argminOf (vals.map g) = argminOf vals := by
  match vals, hv with
  | [], _ => rfl
  | [_], _ => rfl
  | m :: n :: rest, hv =>
    exact metaArgmin_map h rest m n (hv m (by simp)) (hv n (by simp)) (fun x hx => hv x (by simp [hx]))

theorem filterOut_map {S g} (h : OrdIso S g) (v : Nat) (hv : S v) (vals : List Nat) (hs : ∀ x ∈ vals, S x) :
    filterOut (g v) (vals.map g) = (filterOut v vals).map g := by
  unfold filterOut
  rw [List.filter_map]
  congr 1
  apply List.filter_congr
  intro x hx
  by_cases e : x = v
  · subst e; simp
  · have hne : g x ≠ g v := fun e' => e (h.inj (hs x hx) hv e')
    show (g x != g v) = (x != v)
    rw [bne_iff_ne.2 hne, bne_iff_ne.2 e]

/-- **the selection sort only looks at the order of the values** -/
theorem metaArgsortAux_map {S g} (h : OrdIso S g) : ∀ (fuel : Nat) (vals ss : List Nat), (∀ x ∈ vals, S x) →
    metaArgsortAux fuel (vals.map g) ss = metaArgsortAux fuel vals ss
  | 0, _, _, _ => rfl
  | fuel + 1, [], ss, _ => by
    simp only [List.map_nil, metaArgsortAux]
  | fuel + 1, [v], ss, _ => rfl
  | fuel + 1, v1 :: v2 :: vs, ss, hv => by
    have hk := argminOf_map h (v1 :: v2 :: vs) hv
    obtain ⟨a1, a2, _⟩ := argminOf_spec (v1 :: v2 :: vs) (by simp)
    have hlv : ((v1 :: v2 :: vs).map g).getD (argminOf (v1 :: v2 :: vs)) 0 = g ((v1 :: v2 :: vs).getD (argminOf (v1 :: v2 :: vs)) 0) :=
      getD_map_lt g _ _ a1
    have hS : S ((v1 :: v2 :: vs).getD (argminOf (v1 :: v2 :: vs)) 0) := hv _ a2
    rw [metaArgsortAux_step fuel _ ss (by simp), metaArgsortAux_step fuel _ ss (by simp), hk, hlv, filterOut_map h _ hS _ hv]
    rw [metaArgsortAux_map h fuel (filterOut ((v1 :: v2 :: vs).getD (argminOf (v1 :: v2 :: vs)) 0) (v1 :: v2 :: vs)) _
      (fun x hx => hv x (List.mem_filter.1 hx).1)]

theorem metaArgsort_map {S g} (h : OrdIso S g) (vals : List Nat) (hv : ∀ x ∈ vals, S x) :
    metaArgsort (vals.map g) = metaArgsort vals := by
  unfold metaArgsort
  rw [List.length_map, metaArgsortAux_map h _ _ _ hv]

theorem countP_lt_add_one (l : List Nat) (x y : Nat) (hy : y ∈ l) (hyx : y < x) :
    l.countP (fun e => decide (e < y)) + 1 ≤ l.countP (fun e => decide (e < x)) := by
  induction l with
  | nil => simp at hy
  | cons a l ih =>
    simp only [List.countP_cons]
    rcases List.mem_cons.1 hy with e | e
    · subst e
      have : l.countP (fun e => decide (e < y)) ≤ l.countP (fun e => decide (e < x)) :=
        List.countP_mono_left (fun z _ hz => by simp at hz ⊢; omega)
      simp [hyx]; omega
    · have := ih e
      by_cases c : a < y
      · have : a < x := by omega
        simp [c, this]; omega
      · simp [c]; split <;> omega

theorem rank_ordIso (R : List Nat) : OrdIso (· ∈ R) (countLess R) := by
  intro x y hx hy
  rw [countLess_eq_countP, countLess_eq_countP]
  constructor
  · intro hle
    exact List.countP_mono_left (fun z _ hz => by simp at hz ⊢; omega)
  · intro hle
    by_cases c : x ≤ y
    · exact c
    · have := countP_lt_add_one R x y hy (by omega)
      omega

theorem perm_range_of_nodup {l : List Nat} (hn : l.Nodup) (hlt : ∀ x ∈ l, x < l.length) : l.Perm (List.range l.length) := by
  have hsub : l ⊆ List.range l.length := fun x hx => List.mem_range.2 (hlt x hx)
  exact (List.subperm_of_subset hn hsub).perm_of_length_le (by simp)

theorem countP_lt_length_of_mem : ∀ (l : List Nat) (x : Nat), x ∈ l → l.countP (fun e => decide (e < x)) < l.length
  | [], _, h => by simp at h
  | a :: l, x, h => by
    simp only [List.countP_cons, List.length_cons]
    rcases List.mem_cons.1 h with e | e
    · subst e
      have := List.countP_le_length (p := fun e => decide (e < x)) (l := l)
      simp; omega
    · have := countP_lt_length_of_mem l x e
      split <;> omega

theorem nodup_map_of_inj {g : Nat → Nat} : ∀ (l : List Nat), l.Nodup → (∀ a ∈ l, ∀ b ∈ l, g a = g b → a = b) → (l.map g).Nodup
  | [], _, _ => by simp
  | a :: l, hn, hinj => by
    rw [List.nodup_cons] at hn
    rw [List.map_cons, List.nodup_cons]
    refine ⟨?_, nodup_map_of_inj l hn.2 (fun x hx y hy => hinj x (List.mem_cons_of_mem _ hx) y (List.mem_cons_of_mem _ hy))⟩
    intro hmem
    obtain ⟨b, hb, e⟩ := List.mem_map.1 hmem
    have := hinj b (List.mem_cons_of_mem _ hb) a (by simp) e
    exact hn.1 (this ▸ hb)

theorem countLess_lt_length {R : List Nat} {x : Nat} (hx : x ∈ R) : countLess R x < R.length := by
  rw [countLess_eq_countP]
  exact countP_lt_length_of_mem R x hx

/-- the ranks of a distinct pack are a permutation of `0..n-1` -/
theorem ranks_perm {R : List Nat} (hn : R.Nodup) : (R.map (countLess R)).Perm (List.range R.length) := by
  have hiso := rank_ordIso R
  have hnd : (R.map (countLess R)).Nodup := nodup_map_of_inj R hn (fun x hx y hy e => hiso.inj hx hy e)
  have := perm_range_of_nodup hnd (by
    intro r hr
    obtain ⟨x, hx, rfl⟩ := List.mem_map.1 hr
    rw [List.length_map]; exact countLess_lt_length hx)
  rw [List.length_map] at this; exact this

/-- `get_floor_map(meta_argsort(R))` is the rank of every label -/
theorem floorMap_argsort_ranks {R : List Nat} (hn : R.Nodup) (hne : R ≠ []) :
    floorMap (metaArgsort R) = R.map (countLess R) := by
  have hr : 0 < R.length := List.length_pos_iff.2 hne
  have hp := ranks_perm hn
  have h1 := isInv_metaArgsort hr hp
  rw [metaArgsort_map (rank_ordIso R) R (fun _ hx => hx)] at h1
  exact floorMap_eq h1

theorem idxOf_map_inj {g : Nat → Nat} : ∀ (R : List Nat) (y : Nat), y ∈ R → (∀ a ∈ R, ∀ b ∈ R, g a = g b → a = b) →
    (R.map g).idxOf (g y) = R.idxOf y
  | [], _, hy, _ => by simp at hy
  | a :: R, y, hy, hinj => by
    simp only [List.map_cons, List.idxOf_cons]
    by_cases e : a = y
    · subst e; simp
    · have hy' : y ∈ R := by rcases List.mem_cons.1 hy with h | h; exact absurd h.symm e; exact h
      have : g a ≠ g y := fun e' => e (hinj a (by simp) y hy e')
      have b1 : (g a == g y) = false := by simpa using this
      have b2 : (a == y) = false := by simpa using e
      rw [b1, b2, idxOf_map_inj R y hy' (fun a ha b hb => hinj a (List.mem_cons_of_mem _ ha) b (List.mem_cons_of_mem _ hb))]

/-- **`permute_mapped_index_t<Index<R...>,Index<O...>>`** for distinct labels `R` and a rearrangement `O` of them:
    entry `n` is the position in `R` of the label `O[n]` — so `permute` by it puts the axis labelled `O[n]` at place `n` -/
theorem mappedIndex2_spec {R O : List Nat} (hn : R.Nodup) (hne : R ≠ []) (hO : O.Perm R) :
    mappedIndex2 R O = O.map (fun y => R.idxOf y) := by
  have hOn : O.Nodup := hO.nodup_iff.2 hn
  have hOne : O ≠ [] := by
    intro e; rw [e] at hO; exact hne (List.Perm.eq_nil hO.symm)
  have hcl : ∀ x, countLess O x = countLess R x := by
    intro x; rw [countLess_eq_countP, countLess_eq_countP, hO.countP_eq]
  unfold mappedIndex2
  simp only [floorMap_argsort_ranks hn hne, floorMap_argsort_ranks hOn hOne]
  unfold findPermutation
  rw [List.length_map]
  apply ext_getD (by simp)
  intro k hk
  simp only [List.length_map, List.length_range] at hk
  have hkO : k < O.length := hk
  have hgk : (List.range O.length).getD k 0 = k := by
    simp [List.getD_eq_getElem?_getD, List.getElem?_range hk]
  have e1 : (List.map (countLess O) O).getD k 0 = countLess O (O.getD k 0) := getD_map_lt _ O k hkO
  have e2 : (O.map fun y => R.idxOf y).getD k 0 = R.idxOf (O.getD k 0) := getD_map_lt _ O k hkO
  rw [getD_map_lt _ _ k (by simpa using hk), hgk, e1, e2, hcl]
  have hmem : O.getD k 0 ∈ R := by
    rw [getD_eq_getElem' O k hkO]; exact (hO.mem_iff).1 (List.getElem_mem _)
  exact idxOf_map_inj R _ hmem (fun a ha b hb e => (rank_ordIso R).inj ha hb e)

theorem map_idxOf_self {R : List Nat} (hn : R.Nodup) : R.map (fun y => R.idxOf y) = List.range R.length := by
  apply ext_getD (by simp)
  intro k hk
  rw [List.length_map] at hk
  rw [getD_map_lt _ R k hk, getD_eq_getElem' R k hk, hn.idxOf_getElem k hk]
  simp [List.getD_eq_getElem?_getD, List.getElem?_range hk]

/-- `mappedIndex2 R O` is a permutation of `0..n-1`, so `permute_correct` applies to the `permute<mapped_index>` that ends the
    explicit-output einsum -/
theorem mappedIndex2_perm {R O : List Nat} (hn : R.Nodup) (hne : R ≠ []) (hO : O.Perm R) :
    (mappedIndex2 R O).Perm (List.range R.length) := by
  rw [mappedIndex2_spec hn hne hO, ← map_idxOf_self hn]
  exact hO.map _

end Fastor.Permute
