import FastorModel.Proofs.InversePiv
/- forward / backward substitution and `get_lu_inverse` -/
namespace Fastor.Inv
open Matrix
variable {K : Type} [Field K]

theorem inner_eq_sum (n : Nat) (a b : Nat → K) : inner n a b = ∑ k ∈ Finset.range n, a k * b k := by
  unfold inner; exact foldl_add_eq_sum (fun k => a k * b k) n

/-- an array filled by successive `push`es has `t` entries after `t` steps and keeps them afterwards -/
theorem push_seq {α : Type} (d : α) (f : Nat → Array α) (h0 : f 0 = #[]) (hs : ∀ t, ∃ x, f (t + 1) = (f t).push x) :
    (∀ t, (f t).size = t) ∧ ∀ {k t T : Nat}, k < t → t ≤ T → (f T).getD k d = (f t).getD k d := by
  have hsz : ∀ t, (f t).size = t := by
    intro t
    induction t with
    | zero => rw [h0]; rfl
    | succ t ih => obtain ⟨x, hx⟩ := hs t; rw [hx, Array.size_push, ih]
  refine ⟨hsz, fun {k t T} hk hT => ?_⟩
  induction T, hT using Nat.le_induction with
  | base => rfl
  | succ T hT ih =>
    obtain ⟨x, hx⟩ := hs T
    rw [← ih, hx, Array.getD_eq_getD_getElem?, Array.getD_eq_getD_getElem?, Array.getElem?_push, hsz,
      if_neg (by omega)]

theorem fwdArr_size (L : Mat K) (rhs : Nat → K) (t : Nat) : (fwdArr L rhs t).size = t :=
  (push_seq 0 (fwdArr L rhs) rfl fun _ => ⟨_, rfl⟩).1 t

theorem fwdArr_stable (L : Mat K) (rhs : Nat → K) {k t T : Nat} (hk : k < t) (hT : t ≤ T) :
    (fwdArr L rhs T).getD k 0 = (fwdArr L rhs t).getD k 0 :=
  (push_seq 0 (fwdArr L rhs) rfl fun _ => ⟨_, rfl⟩).2 hk hT

theorem fwdArr_last (L : Mat K) (rhs : Nat → K) (t : Nat) :
    (fwdArr L rhs (t + 1)).getD t 0
      = rhs t - ∑ k ∈ Finset.range t, L t k * (fwdArr L rhs t).getD k 0 := by
  have hs := fwdArr_size L rhs t
  simp only [fwdArr, Array.getD_eq_getD_getElem?, Array.getElem?_push, hs, if_true, Option.getD_some, inner_eq_sum]

/-- `y(i) = rhs(i) - Σ_{k<i} L(i,k) y(k)` for the finished column -/
theorem fwdArr_spec (L : Mat K) (rhs : Nat → K) (M i : Nat) (hi : i < M) :
    (fwdArr L rhs M).getD i 0
      = rhs i - ∑ k ∈ Finset.range i, L i k * (fwdArr L rhs M).getD k 0 := by
  rw [fwdArr_stable L rhs (Nat.lt_succ_self i) hi, fwdArr_last]
  congr 1
  apply Finset.sum_congr rfl
  intro k hk
  rw [fwdArr_stable L rhs (Finset.mem_range.mp hk) (Nat.le_of_lt hi)]


theorem bwdArr_size (M : Nat) (U : Mat K) (y : Nat → K) (t : Nat) : (bwdArr M U y t).size = t :=
  (push_seq 0 (bwdArr M U y) rfl fun _ => ⟨_, rfl⟩).1 t

theorem bwdArr_stable (M : Nat) (U : Mat K) (y : Nat → K) {k t T : Nat} (hk : k < t) (hT : t ≤ T) :
    (bwdArr M U y T).getD k 0 = (bwdArr M U y t).getD k 0 :=
  (push_seq 0 (bwdArr M U y) rfl fun _ => ⟨_, rfl⟩).2 hk hT

theorem bwdArr_last (M : Nat) (U : Mat K) (y : Nat → K) (t : Nat) :
    (bwdArr M U y (t + 1)).getD t 0
      = (y (M - 1 - t) - ∑ k ∈ Finset.range (M - (M - 1 - t)),
            U (M - 1 - t) (M - 1 - t + k) *
              (if M - 1 - t < M - 1 - t + k ∧ M - 1 - t + k < M
               then (bwdArr M U y t).getD (M - 1 - (M - 1 - t + k)) 0 else 0)) / U (M - 1 - t) (M - 1 - t) := by
  have hs := bwdArr_size M U y t
  simp only [bwdArr, Array.getD_eq_getD_getElem?, Array.getElem?_push, hs, if_true, Option.getD_some, inner_eq_sum]

/-- the finished column, in row indices: `x(i) = (y(i) - Σ_{i<k<M} U(i,k) x(k)) / U(i,i)` with `x(i) = xs[M-1-i]` -/
theorem bwdArr_spec (M : Nat) (U : Mat K) (y : Nat → K) (i : Nat) (hi : i < M) :
    (bwdArr M U y M).getD (M - 1 - i) 0
      = (y i - ∑ k ∈ Finset.range (M - i), U i (i + k) *
            (if 0 < k then (bwdArr M U y M).getD (M - 1 - (i + k)) 0 else 0)) / U i i := by
  rw [bwdArr_stable M U y (Nat.lt_succ_self (M - 1 - i)) (by omega), bwdArr_last]
  have ei : M - 1 - (M - 1 - i) = i := by omega
  rw [ei]
  congr 2
  apply Finset.sum_congr rfl
  intro k hk
  have hk' := Finset.mem_range.mp hk
  congr 1
  by_cases hk0 : 0 < k
  · rw [if_pos hk0, if_pos ⟨by omega, by omega⟩]
    exact (bwdArr_stable M U y (by omega) (by omega)).symm
  · have : k = 0 := by omega
    subst this
    rw [if_neg hk0, if_neg (by omega)]


/-- what `forward_subs` reads of `L`: the strict lower triangle, with an implicit unit diagonal -/
def unitLowerPart (L : Mat K) : Mat K := { get := fun i j => if j < i then L i j else if i = j then 1 else 0 }
/-- the permutation matrix of the pivot vector: row `i` has its one in column `p i` -/
def permMat (p : Vec Nat) : Mat K := { get := fun i j => if p i = j then 1 else 0 }

/-- column `j` of `Y = forward_subs(L,p,I)` -/
def fwdCol (M : Nat) (L : Mat K) (p : Vec Nat) (j : Nat) : Nat → K :=
  fun i => (fwdArr L (fun r => if p r = j then 1 else 0) M).getD i 0

theorem getLuInverse_entry (M : Nat) (L U : Mat K) (p : Vec Nat) (i j : Nat) (hj : j < M) :
    (getLuInverse M L U p) i j = (bwdArr M U (fwdCol M L p j) M).getD (M - 1 - i) 0 := by
  show (Array.getD _ j #[]).getD (M - 1 - i) 0 = _
  unfold fwdCol
  simp only [Array.getD_eq_getD_getElem?, Array.getElem?_ofFn, hj, dif_pos, Option.getD_some]

theorem lower_mul_fwd (M : Nat) (L : Mat K) (p : Vec Nat) (i j : Nat) (hi : i < M) :
    ∑ k ∈ Finset.range M, (unitLowerPart L) i k * fwdCol M L p j k = (permMat p : Mat K) i j := by
  have hsub : Finset.range (i + 1) ⊆ Finset.range M := Finset.range_subset_range.mpr (by omega)
  rw [← Finset.sum_subset hsub]
  · rw [Finset.sum_range_succ]
    have e1 : ∑ k ∈ Finset.range i, (unitLowerPart L) i k * fwdCol M L p j k
        = ∑ k ∈ Finset.range i, L i k * fwdCol M L p j k := by
      apply Finset.sum_congr rfl
      intro k hk
      have := Finset.mem_range.mp hk
      show (if k < i then L i k else if i = k then 1 else 0) * _ = _
      rw [if_pos this]
    have e2 : (unitLowerPart L) i i = 1 := by
      show (if i < i then L i i else if i = i then (1 : K) else 0) = 1
      simp
    rw [e1, e2, one_mul]
    have := fwdArr_spec L (fun r => if p r = j then (1 : K) else 0) M i hi
    show _ + (fwdArr L _ M).getD i 0 = _
    rw [this]
    show _ + ((if p i = j then (1 : K) else 0) - _) = (if p i = j then (1 : K) else 0)
    unfold fwdCol
    ring
  · intro k hk hk2
    have h1 := Finset.mem_range.mp hk
    have h2 : ¬ k < i + 1 := fun h => hk2 (Finset.mem_range.mpr h)
    show (if k < i then L i k else if i = k then 1 else 0) * _ = 0
    rw [if_neg (by omega), if_neg (by omega), zero_mul]

theorem upper_mul_bwd (M : Nat) (U : Mat K) (y : Nat → K) (i : Nat) (hi : i < M) (hU : U i i ≠ 0) :
    ∑ k ∈ Finset.range M, (triu U) i k * (bwdArr M U y M).getD (M - 1 - k) 0 = y i := by
  have hspec := bwdArr_spec M U y i hi
  have hsplit : ∑ k ∈ Finset.range M, (triu U) i k * (bwdArr M U y M).getD (M - 1 - k) 0
      = ∑ k ∈ Finset.range (M - i), U i (i + k) * (bwdArr M U y M).getD (M - 1 - (i + k)) 0 := by
    have : Finset.range M = Finset.range (i + (M - i)) := by congr 1; omega
    rw [this, Finset.sum_range_add]
    have z : ∑ k ∈ Finset.range i, (triu U) i k * (bwdArr M U y M).getD (M - 1 - k) 0 = 0 := by
      apply Finset.sum_eq_zero
      intro k hk
      have := Finset.mem_range.mp hk
      show (if i ≤ k then U i k else 0) * _ = 0
      rw [if_neg (by omega), zero_mul]
    rw [z, zero_add]
    apply Finset.sum_congr rfl
    intro k _
    show (if i ≤ i + k then U i (i + k) else 0) * _ = _
    rw [if_pos (by omega)]
  rw [hsplit]
  have hpeel : ∑ k ∈ Finset.range (M - i), U i (i + k) * (bwdArr M U y M).getD (M - 1 - (i + k)) 0
      = ∑ k ∈ Finset.range (M - i), U i (i + k) * (if 0 < k then (bwdArr M U y M).getD (M - 1 - (i + k)) 0 else 0)
        + U i i * (bwdArr M U y M).getD (M - 1 - i) 0 := by
    have hM : M - i = (M - i - 1) + 1 := by omega
    rw [hM, Finset.sum_range_succ', Finset.sum_range_succ']
    simp only [Nat.add_zero, Nat.lt_irrefl, if_false, mul_zero, add_zero]
    congr 1
  rw [hpeel, hspec]
  field_simp
  ring


theorem toMat_applyPivot (M : Nat) (A : Mat K) (p : Vec Nat) (hp : IsPermOn M p.get) :
    toMat M M (applyPivot A p) = toMat M M (permMat p) * toMat M M A := by
  ext i j
  rw [Matrix.mul_apply]
  show (applyPivot A p) i.val j.val = ∑ k : Fin M, (if p i.val = k.val then (1 : K) else 0) * A k.val j.val
  have hpi := hp.1 i.val i.isLt
  rw [applyPivot_apply, Finset.sum_eq_single (⟨p i.val, hpi⟩ : Fin M)]
  · simp only [if_true, one_mul]
  · intro b _ hb
    have : ¬ p i.val = b.val := fun h => hb (Fin.ext h.symm)
    rw [if_neg this, zero_mul]
  · intro h; exact absurd (Finset.mem_univ _) h

theorem permMat_mul_transpose (M : Nat) (p : Vec Nat) (hp : IsPermOn M p.get) :
    toMat M M (permMat p : Mat K) * (toMat M M (permMat p : Mat K))ᵀ = 1 := by
  ext i k
  rw [Matrix.mul_apply, Matrix.one_apply]
  show ∑ a : Fin M, (if p i.val = a.val then (1 : K) else 0) * (if p k.val = a.val then (1 : K) else 0) = _
  have hpi := hp.1 i.val i.isLt
  rw [Finset.sum_eq_single (⟨p i.val, hpi⟩ : Fin M)]
  · simp only [if_true, one_mul]
    by_cases hik : i = k
    · subst hik; simp
    · have : ¬ p k.val = p i.val := fun h => hik (Fin.ext (hp.2 i.val i.isLt k.val k.isLt h.symm))
      rw [if_neg this, if_neg hik]
  · intro b _ hb
    have : ¬ p i.val = b.val := fun h => hb (Fin.ext h.symm)
    rw [if_neg this, zero_mul]
  · intro h; exact absurd (Finset.mem_univ _) h

/-- **`get_lu_inverse` is correct relative to the LU postcondition**: if the strict lower triangle of `L` (with a
    unit diagonal) times the upper triangle of `U` is the row-permuted matrix `apply_pivot(A,p)`, `p` is a permutation
    and the diagonal of `U` has no zero, then `X = backward_subs(U, forward_subs(L,p,I))` is the two-sided inverse
    of `A`.  Only the parts of `L`, `U` the substitutions read enter the hypothesis. -/
theorem getLuInverse_correct (M : Nat) (A L U : Mat K) (p : Vec Nat) (hp : IsPermOn M p.get)
    (hU : ∀ i < M, U i i ≠ 0)
    (hLU : toMat M M (unitLowerPart L) * toMat M M (triu U) = toMat M M (applyPivot A p)) :
    toMat M M (getLuInverse M L U p) * toMat M M A = 1 ∧ toMat M M A * toMat M M (getLuInverse M L U p) = 1 := by
  let Y : Mat K := { get := fun i j => fwdCol M L p j i }
  have hLY : toMat M M (unitLowerPart L) * toMat M M Y = toMat M M (permMat p : Mat K) := by
    ext i j
    rw [Matrix.mul_apply]
    show ∑ k : Fin M, (unitLowerPart L) i.val k.val * fwdCol M L p j.val k.val = _
    rw [Fin.sum_univ_eq_sum_range (fun k => (unitLowerPart L) i.val k * fwdCol M L p j.val k) M]
    exact lower_mul_fwd M L p i.val j.val i.isLt
  have hUX : toMat M M (triu U) * toMat M M (getLuInverse M L U p) = toMat M M Y := by
    ext i j
    rw [Matrix.mul_apply]
    show ∑ k : Fin M, (triu U) i.val k.val * (getLuInverse M L U p) k.val j.val = fwdCol M L p j.val i.val
    have e : ∀ k : Fin M, (triu U) i.val k.val * (getLuInverse M L U p) k.val j.val
        = (triu U) i.val k.val * (bwdArr M U (fwdCol M L p j.val) M).getD (M - 1 - k.val) 0 := by
      intro k; rw [getLuInverse_entry M L U p k.val j.val j.isLt]
    rw [Finset.sum_congr rfl (fun k _ => e k),
        Fin.sum_univ_eq_sum_range (fun k => (triu U) i.val k * (bwdArr M U (fwdCol M L p j.val) M).getD (M - 1 - k) 0) M]
    exact upper_mul_bwd M U (fwdCol M L p j.val) i.val i.isLt (hU i.val i.isLt)
  have hPA := toMat_applyPivot M A p hp
  have hPP := permMat_mul_transpose (K := K) M p hp
  have hPP' : (toMat M M (permMat p : Mat K))ᵀ * toMat M M (permMat p : Mat K) = 1 := mul_eq_one_comm.mp hPP
  have h1 : toMat M M (permMat p : Mat K) * (toMat M M A * toMat M M (getLuInverse M L U p))
      = toMat M M (permMat p : Mat K) := by
    rw [← Matrix.mul_assoc, ← hPA, ← hLU, Matrix.mul_assoc, hUX, hLY]
  have hAX : toMat M M A * toMat M M (getLuInverse M L U p) = 1 := by
    have := congrArg (fun Z => (toMat M M (permMat p : Mat K))ᵀ * Z) h1
    simp only [← Matrix.mul_assoc, hPP', Matrix.one_mul] at this
    exact this
  exact ⟨mul_eq_one_comm.mp hAX, hAX⟩

end Fastor.Inv
