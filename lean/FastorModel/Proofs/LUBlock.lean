import FastorModel.Proofs.LURec
import FastorModel.Proofs.LUUnrolled
/-
  `lu_block_dispatcher`: one block step for an arbitrary split point, and all sizes of the recursive and blocked classes by
  strong induction on the size.
-/
namespace Fastor.LU
open Finset

variable {K : Type} [Field K]

/-- what C10 provides: `tinverse<UniLower>` is a right inverse of a unit lower triangular matrix and `tinverse<Upper>` a left
inverse of an upper triangular matrix with non-zero diagonal (for triangular matrices over a field: THE inverse) -/
structure InvSpec (ops : InvOps K) : Prop where
  lower : ∀ (N : Nat) (L : Mat K), (∀ i, i < N → L.get i i = 1) → (∀ i j, i < N → j < N → i < j → L.get i j = 0) →
    ∀ i p, i < N → p < N → ∑ m ∈ range N, L.get i m * (ops.invLower N L).get m p = if i = p then 1 else 0
  upper : ∀ (N : Nat) (U : Mat K), (∀ i j, i < N → j < N → j < i → U.get i j = 0) → (∀ i, i < N → U.get i i ≠ 0) →
    ∀ p j, p < N → j < N → ∑ m ∈ range N, (ops.invUpper N U).get p m * U.get m j = if p = j then 1 else 0

theorem InvSpec.lower_cancel {ops : InvOps K} (hops : InvSpec ops) (N c : Nat) (L B : Mat K)
    (hd : ∀ i, i < N → L.get i i = 1) (hz : ∀ i j, i < N → j < N → i < j → L.get i j = 0) (i j : Nat) (hi : i < N) (hj : j < c) :
    ∑ m ∈ range N, L.get i m * (Mat.mul N N c (ops.invLower N L) B).get m j = B.get i j := by
  rw [sum_range_congr fun m hm => by rw [get_mul _ _ _ _ _ _ _ hm hj], sum_assoc_left,
    sum_delta_mul hi _ _ fun p hp => hops.lower N L hd hz i p hi hp]

theorem InvSpec.upper_cancel {ops : InvOps K} (hops : InvSpec ops) (r N : Nat) (U B : Mat K)
    (hz : ∀ i j, i < N → j < N → j < i → U.get i j = 0) (hd : ∀ i, i < N → U.get i i ≠ 0) (i j : Nat) (hi : i < r) (hj : j < N) :
    ∑ m ∈ range N, (Mat.mul r N N B (ops.invUpper N U)).get i m * U.get m j = B.get i j := by
  rw [sum_range_congr fun m hm => by rw [get_mul _ _ _ _ _ _ _ hi hm], sum_assoc_right,
    sum_mul_delta hj _ _ fun p hp => hops.upper N U hz hd p j hp hj]

theorem get_assemble_lower (n N : Nat) (X X11 X12 X21 X22 : Mat K) (i j : Nat) (hi : i < n) (hj : j < n) :
    (assemble n N X X11 X12 X21 X22 false).get i j =
      if i < N then (if j < N then X11.get i j else X.get i j)
      else (if j < N then X21.get (i - N) j else X22.get (i - N) (j - N)) := by
  rw [assemble, Mat.get_ofFn, if_pos ⟨hi, hj⟩]
  rfl

theorem get_assemble_upper (n N : Nat) (X X11 X12 X21 X22 : Mat K) (i j : Nat) (hi : i < n) (hj : j < n) :
    (assemble n N X X11 X12 X21 X22 true).get i j =
      if i < N then (if j < N then X11.get i j else X12.get i (j - N))
      else (if j < N then X.get i j else X22.get (i - N) (j - N)) := by
  rw [assemble, Mat.get_ofFn, if_pos ⟨hi, hj⟩]
  rfl

/-- ONE BLOCK STEP, for every split point `N ≤ n`:
`[A11 A12; A21 A22] = [L11 0; L21 L22] [U11 U12; 0 U22]` whenever `L11 U11 = A11`, `L11 U12 = A12`, `L21 U11 = A21` and
`L22 U22 = A22 - L21 U12`; the zero blocks are whatever the destination held (`L0`, `U0`): the dispatcher does not write them. -/
theorem block_step (n N : Nat) (hN : N ≤ n) (A L0 U0 L11 U11 U12 L21 L22 U22 X Y : Mat K)
    (h11 : IsLU N (A.block 0 0 N N) L11 U11)
    (hU12 : ∀ i j, i < N → j < n - N → ∑ m ∈ range N, L11.get i m * U12.get m j = (A.block 0 N N (n - N)).get i j)
    (hL21 : ∀ i j, i < n - N → j < N → ∑ m ∈ range N, L21.get i m * U11.get m j = (A.block N 0 (n - N) N).get i j)
    (hL0 : ∀ i j, i < n → j < n → i < j → L0.get i j = 0) (hU0 : ∀ i j, i < n → j < n → j < i → U0.get i j = 0)
    (h22 : IsLU (n - N) (Mat.sub (n - N) (n - N) (A.block N N (n - N) (n - N)) (Mat.mul (n - N) N (n - N) L21 U12)) L22 U22) :
    IsLU n A (assemble n N L0 L11 X L21 L22 false) (assemble n N U0 U11 U12 Y U22 true) := by
  have gl := get_assemble_lower n N L0 L11 X L21 L22
  have gu := get_assemble_upper n N U0 U11 U12 Y U22
  generalize assemble n N L0 L11 X L21 L22 false = L at gl ⊢
  generalize assemble n N U0 U11 U12 Y U22 true = U at gu ⊢
  refine ⟨?_, ?_, ?_, ?_⟩
  · intro i hi
    rw [gl i i hi hi]
    by_cases h : i < N
    · rw [if_pos h, if_pos h]; exact h11.diag i h
    · rw [if_neg h, if_neg h]; exact h22.diag (i - N) (by omega)
  · intro i j hi hj hij
    rw [gl i j hi hj]
    by_cases h : i < N
    · by_cases h' : j < N
      · rw [if_pos h, if_pos h']; exact h11.lzero i j h h' hij
      · rw [if_pos h, if_neg h']; exact hL0 i j hi hj hij
    · rw [if_neg h, if_neg (by omega)]; exact h22.lzero (i - N) (j - N) (by omega) (by omega) (by omega)
  · intro i j hi hj hji
    rw [gu i j hi hj]
    by_cases h : i < N
    · rw [if_pos h, if_pos (by omega)]; exact h11.uzero i j h (by omega) hji
    · by_cases h' : j < N
      · rw [if_neg h, if_pos h']; exact hU0 i j hi hj hji
      · rw [if_neg h, if_neg h']; exact h22.uzero (i - N) (j - N) (by omega) (by omega) (by omega)
  · intro i j hi hj
    rw [sum_split n N hN]
    by_cases h : i < N
    · -- right of column `N`, row `i` of `L` is the block the dispatcher does not write
      have z : ∑ m ∈ range (n - N), L.get i (N + m) * U.get (N + m) j = 0 := sum_eq_zero fun m hm => by
        have := mem_range.1 hm
        rw [gl i (N + m) hi (by omega), if_pos h, if_neg (by omega), hL0 i (N + m) hi (by omega) (by omega), zero_mul]
      rw [z, add_zero]
      by_cases h' : j < N
      · rw [sum_range_congr fun m hm => by
            rw [gl i m hi (by omega), gu m j (by omega) hj, if_pos h, if_pos hm, if_pos hm, if_pos h'],
          h11.mul i j h h', get_block _ _ _ _ _ _ _ h h', Nat.zero_add, Nat.zero_add]
      · rw [sum_range_congr fun m hm => by
            rw [gl i m hi (by omega), gu m j (by omega) hj, if_pos h, if_pos hm, if_pos hm, if_neg h'],
          hU12 i (j - N) h (by omega), get_block _ _ _ _ _ _ _ h (by omega), Nat.zero_add, Nat.add_sub_cancel' (by omega)]
    · by_cases h' : j < N
      · have z : ∑ m ∈ range (n - N), L.get i (N + m) * U.get (N + m) j = 0 := sum_eq_zero fun m hm => by
          have := mem_range.1 hm
          rw [gu (N + m) j (by omega) hj, if_neg (by omega), if_pos h', hU0 (N + m) j (by omega) hj (by omega), mul_zero]
        rw [z, add_zero, sum_range_congr fun m hm => by
            rw [gl i m hi (by omega), gu m j (by omega) hj, if_neg h, if_pos hm, if_pos hm, if_pos h'],
          hL21 (i - N) j (by omega) h', get_block _ _ _ _ _ _ _ (by omega) h', Nat.zero_add, Nat.add_sub_cancel' (by omega)]
      · rw [sum_range_congr fun m hm => by
            rw [gl i m hi (by omega), gu m j (by omega) hj, if_neg h, if_pos hm, if_pos hm, if_neg h'],
          sum_range_congr (m := n - N) fun m hm => by
            rw [gl i (N + m) hi (by omega), gu (N + m) j (by omega) hj, if_neg h, if_neg (by omega), if_neg (by omega),
              if_neg h', Nat.add_sub_cancel_left],
          h22.mul (i - N) (j - N) (by omega) (by omega), get_sub _ _ _ _ _ _ (by omega) (by omega),
          get_block _ _ _ _ _ _ _ (by omega) (by omega), get_mul _ _ _ _ _ _ _ (by omega) (by omega),
          Nat.add_sub_cancel' (by omega), Nat.add_sub_cancel' (by omega)]
        ring

/-- both blocks of a blocked size have at least 16 rows and fewer than `n`: the recursion is well founded and its
sub-factorisations never reach the unrolled kernels -/
theorem blockSplit_bounds' (n : Nat) (h : 32 < n) : 16 ≤ blockSplit n ∧ blockSplit n < n ∧ blockSplit n ≤ n - blockSplit n := by
  unfold blockSplit
  split <;> omega

/-- "the strategy is defined on A": every pivot the block strategy divides by (inside the recursive kernels, and the diagonal
of `U11` inverted by `tinverse`) is non-zero.  Same recursion as `luBlock`. -/
def BlockDefined (ops : InvOps K) (n : Nat) (A : Mat K) : Prop :=
  if h8 : n ≤ 8 then UnrolledDefined n A
  else if h32 : n ≤ 32 then RecDefined n A
  else
    let N := blockSplit n
    let A11 := A.block 0 0 N N
    let A12 := A.block 0 N N (n - N)
    let A21 := A.block N 0 (n - N) N
    let A22 := A.block N N (n - N) (n - N)
    let f11 := if N ≤ 64 then luBlock ops N A11 (Mat.zero N N) (Mat.zero N N)
               else luRecursive N A11 (Mat.zero N N) (Mat.zero N N)
    let U12 := Mat.mul N N (n - N) (ops.invLower N f11.1) A12
    let L21 := Mat.mul (n - N) N N A21 (ops.invUpper N f11.2)
    let S := Mat.sub (n - N) (n - N) A22 (Mat.mul (n - N) N (n - N) L21 U12)
    (if N ≤ 64 then BlockDefined ops N A11 else RecDefined N A11) ∧ (∀ i, i < N → f11.2.get i i ≠ 0) ∧
    (if n - N ≤ 64 then BlockDefined ops (n - N) S else RecDefined (n - N) S)
termination_by n
decreasing_by
  all_goals simp only [blockSplit]
  all_goals split <;> omega

/-- `lu_block_dispatcher` for EVERY size: the unrolled (1..8), recursive (9..32) and blocked (33..64, > 64) classes -/
theorem luBlock_isLU (ops : InvOps K) (hops : InvSpec ops) :
    ∀ n, ∀ (A L0 U0 : Mat K),
      (∀ i j, i < n → j < n → i < j → L0.get i j = 0) → (∀ i j, i < n → j < n → j < i → U0.get i j = 0) →
      BlockDefined ops n A → IsLU n A (luBlock ops n A L0 U0).1 (luBlock ops n A L0 U0).2 := by
  intro n
  induction n using Nat.strong_induction_on with
  | _ n ih =>
    intro A L0 U0 hL0 hU0 hdef
    by_cases h8 : n ≤ 8
    · rw [luBlock, dif_pos h8]
      rw [BlockDefined, dif_pos h8] at hdef
      exact lufactUnrolled_isLU n A hdef
    by_cases h32 : n ≤ 32
    · rw [luBlock, dif_neg h8, dif_pos h32]
      rw [BlockDefined, dif_neg h8, dif_pos h32] at hdef
      exact luRecursive_isLU n (by omega) A L0 U0 hdef
    · obtain ⟨b1, b2, b3⟩ := blockSplit_bounds' n (by omega)
      rw [BlockDefined, dif_neg h8, dif_neg h32] at hdef
      rw [luBlock, dif_neg h8, dif_neg h32]
      obtain ⟨d11, dd, d22⟩ := hdef
      -- the sub-dispatch of the blocked classes: `lu_block_dispatcher` up to 64, `recursive_lu_dispatcher` above, on zero-filled factors
      have sub : ∀ m, 16 ≤ m → m < n → ∀ B : Mat K, (if m ≤ 64 then BlockDefined ops m B else RecDefined m B) →
          IsLU m B (if m ≤ 64 then luBlock ops m B (Mat.zero m m) (Mat.zero m m) else luRecursive m B (Mat.zero m m) (Mat.zero m m)).1
                   (if m ≤ 64 then luBlock ops m B (Mat.zero m m) (Mat.zero m m) else luRecursive m B (Mat.zero m m) (Mat.zero m m)).2 := by
        intro m hm1 hm2 B hB
        by_cases h64 : m ≤ 64
        · rw [if_pos h64] at hB ⊢
          exact ih m hm2 B _ _ (fun i j _ _ _ => get_zero m m i j) (fun i j _ _ _ => get_zero m m i j) hB
        · rw [if_neg h64] at hB ⊢
          exact luRecursive_isLU m (by omega) B _ _ hB
      have h11 := sub (blockSplit n) b1 b2 _ d11
      exact block_step n (blockSplit n) (by omega) A L0 U0 _ _ _ _ _ _ _ _ h11
        (hops.lower_cancel _ _ _ _ h11.diag h11.lzero) (hops.upper_cancel _ _ _ _ h11.uzero dd) hL0 hU0
        (sub (n - blockSplit n) (by omega) (by omega) _ d22)

end Fastor.LU
