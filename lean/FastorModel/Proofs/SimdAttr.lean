import Lean
/-! simp sets of the SIMD proofs: `lane` (Proofs/SimdLanes.lean; never unfolds `of64`, `lane64`) and `intr_map` (the
    naturality lemmas of Proofs/Intrinsics.lean). -/
register_simp_attr lane
register_simp_attr intr_map
