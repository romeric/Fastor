import FastorModel.Model.MapAliasWide
import FastorModel.Proofs.MapAlias
import FastorModel.Props.C05
/-
  The generic n-D view class (what a map of any rank gets) and the specialised 1-D / 2-D classes (what an owning
  tensor of rank 1 / 2 gets) perform the same stores: their lanes are the same list, hence `exec` agrees.
-/
namespace Fastor.MapAlias
open Fastor Fastor.ViewWrite

/-- rank 1: `linIters` (class dyn1) and `odoIters` (class dynN) have the same lanes -/
theorem lanes_rank1 (ex : Nat) (hex : ex ≤ 64) (d : Nat) (a : Ax) (hn : a.ext < 2 ^ 64) (hpos : 0 < a.ext)
    (cstep : Nat) (hcs : cstep = 2 ^ ex ∨ cstep = 1) :
    lanesOf (odoIters (2 ^ ex) [d] [a] false cstep) = lanesOf (linIters (2 ^ ex) false a) := by
  have hV : 0 < 2 ^ ex := Nat.pow_pos (by omega)
  rw [odo_lanes (2 ^ ex) hV [d] [a] (by simp) (by simp) (by simpa using hpos) cstep hcs]
  unfold linIters
  rw [seg_lanes ex hex false .rmw 0 0 a hn, incs_one]
  simp [box_one, posOf, flat, List.map_map, Function.comp_def]

/-- rank 2: `rowIters` (class dyn2) and `odoIters` (class dynN) have the same lanes -/
theorem lanes_rank2 (ex : Nat) (hex : ex ≤ 64) (M N : Nat) (a0 a1 : Ax) (hn : a1.ext < 2 ^ 64) (hp0 : 0 < a0.ext)
    (hp1 : 0 < a1.ext) (cstep : Nat) (hcs : cstep = 2 ^ ex ∨ cstep = 1) :
    lanesOf (odoIters (2 ^ ex) [M, N] [a0, a1] false cstep) = lanesOf (rowIters (2 ^ ex) false N a0 a1) := by
  have hV : 0 < 2 ^ ex := Nat.pow_pos (by omega)
  rw [odo_lanes (2 ^ ex) hV [M, N] [a0, a1] (by simp) (by simp) (by simp [hp0, hp1]) cstep hcs]
  rw [C05.row_lanes ex hex false N a0 a1 hn, incs_one]
  simp only [List.map_cons, List.map_nil, box, forRange_zero_one, List.map_flatMap]
  congr 1
  funext i
  simp [posOf, flat, flatMap_single, Nat.mul_comm]

variable {α : Type} [Add α] [Sub α] [Mul α] [Div α]

/-- programs with the same lanes at pairwise distinct positions leave the same memory -/
theorem exec_eq_of_lanes (op : WOp) (r : Nat → α) (its1 its2 : List Iter) (m : Nat → α)
    (hl : lanesOf its1 = lanesOf its2) (hnd : ((lanesOf its2).map (·.1)).Nodup) :
    exec op (fun _ => r) its1 m = exec op (fun _ => r) its2 m := by
  rw [C05.exec_eq_spec op r its1 m (by rw [hl]; exact hnd), C05.exec_eq_spec op r its2 m hnd, hl]

end Fastor.MapAlias
