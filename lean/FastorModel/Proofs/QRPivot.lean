import FastorModel.Proofs.QRLoops
/-
  C13 — the pivoting helpers of unary_piv_op.h: `pivot_inplace` yields a permutation of `0..M-1`,
  `apply_pivot` moves row `P(i)` to row `i`, `reconstruct` undoes it, the 0/1 matrix form of the permutation is
  read back correctly by `std::find`.
-/
namespace Fastor.QR

section perm
variable {α : Type}

/-- `p` permutes `0..M-1` and fixes everything else -/
structure IsPermBelow (M : Nat) (p : Nat → Nat) : Prop where
  lt : ∀ x, x < M → p x < M
  fix : ∀ x, M ≤ x → p x = x
  inj : ∀ x y, p x = p y → x = y
  surj : ∀ y, y < M → ∃ x, x < M ∧ p x = y

/-- the transposition of `a` and `b` -/
def transp (a b x : Nat) : Nat := if x = a then b else if x = b then a else x

theorem swapAt_eq (p : Nat → Nat) (a b x : Nat) : swapAt p a b x = p (transp a b x) := by
  unfold swapAt transp; split_ifs <;> rfl

theorem transp_invol (a b x : Nat) : transp a b (transp a b x) = x := by
  unfold transp; split_ifs <;> omega

theorem transp_lt {a b x M : Nat} (ha : a < M) (hb : b < M) (hx : x < M) : transp a b x < M := by
  unfold transp; split_ifs <;> omega

theorem transp_fix {a b x M : Nat} (ha : a < M) (hb : b < M) (hx : M ≤ x) : transp a b x = x := by
  unfold transp; split_ifs <;> omega

theorem IsPermBelow.swapAt {M : Nat} {p : Nat → Nat} (hp : IsPermBelow M p) {a b : Nat} (ha : a < M) (hb : b < M) :
    IsPermBelow M (swapAt p a b) where
  lt := by intro x hx; rw [swapAt_eq]; exact hp.lt _ (transp_lt ha hb hx)
  fix := by intro x hx; rw [swapAt_eq, transp_fix ha hb hx]; exact hp.fix x hx
  inj := by
    intro x y h
    rw [swapAt_eq, swapAt_eq] at h
    have := congrArg (transp a b) (hp.inj _ _ h)
    rwa [transp_invol, transp_invol] at this
  surj := by
    intro y hy
    obtain ⟨x, hx, hxy⟩ := hp.surj y hy
    exact ⟨transp a b x, transp_lt ha hb hx, by rw [swapAt_eq, transp_invol, hxy]⟩

theorem isPermBelow_id (M : Nat) : IsPermBelow M (fun x => x) :=
  ⟨fun _ h => h, fun _ _ => rfl, fun _ _ h => h, fun y hy => ⟨y, hy, rfl⟩⟩

/-- the arg-max search of column `j` returns a row in `j..M-1` -/
theorem argMax_bounds (gt : α → α → Bool) (abs : α → α) (M : Nat) (A : Mat α) (j : Nat) (hj : j < M) :
    j ≤ argMax gt abs M A j ∧ argMax gt abs M A j < M := by
  unfold argMax
  refine loop_induction (Nat.le_of_lt hj) _ j (fun x mx => j ≤ mx ∧ mx < M ∧ (x ≤ M)) ⟨Nat.le_refl j, hj, Nat.le_of_lt hj⟩ ?_
    |> fun h => ⟨h.1, h.2.1⟩
  intro x mx h1 h2 ih
  split_ifs
  · exact ⟨h1, h2, h2⟩
  · exact ⟨ih.1, ih.2.1, h2⟩

/-- **`pivot_inplace` returns a permutation of `0..M-1`** — whatever the comparison does -/
theorem pivotPerm_isPerm (gt : α → α → Bool) (abs : α → α) (M : Nat) (A : Mat α) :
    IsPermBelow M (pivotPerm gt abs M A) := by
  unfold pivotPerm
  refine loop_induction (Nat.zero_le M) _ _ (fun _ p => IsPermBelow M p) (isPermBelow_id M) ?_
  intro x p _ hx ih
  have hb := argMax_bounds gt abs M A x hx
  simp only
  split_ifs
  · exact ih.swapAt hx hb.2
  · exact ih

/-- **`apply_pivot(A, P)`**: row `i < M` of the result is row `P(i)` of `A` -/
theorem applyPivot_get (M : Nat) (A : Mat α) (P : Nat → Nat) (a b : Nat) :
    (applyPivot M A P) a b = if a < M then A (P a) b else A a b := by
  unfold applyPivot
  rw [loop_rows M _ (fun i row b => if P i ≠ i then A (P i) b else row b) fun x Y a b => ?_]
  · by_cases hP : P a = a
    · rw [if_neg (not_not_intro hP), ite_self, hP, ite_self]
    · rw [if_pos hP]
  · by_cases hP : P x = x
    · rw [if_neg (not_not_intro hP), if_neg (not_not_intro hP), ite_self]
    · rw [if_pos hP, if_pos hP]

/-- **`reconstruct(B, P) = A`** on the rows `0..M-1` when row `i` of `B` is row `P(i)` of `A` and `P` is a permutation -/
theorem reconstruct_of_rows (M : Nat) (A B : Mat α) (P : Nat → Nat) (hP : IsPermBelow M P) (a b : Nat) (ha : a < M)
    (hB : ∀ i, i < M → B i b = A (P i) b) :
    (reconstruct M B P) a b = A a b := by
  obtain ⟨i, hi, rfl⟩ := hP.surj a ha
  rw [← hB i hi]
  unfold reconstruct loop
  rw [Nat.sub_zero, ← List.range_eq_range']
  exact scatter_get M P (fun r => B r b) (fun (C : Mat α) r => C r b)
    (fun C i => ⟨fun a b => if a = P i then B i b else C a b, C.stores + 1⟩) B hP.lt (fun x y _ _ h => hP.inj x y h)
    (fun _ _ => rfl) (fun _ _ _ _ _ => rfl) i hi

/-- **`reconstruct(apply_pivot(A,P), P) = A`** on the rows `0..M-1`, for a permutation `P` -/
theorem reconstruct_applyPivot (M : Nat) (A : Mat α) (P : Nat → Nat) (hP : IsPermBelow M P) (a b : Nat) (ha : a < M) :
    (reconstruct M (applyPivot M A P) P) a b = A a b :=
  reconstruct_of_rows M A _ P hP a b ha (fun i hi => by rw [applyPivot_get, if_pos hi])

end perm

section permmat
variable {K : Type} [Field K] [DecidableEq K]

omit [DecidableEq K] in
/-- `P.fill(0); for i < M: P(i, perm(i)) = 1` -/
theorem permMatrix_get (M : Nat) (p : Nat → Nat) (a b : Nat) :
    (permMatrix M p : Mat K) a b = if a < M ∧ b = p a then 1 else 0 := by
  unfold permMatrix
  rw [loop_rows M _ (fun i row b => if b = p i then 1 else row b) fun x Y a b => by rw [set2_get, ite_and]]
  exact (ite_and _ _ _ _).symm

/-- `std::find` of the first one in a row that holds exactly one one, at column `c0` -/
theorem findOne_unique (N : Nat) (P : Mat K) (i c0 : Nat) (hc0 : c0 < N)
    (h : ∀ c, c < N → (P i c = 1 ↔ c = c0)) : findOne N P i = c0 := by
  unfold findOne
  have := loop_induction (Nat.zero_le N) (fun c found => if found = N ∧ P i c = 1 then c else found) N
    (fun x found => x ≤ N ∧ found = if c0 < x then c0 else N) ⟨Nat.zero_le N, by simp⟩ ?_
  · rw [this.2, if_pos hc0]
  intro x found _ hx ih
  refine ⟨hx, ?_⟩
  rw [ih.2]
  rcases Nat.lt_trichotomy c0 x with hlt | heq | hgt
  · have h1 : (if c0 < x then c0 else N) = c0 := if_pos hlt
    rw [h1, if_neg (by rintro ⟨h2, _⟩; omega), if_pos (by omega)]
  · have h1 : (if c0 < x then c0 else N) = N := if_neg (by omega)
    rw [h1, if_pos ⟨rfl, (h x hx).2 heq.symm⟩, if_pos (by omega)]; exact heq.symm
  · have h1 : (if c0 < x then c0 else N) = N := if_neg (by omega)
    rw [h1, if_neg (by rintro ⟨_, h2⟩; have := (h x hx).1 h2; omega), if_neg (by omega)]

/-- reading the permutation back from its 0/1 matrix gives the permutation -/
theorem findOne_permMatrix (M : Nat) (p : Nat → Nat) (i : Nat) (hi : i < M) (hp : p i < M) :
    findOne M (permMatrix M p : Mat K) i = p i := by
  apply findOne_unique M _ i (p i) hp
  intro c _
  rw [permMatrix_get]
  constructor
  · intro h
    by_contra hne
    rw [if_neg (fun hh => hne hh.2)] at h
    exact zero_ne_one h
  · intro h; rw [if_pos ⟨hi, h⟩]

end permmat
end Fastor.QR
