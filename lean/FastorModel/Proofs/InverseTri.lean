import FastorModel.Proofs.InverseLeaf
/- triangular dispatchers `ut_inverse_dispatcher` / `lut_inverse_dispatcher`: left inverses for every size -/
namespace Fastor.Inv
open Matrix
variable {K : Type} [Field K]

def UpperTri (M : Nat) (A : Mat K) : Prop := ∀ i < M, ∀ j < M, j < i → A i j = 0
def UnitLower (M : Nat) (A : Mat K) : Prop :=
  (∀ i < M, ∀ j < M, i < j → A i j = 0) ∧ (∀ i < M, A i i = 1)

/-- every value `ut_inverse_dispatcher` divides by (`utDivs`: the determinants of the leaf blocks) is non-zero -/
def UtDefined (M : Nat) (A : Mat K) : Prop := ∀ x ∈ utDivs M A, x ≠ 0

theorem toMat_triu {n m : Nat} (X : Mat K) (h : ∀ i < n, ∀ j < m, j < i → X i j = 0) :
    toMat n m (triu X) = toMat n m X := by
  apply toMat_congr
  intro i hi j hj
  show (if i ≤ j then X i j else 0) = X i j
  split
  · rfl
  · exact (h i hi j hj (by omega)).symm

theorem toMat_tril {n m : Nat} (X : Mat K) (h : ∀ i < n, ∀ j < m, i < j → X i j = 0) :
    toMat n m (tril X) = toMat n m X := by
  apply toMat_congr
  intro i hi j hj
  show (if j ≤ i then X i j else 0) = X i j
  split
  · rfl
  · exact (h i hi j hj (by omega)).symm

theorem upperTri_blk {M a n : Nat} {A : Mat K} (h : UpperTri M A) (ha : a + n ≤ M) : UpperTri n (blk A a a) :=
  fun i hi j hj hji => h (a + i) (by omega) (a + j) (by omega) (by omega)

theorem upperTri_blk10 {N R : Nat} {A : Mat K} (h : UpperTri (N + R) A) : toMat R N (blk A N 0) = 0 := by
  ext i j
  exact h (N + i.val) (by omega) (0 + j.val) (by omega) (by omega)

theorem adj_lower_zero (n : Nat) (h4 : n ≤ 4) (s : Nat → K) (hz : ∀ k < n * n, k % n < k / n → s k = 0) :
    ∀ i < n, ∀ j < i, adj n s (i * n + j) = 0 := by
  intro i hi j hj
  interval_cases n <;> interval_cases i <;> interval_cases j <;>
    simp only [adj, minor2, Nat.reduceMul, Nat.reduceAdd] <;>
    simp only [hz, Nat.reduceMul, Nat.reduceMod, Nat.reduceDiv, Nat.reduceLT] <;>
    ring

theorem leaf_upper (n : Nat) (h4 : n ≤ 4) (A : Mat K) (hA : UpperTri n A) : UpperTri n (leafInv n A) := by
  intro i hi j hj hji
  have hz : ∀ k < n * n, k % n < k / n → flat n A k = 0 := fun k hk h =>
    hA (k / n) (flat_div_mod_lt hk).1 (k % n) (flat_div_mod_lt hk).2 h
  show leafFlat n (flat n A) (i * n + j) = 0
  rw [leafFlat_eq_adj n (by omega) h4 _ _ (pos_lt hi hj), adj_lower_zero n h4 _ hz i hi j hji, zero_mul]

theorem toMat_mmGU (n k m : Nat) (B U : Mat K) (hU : ∀ i < k, ∀ j < m, j < i → U i j = 0) :
    toMat n m (mmGU k B U) = toMat n k B * toMat k m U := by
  unfold mmGU; rw [toMat_matmul, toMat_triu U hU]
theorem toMat_mmUG (n k m : Nat) (U B : Mat K) (hU : ∀ i < n, ∀ j < k, j < i → U i j = 0) :
    toMat n m (mmUG k U B) = toMat n k U * toMat k m B := by
  unfold mmUG; rw [toMat_matmul, toMat_triu U hU]
theorem toMat_mmGL (n k m : Nat) (B L : Mat K) (hL : ∀ i < k, ∀ j < m, i < j → L i j = 0) :
    toMat n m (mmGL k B L) = toMat n k B * toMat k m L := by
  unfold mmGL; rw [toMat_matmul, toMat_tril L hL]
theorem toMat_mmLG (n k m : Nat) (L B : Mat K) (hL : ∀ i < n, ∀ j < k, i < j → L i j = 0) :
    toMat n m (mmLG k L B) = toMat n k L * toMat k m B := by
  unfold mmLG; rw [toMat_matmul, toMat_tril L hL]

theorem upperTri_assemble {N R : Nat} {aa ab bb : Mat K} (ha : UpperTri N aa) (hb : UpperTri R bb) :
    UpperTri (N + R) (assemble N aa ab { get := fun _ _ => 0 } bb) := by
  intro i hi j hj hji
  show (if i < N then (if j < N then aa i j else ab i (j - N))
        else (if j < N then (0 : K) else bb (i - N) (j - N))) = 0
  split_ifs with h1 h2 h2
  · exact ha i h1 j h2 hji
  · omega
  · rfl
  · exact hb (i - N) (by omega) (j - N) (by omega) (by omega)

/-- `ut_inverse_dispatcher`: left inverse and exactly upper triangular, for every size -/
theorem ut_left : ∀ M, 0 < M → ∀ A : Mat K, UpperTri M A → UtDefined M A →
    toMat M M (utInv M A) * toMat M M A = 1 ∧ UpperTri M (utInv M A) := by
  intro M
  induction M using Nat.strong_induction_on with
  | _ M ih =>
    intro hM A hA hdef
    by_cases h4 : M ≤ 4
    · rw [utInv, dif_pos h4]
      refine ⟨?_, leaf_upper M h4 A hA⟩
      apply leaf_left M hM h4
      have e : utDivs M A = [leafDet M (flat M A)] := by rw [utDivs, dif_pos h4]
      exact hdef _ (by rw [e]; simp)
    · have hN := splitPoint_pos (M := M) (by omega)
      have hN' := splitPoint_lt (M := M) (by omega)
      rw [utInv, dif_neg h4]
      simp only [memo_eq]
      have hd := hdef
      rw [UtDefined, utDivs, dif_neg h4] at hd
      simp only [List.mem_append] at hd
      -- `toMat_blocks`, `toMat_assemble` speak of size `N + R`: make `M` that sum syntactically
      generalize usesTmatmul M = tm at *
      generalize splitPoint M = N at *
      generalize hRe : M - N = R at *
      have hMe : M = N + R := by omega
      subst hMe
      obtain ⟨ha, hau⟩ := ih N hN' hN (blk A 0 0) (upperTri_blk hA (by omega)) (fun x hx => hd x (Or.inl hx))
      obtain ⟨hdd, hdu⟩ := ih R (by omega) (by omega) (blk A N N) (upperTri_blk hA (by omega)) (fun x hx => hd x (Or.inr hx))
      refine ⟨?_, upperTri_assemble hau hdu⟩
      rw [toMat_assemble, toMat_blocks N R A, upperTri_blk10 hA]
      apply reindex_mul_eq_one
      have h := block_upper_left_inv _ (toMat N R (blk A 0 N)) _ _ _ ha hdd
      cases tm
      · simpa only [Bool.false_eq_true, ↓reduceIte, toMat_neg', toMat_zero', toMat_matmul] using h
      · simpa only [↓reduceIte, toMat_neg', toMat_zero', toMat_mmUG N N R _ _ hau, toMat_mmGU N R R _ _ hdu] using h


def LowerZ (M : Nat) (A : Mat K) : Prop := ∀ i < M, ∀ j < M, i < j → A i j = 0

theorem unitLower_blk {M a n : Nat} {A : Mat K} (h : UnitLower M A) (ha : a + n ≤ M) : UnitLower n (blk A a a) :=
  ⟨fun i hi j hj hij => h.1 (a + i) (by omega) (a + j) (by omega) (by omega), fun i hi => h.2 (a + i) (by omega)⟩

theorem unitLower_blk01 {N R : Nat} {A : Mat K} (h : UnitLower (N + R) A) : toMat N R (blk A 0 N) = 0 := by
  ext i j
  exact h.1 (0 + i.val) (by omega) (N + j.val) (by omega) (by omega)

/-- `_lowunitri_inverse<T,n>` is `_inverse<T,n>` with the zeros and ones of a unit lower triangular operand put in:
    the cofactors are the same and the determinant is one -/
theorem lutLeafFlat_eq_adj (n : Nat) (h4 : n ≤ 4) (s : Nat → K) (hz : ∀ k < n * n, k / n < k % n → s k = 0)
    (ho : ∀ k < n * n, k / n = k % n → s k = 1) : ∀ k < n * n, lutLeafFlat n s k = adj n s k := by
  intro k hk
  interval_cases n <;> interval_cases k <;>
    simp only [adj, minor2] <;>
    dsimp only [lutLeafFlat] <;>
    simp only [hz, ho, Nat.reduceMul, Nat.reduceAdd, Nat.reduceMod, Nat.reduceDiv, Nat.reduceLT] <;>
    ring

theorem leafDet_unitLower (n : Nat) (h4 : n ≤ 4) (s : Nat → K) (hz : ∀ k < n * n, k / n < k % n → s k = 0)
    (ho : ∀ k < n * n, k / n = k % n → s k = 1) : leafDet n s = 1 := by
  interval_cases n <;>
    simp only [leafDet, Nat.reduceMul, Nat.reduceAdd] <;>
    simp only [hz, ho, Nat.reduceMul, Nat.reduceMod, Nat.reduceDiv, Nat.reduceLT] <;>
    ring

theorem lut_leaf_left (n : Nat) (h4 : n ≤ 4) (A : Mat K) (hA : UnitLower n A) :
    toMat n n (lutLeafInv n A) * toMat n n A = 1 := by
  have hz : ∀ k < n * n, k / n < k % n → flat n A k = 0 := fun k hk h =>
    hA.1 (k / n) (flat_div_mod_lt hk).1 (k % n) (flat_div_mod_lt hk).2 h
  have ho : ∀ k < n * n, k / n = k % n → flat n A k = 1 := fun k hk h => by
    show A (k / n) (k % n) = 1
    rw [← h]
    exact hA.2 (k / n) (flat_div_mod_lt hk).1
  exact leaf_of_flat n A (lutLeafFlat n) (flat_left_of_adj
    (fun k hk => by rw [lutLeafFlat_eq_adj n h4 _ hz ho k hk, mul_one]) (mul_one 1)
    (leafDet_unitLower n h4 _ hz ho ▸ adj_mul n h4 _))

theorem lut_leaf_lowerZ (n : Nat) (h4 : n ≤ 4) (A : Mat K) : LowerZ n (lutLeafInv n A) := by
  intro i hi j hj hij
  interval_cases n <;> interval_cases j <;> interval_cases i <;> rfl

theorem lowerZ_assemble {N R : Nat} {aa ba bb : Mat K} (ha : LowerZ N aa) (hb : LowerZ R bb) :
    LowerZ (N + R) (assemble N aa { get := fun _ _ => 0 } ba bb) := by
  intro i hi j hj hij
  show (if i < N then (if j < N then aa i j else (0 : K))
        else (if j < N then ba (i - N) j else bb (i - N) (j - N))) = 0
  split_ifs with h1 h2 h2
  · exact ha i h1 j h2 hij
  · rfl
  · omega
  · exact hb (i - N) (by omega) (j - N) (by omega) (by omega)

/-- `lut_inverse_dispatcher`: left inverse with exact zeros above the diagonal, for every size -/
theorem lut_left : ∀ M, 0 < M → ∀ A : Mat K, UnitLower M A →
    toMat M M (lutInv M A) * toMat M M A = 1 ∧ LowerZ M (lutInv M A) := by
  intro M
  induction M using Nat.strong_induction_on with
  | _ M ih =>
    intro hM A hA
    by_cases h4 : M ≤ 4
    · rw [lutInv, dif_pos h4]
      exact ⟨lut_leaf_left M h4 A hA, lut_leaf_lowerZ M h4 A⟩
    · have hN := splitPoint_pos (M := M) (by omega)
      have hN' := splitPoint_lt (M := M) (by omega)
      rw [lutInv, dif_neg h4]
      simp only [memo_eq]
      -- `toMat_blocks`, `toMat_assemble` speak of size `N + R`: make `M` that sum syntactically
      generalize usesTmatmul M = tm at *
      generalize splitPoint M = N at *
      generalize hRe : M - N = R at *
      have hMe : M = N + R := by omega
      subst hMe
      obtain ⟨ha, hal⟩ := ih N hN' hN (blk A 0 0) (unitLower_blk hA (by omega))
      obtain ⟨hdd, hdl⟩ := ih R (by omega) (by omega) (blk A N N) (unitLower_blk hA (by omega))
      refine ⟨?_, lowerZ_assemble hal hdl⟩
      rw [toMat_assemble, toMat_blocks N R A, unitLower_blk01 hA]
      apply reindex_mul_eq_one
      have h := block_lower_left_inv _ (toMat R N (blk A N 0)) _ _ _ ha hdd
      cases tm
      · simpa only [Bool.false_eq_true, ↓reduceIte, toMat_neg', toMat_zero', toMat_matmul] using h
      · simpa only [↓reduceIte, toMat_neg', toMat_zero', toMat_mmLG R R N _ _ hdl, toMat_mmGL R N N _ _ hal] using h

end Fastor.Inv
