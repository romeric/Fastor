import FastorModel.Proofs.LUReconstruct
/-
  The executable triangular inverses used to run the model satisfy `InvSpec` (so the hypothesis of the block theorems is
  not vacuous, and the model that `fmodel` executes is the model the theorems are about).
-/
namespace Fastor.LU
open Finset

variable {K : Type} [Field K]

/-- forward substitution on the columns of the identity, row by row: `X(r,c) = δ(r,c) - Σ_{k<r} L(r,k) X(k,c)` -/
theorem invLowerUnit_spec (n : Nat) (L : Mat K) (r c : Nat) (hr : r < n) (hc : c < n) :
    (invLowerUnit n L).get r c = (if r = c then 1 else 0) - ∑ k ∈ range r, L.get r k * (invLowerUnit n L).get k c := by
  refine (foldl_range_induction _ (Mat.zero n n) n
    (fun m (X : Mat K) => (∀ i c, X.has i c ↔ i < n ∧ c < n) ∧
      ∀ r c, r < m → c < n → X.get r c = (if r = c then 1 else 0) - ∑ k ∈ range r, L.get r k * X.get k c)
    ⟨has_zero n n, fun r c hr => absurd hr (Nat.not_lt_zero r)⟩ ?_).2 r c hr hc
  intro m S hm ⟨h1, h2⟩
  rw [List.range_eq_range']
  obtain ⟨r1, r2, r3⟩ := foldl_set_row m (fun M j => subLoop m (fun k => L.get m k * M.get k j) (if m = j then 1 else 0))
    0 n S _ rfl (fun M M' t h => subLoop_congr _ fun k hk => by rw [h k t (Or.inl (by omega))])
    (fun t _ ht => (h1 m t).2 ⟨hm, by omega⟩)
  refine ⟨fun i c => by rw [r1]; exact h1 i c, fun r c hr hc => ?_⟩
  by_cases hrm : r = m
  · subst hrm
    rw [r3 c (Nat.zero_le c) (by omega), subLoop_eq]
  · rw [r2 r c (Or.inl hrm), h2 r c (by omega) hc, sum_range_congr fun k hk => by rw [← r2 k c (Or.inl (by omega))]]

/-- substitution from the right on the rows of the identity, column by column:
`X(r,c) = (δ(r,c) - Σ_{k<c} X(r,k) U(k,c)) / U(c,c)` -/
theorem invUpperLeft_spec (n : Nat) (U : Mat K) (r c : Nat) (hr : r < n) (hc : c < n) :
    (invUpperLeft n U).get r c =
      ((if r = c then 1 else 0) - ∑ k ∈ range c, (invUpperLeft n U).get r k * U.get k c) / U.get c c := by
  refine (foldl_range_induction _ (Mat.zero n n) n
    (fun m (X : Mat K) => (∀ i c, X.has i c ↔ i < n ∧ c < n) ∧
      ∀ r c, c < m → r < n → X.get r c = ((if r = c then 1 else 0) - ∑ k ∈ range c, X.get r k * U.get k c) / U.get c c)
    ⟨has_zero n n, fun r c hc => absurd hc (Nat.not_lt_zero c)⟩ ?_).2 r c hc hr
  intro m S hm ⟨h1, h2⟩
  rw [List.range_eq_range']
  obtain ⟨r1, r2, r3⟩ := foldl_set_col m
    (fun M i => subLoop m (fun k => M.get i k * U.get k m) (if i = m then 1 else 0) / U.get m m)
    0 n S _ rfl (fun M M' t h => by rw [subLoop_congr _ fun k hk => by rw [h t k (Or.inl (by omega))]])
    (fun t _ ht => (h1 t m).2 ⟨by omega, hm⟩)
  refine ⟨fun i c => by rw [r1]; exact h1 i c, fun r c hc hr => ?_⟩
  by_cases hcm : c = m
  · subst hcm
    rw [r3 r (Nat.zero_le r) (by omega), subLoop_eq]
  · rw [r2 r c (Or.inl hcm), h2 r c (by omega) hr, sum_range_congr fun k hk => by rw [← r2 r k (Or.inl (by omega))]]

/-- the executable stand-ins for `tinverse` are inverses: `InvSpec` holds for the operations `fmodel` runs -/
theorem execOps_spec : InvSpec (execOps : InvOps K) where
  lower N L hdiag hlz i p hi hp :=
    sum_lower_unit hi (fun m => L.get i m) (fun m => (invLowerUnit N L).get m p) _ (hdiag i hi)
      (fun m h1 h2 => hlz i m hi h2 h1) (invLowerUnit_spec N L i p hi hp)
  upper N U huz hd p j hp hj :=
    sum_upper_div hj (fun m => (invUpperLeft N U).get p m) (fun m => U.get m j) _ (hd j hj)
      (fun m h1 h2 => huz m j h2 hj h1) (invUpperLeft_spec N U p j hp hj)

end Fastor.LU
