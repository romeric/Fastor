import FastorModel.Proofs.InverseLU
import FastorModel.Proofs.LUExport
/- bridge between the C11 export (`Fastor.LU`, matrices as arrays of arrays) and `get_lu_inverse` of the C10 model -/
namespace Fastor.Inv
open Matrix
variable {K : Type} [Field K]

def ofLU (M : Fastor.LU.Mat K) : Mat K := { get := fun i j => Fastor.LU.Mat.get M i j }
def toLU (n : Nat) (A : Mat K) : Fastor.LU.Mat K := Fastor.LU.Mat.ofFn n n (fun i j => A i j)
def ofPerm (p : Array Nat) : Vec Nat := { get := fun i => p.getD i 0 }

theorem getLuInverse_of_LUPost (n : Nat) (A : Mat K) (L U : Fastor.LU.Mat K) (perm : Array Nat)
    (h : Fastor.LU.LUPost n (toLU n A) L U perm) (hd : ∀ i, i < n → Fastor.LU.Mat.get U i i ≠ 0) :
    toMat n n (getLuInverse n (ofLU L) (ofLU U) (ofPerm perm)) * toMat n n A = 1
      ∧ toMat n n A * toMat n n (getLuInverse n (ofLU L) (ofLU U) (ofPerm perm)) = 1 := by
  apply getLuInverse_correct n A (ofLU L) (ofLU U) (ofPerm perm)
  · exact ⟨fun i hi => h.inrange i hi, fun i hi j hj e => h.inj i j hi hj e⟩
  · intro i hi; exact hd i hi
  · ext i j
    rw [Matrix.mul_apply]
    have hpi := h.inrange i.val i.isLt
    have hmul := h.mul i.val j.val i.isLt j.isLt
    have hget : Fastor.LU.Mat.get (toLU n A) (perm.getD i.val 0) j.val = A (perm.getD i.val 0) j.val := by
      unfold toLU; rw [Fastor.LU.Mat.get_ofFn, if_pos ⟨hpi, j.isLt⟩]
    have hR : toMat n n (applyPivot A (ofPerm perm)) i j = A (perm.getD i.val 0) j.val :=
      applyPivot_apply A (ofPerm perm) i.val j.val
    rw [hR, ← hget, ← hmul, ← Fin.sum_univ_eq_sum_range (fun m => Fastor.LU.Mat.get L i.val m * Fastor.LU.Mat.get U m j.val) n]
    apply Finset.sum_congr rfl
    intro k _
    have e1 : toMat n n (unitLowerPart (ofLU L)) i k = Fastor.LU.Mat.get L i.val k.val := by
      show (if k.val < i.val then Fastor.LU.Mat.get L i.val k.val else if i.val = k.val then 1 else 0) = _
      by_cases h1 : k.val < i.val
      · rw [if_pos h1]
      · rw [if_neg h1]
        by_cases h2 : i.val = k.val
        · rw [if_pos h2, ← h2, h.diag i.val i.isLt]
        · rw [if_neg h2, h.lzero i.val k.val i.isLt k.isLt (by omega)]
    have e2 : toMat n n (triu (ofLU U)) k j = Fastor.LU.Mat.get U k.val j.val := by
      show (if k.val ≤ j.val then Fastor.LU.Mat.get U k.val j.val else 0) = _
      by_cases h1 : k.val ≤ j.val
      · rw [if_pos h1]
      · rw [if_neg h1, h.uzero k.val j.val k.isLt j.isLt (by omega)]
    rw [e1, e2]

end Fastor.Inv
