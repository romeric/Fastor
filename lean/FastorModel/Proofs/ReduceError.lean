import FastorModel.Proofs.Reduce
import Mathlib.Algebra.Order.Ring.Abs
import Mathlib.Algebra.Order.BigOperators.Group.Finset

/-
  C16: lock-step simulation of three reduction machines (`reduce_sim`) and the rounding-error bound of the summation tree
  the machine fixes, over the abstract rounding model `|fl x - x| ≤ u |x|` (`sum_error_bound`).
-/
namespace Fastor.Reduce
open Fastor Fastor.Expr

section sim
variable {α β γ : Type}

/-- a depth-indexed relation between three values that is preserved by the three operations, the depth growing by one -/
structure SimOps (R : Nat → α → β → γ → Prop) (oa : α → α → α) (ob : β → β → β) (oc : γ → γ → γ) : Prop where
  mono : ∀ d d' a b c, d ≤ d' → R d a b c → R d' a b c
  step : ∀ d1 d2 a1 b1 c1 a2 b2 c2, R d1 a1 b1 c1 → R d2 a2 b2 c2 → R (max d1 d2 + 1) (oa a1 a2) (ob b1 b2) (oc c1 c2)

variable {R : Nat → α → β → γ → Prop} {oa : α → α → α} {ob : β → β → β} {oc : γ → γ → γ}

theorem sim_runTail (h : SimOps R oa ob oc) (ta : Nat → α) (tb : Nat → β) (tc : Nat → γ) (sa : α) (sb : β) (sc : γ)
    (hs : R 0 sa sb sc) (ht : ∀ i, R 0 (ta i) (tb i) (tc i)) (ps : List Nat) :
    R ps.length (runTail oa ta sa ps) (runTail ob tb sb ps) (runTail oc tc sc ps) := by
  induction ps using List.reverseRecOn with
  | nil => exact hs
  | append_singleton ps p ih =>
    simp only [runTail_snoc, List.length_append, List.length_singleton]
    have := h.step _ _ _ _ _ _ _ _ ih (ht p)
    simpa using this

theorem sim_runVec (h : SimOps R oa ob oc) (ta : Nat → α) (tb : Nat → β) (tc : Nat → γ) (ia : α) (ib : β) (ic : γ)
    (hs : R 0 ia ib ic) (ht : ∀ i, R 0 (ta i) (tb i) (tc i)) (steps : List (Nat × Nat)) (k l : Nat) :
    R steps.length (runVec oa ta ia steps k l) (runVec ob tb ib steps k l) (runVec oc tc ic steps k l) := by
  induction steps using List.reverseRecOn generalizing k l with
  | nil => exact hs
  | append_singleton steps kp ih =>
    simp only [runVec_snoc, List.length_append, List.length_singleton]
    by_cases hk : k = kp.1
    · simp only [hk, if_true]
      have := h.step _ _ _ _ _ _ _ _ (ih kp.1 l) (ht (kp.2 + l))
      simpa using this
    · simp only [hk, if_false]
      exact h.mono _ _ _ _ _ (Nat.le_succ _) (ih k l)

theorem sim_foldl_range (h : SimOps R oa ob oc) (m : Nat) (fa : Nat → α) (fb : Nat → β) (fc : Nat → γ)
    (hf : ∀ k, R m (fa k) (fb k) (fc k)) (a0 : α) (b0 : β) (c0 : γ) (h0 : R m a0 b0 c0) (j : Nat) :
    R (m + j) ((List.range j).foldl (fun a k => oa a (fa k)) a0) ((List.range j).foldl (fun a k => ob a (fb k)) b0)
      ((List.range j).foldl (fun a k => oc a (fc k)) c0) := by
  induction j with
  | zero => simpa using h0
  | succ j ih =>
    rw [List.range_succ]
    simp only [List.foldl_append, List.foldl_cons, List.foldl_nil]
    have := h.step _ _ _ _ _ _ _ _ ih (hf j)
    have e : max (m + j) m + 1 = m + (j + 1) := by omega
    rw [e] at this; exact this

/-- lock-step run of the whole reduction: depth `#vector steps + U + V + #tail + 1` -/
theorem reduce_sim (h : SimOps R oa ob oc) (ta : Nat → α) (tb : Nat → β) (tc : Nat → γ) (ea : α) (eb : β) (ec : γ)
    (hs : R 0 ea eb ec) (ht : ∀ i, R 0 (ta i) (tb i) (tc i)) (U : Nat) (us : List Nat) (n V : Nat) :
    R ((vecSteps n V us).length + U + V + (tailPos n V us).length + 1)
      (reduce ⟨oa, ea, ea, ea, U, us⟩ ta n V) (reduce ⟨ob, eb, eb, eb, U, us⟩ tb n V) (reduce ⟨oc, ec, ec, ec, U, us⟩ tc n V) := by
  unfold reduce
  simp only []
  set m := (vecSteps n V us).length
  have hv := fun k l => sim_runVec h ta tb tc ea eb ec hs ht (vecSteps n V us) k l
  have hc : ∀ l, R (m + (U - 1)) (combine oa U (runVec oa ta ea (vecSteps n V us)) l)
      (combine ob U (runVec ob tb eb (vecSteps n V us)) l) (combine oc U (runVec oc tc ec (vecSteps n V us)) l) := by
    intro l
    unfold combine
    exact sim_foldl_range h m _ _ _ (fun k => hv (k + 1) l) _ _ _ (hv 0 l) (U - 1)
  have hh := sim_foldl_range h (m + (U - 1)) _ _ _ hc ea eb ec (h.mono _ _ _ _ _ (Nat.zero_le _) hs) V
  have htl := sim_runTail h ta tb tc ea eb ec hs ht (tailPos n V us)
  have := h.step _ _ _ _ _ _ _ _ hh htl
  unfold hfold
  refine h.mono _ _ _ _ _ ?_ this
  omega
end sim

section err
variable {K : Type} [CommRing K] [LinearOrder K] [IsStrictOrderedRing K]

/-- computed value `a`, exact value `e`, sum of magnitudes `s` at depth `d` -/
def ErrRel (u : K) (d : Nat) (a e s : K) : Prop := |a - e| ≤ ((1 + u) ^ d - 1) * s ∧ |e| ≤ s

theorem errRel_simOps (u : K) (hu : 0 ≤ u) (fl : K → K) (hfl : ∀ x, |fl x - x| ≤ u * |x|) :
    SimOps (ErrRel u) (fun a b => fl (a + b)) (· + ·) (· + ·) := by
  have h1u : (1 : K) ≤ 1 + u := le_add_of_nonneg_right hu
  constructor
  · intro d d' a e s hdd ⟨h1, h2⟩
    refine ⟨le_trans h1 ?_, h2⟩
    have hs : 0 ≤ s := le_trans (abs_nonneg e) h2
    have : (1 + u) ^ d ≤ (1 + u) ^ d' := pow_le_pow_right₀ h1u hdd
    exact mul_le_mul_of_nonneg_right (sub_le_sub_right this 1) hs
  · intro d1 d2 a1 e1 s1 a2 e2 s2 ⟨h1, g1⟩ ⟨h2, g2⟩
    have hs1 : 0 ≤ s1 := le_trans (abs_nonneg e1) g1
    have hs2 : 0 ≤ s2 := le_trans (abs_nonneg e2) g2
    set d := max d1 d2
    have p1 : (1 + u) ^ d1 ≤ (1 + u) ^ d := pow_le_pow_right₀ h1u (le_max_left _ _)
    have p2 : (1 + u) ^ d2 ≤ (1 + u) ^ d := pow_le_pow_right₀ h1u (le_max_right _ _)
    have hp : (1 : K) ≤ (1 + u) ^ d := one_le_pow₀ h1u
    have E1 : |a1 - e1| ≤ ((1 + u) ^ d - 1) * s1 := le_trans h1 (mul_le_mul_of_nonneg_right (sub_le_sub_right p1 1) hs1)
    have E2 : |a2 - e2| ≤ ((1 + u) ^ d - 1) * s2 := le_trans h2 (mul_le_mul_of_nonneg_right (sub_le_sub_right p2 1) hs2)
    refine ⟨?_, le_trans (abs_add_le e1 e2) (add_le_add g1 g2)⟩
    -- |fl(a1+a2) - (e1+e2)| ≤ u|a1+a2| + |a1-e1| + |a2-e2|
    have t1 : |fl (a1 + a2) - (e1 + e2)| ≤ |fl (a1 + a2) - (a1 + a2)| + (|a1 - e1| + |a2 - e2|) := by
      have : fl (a1 + a2) - (e1 + e2) = (fl (a1 + a2) - (a1 + a2)) + ((a1 - e1) + (a2 - e2)) := by ring
      rw [this]
      exact le_trans (abs_add_le _ _) (add_le_add le_rfl (abs_add_le _ _))
    have t2 : |a1 + a2| ≤ (s1 + s2) + (|a1 - e1| + |a2 - e2|) := by
      have : a1 + a2 = (e1 + e2) + ((a1 - e1) + (a2 - e2)) := by ring
      rw [this]
      refine le_trans (abs_add_le _ _) (add_le_add (le_trans (abs_add_le _ _) (add_le_add g1 g2)) (abs_add_le _ _))
    have t3 := hfl (a1 + a2)
    have t4 : u * |a1 + a2| ≤ u * ((s1 + s2) + (|a1 - e1| + |a2 - e2|)) := mul_le_mul_of_nonneg_left t2 hu
    have hE : |a1 - e1| + |a2 - e2| ≤ ((1 + u) ^ d - 1) * (s1 + s2) := by
      have := add_le_add E1 E2; rw [← mul_add] at this; exact this
    have key : u * (s1 + s2) + (1 + u) * (((1 + u) ^ d - 1) * (s1 + s2)) = ((1 + u) ^ (d + 1) - 1) * (s1 + s2) := by
      rw [pow_succ]; ring
    have hmul : (1 + u) * (|a1 - e1| + |a2 - e2|) ≤ (1 + u) * (((1 + u) ^ d - 1) * (s1 + s2)) :=
      mul_le_mul_of_nonneg_left hE (le_trans zero_le_one h1u)
    calc |fl (a1 + a2) - (e1 + e2)| ≤ u * ((s1 + s2) + (|a1 - e1| + |a2 - e2|)) + (|a1 - e1| + |a2 - e2|) :=
          le_trans t1 (add_le_add (le_trans t3 t4) le_rfl)
      _ = u * (s1 + s2) + (1 + u) * (|a1 - e1| + |a2 - e2|) := by ring
      _ ≤ u * (s1 + s2) + (1 + u) * (((1 + u) ^ d - 1) * (s1 + s2)) := add_le_add le_rfl hmul
      _ = ((1 + u) ^ (d + 1) - 1) * (s1 + s2) := key



/-- **rounding-error bound of the reduction machine** over the standard model `|fl x - x| ≤ u |x|`: with every addition
    rounded (`a ⊕ b = fl (a + b)`; with FMA the term `x_i * y_i` is not rounded separately), for every admissible ladder,
    width and size, `|computed - Σ term| ≤ ((1+u)^depth - 1) · Σ |term|`. -/
theorem sum_error_bound (u : K) (hu : 0 ≤ u) (fl : K → K) (hfl : ∀ x, |fl x - x| ≤ u * |x|)
    (term : Nat → K) (U : Nat) (us : List Nat) (n V : Nat) (hn : n < 2 ^ 64) (hg : GoodLadder V us)
    (hU : ∀ u' ∈ us, u' ≤ U) (hU0 : 0 < U) :
    |reduce ⟨fun a b => fl (a + b), 0, 0, 0, U, us⟩ term n V - ∑ i ∈ Finset.range n, term i|
      ≤ ((1 + u) ^ depth n V U us - 1) * ∑ i ∈ Finset.range n, |term i| := by
  have hsim := reduce_sim (errRel_simOps u hu fl hfl) term term (fun i => |term i|) 0 0 0
    (by constructor <;> simp) (by intro i; constructor <;> simp) U us n V
  rw [reduce_sum term U us n V hn hg hU hU0, reduce_sum (fun i => |term i|) U us n V hn hg hU hU0] at hsim
  exact hsim.1

theorem flat_length (V : Nat) (steps : List (Nat × Nat)) : (flat V steps).length = V * steps.length := by
  unfold flat
  induction steps with
  | nil => simp
  | cons kp steps ih => simp [List.flatMap_cons, Nat.mul_succ, Nat.add_comm, Nat.mul_comm]

end err
end Fastor.Reduce
