import FastorModel.Model.ConfigLadder
import FastorModel.Props.C01
import FastorModel.Props.C02
import FastorModel.Props.C03
import FastorModel.Props.C17
/-
# C06 — Results do not depend on the SIMD instruction set, C++ level or tuning macros

Property (properties.jsonl): a program using the library computes the same values whichever supported
build configuration it is compiled with (scalar-only, SSE2 … AVX-512; C++14/17; -O0..-O3; runtime
checks on/off; any documented tuning macro).  Integer and boolean results are bit-identical, floating
point results agree within the rounding bound; a program accepted by the compiler in one configuration
is accepted in all.

What is a theorem here and what is not.
* The *build configuration* enters the models through (i) the macro ladder of config.h / macros.h /
  simd_vector_abi.h — modelled by `Predef` (ConfigLadder.lean) and tied to the source by the probe of
  `./check C06` under every flag set — and (ii) explicit parameters of the kernel models: `Cfg` (native
  ABI, AVX2, masks, block-size macros) for matmul / tmatmul, the vector width `V` for expression
  assignment, element size and the vectorisation switch for einsum.
* For every operation that has a kernel model, "the result does not depend on the configuration" is a
  corollary of the owning property's `model = specification` theorem: both sides equal the same
  configuration-free expression.  These corollaries are collected below (`*_independent`), over an
  arbitrary commutative semiring — i.e. exactly for integer-valued data, as the property says.
* Facts about the ladder itself that the kernels rely on: the widest vector of the native ABI fits
  the alignment value (`native_vector_fits_alignment`), every selected width divides it
  (`vsize_dvd_alignment`) and is at most the native one (`vsize_le_native`).
* NOT theorems (observed by the digest matrix of `./check C06`, see DESIGN.md §4 C06): that every
  configuration *compiles* the same programs, what the optimiser does at -O0..-O3, and the
  floating-point "within the rounding bound" clause.
-/
namespace Fastor.C06
open Fastor Fastor.Matmul Fastor.Tmatmul Finset

/-! ## The configuration ladder -/

/-- Element sizes of the primitive types the library vectorises. -/
def PrimSize (sz : Nat) : Prop := sz = 4 ∨ sz = 8

theorem native_lanes_pos (a : Abi) (sz : Nat) : 0 < a.lanes sz := by
  unfold Abi.lanes
  generalize a.bits sz / sz / 8 = v
  by_cases h : v = 0 <;> simp [h] <;> omega

/-- The widest vector of the native ABI fits into `FASTOR_MEMORY_ALIGNMENT_VALUE` bytes, for every
    set of compiler predefines (also inconsistent ones): an aligned vector access at a multiple of
    the vector width from the start of tensor storage is aligned. -/
theorem native_vector_fits_alignment (p : Predef) (sz : Nat) (hsz : PrimSize sz) :
    p.native.lanes sz * sz ≤ p.alignment := by
  -- bytes of a vector of each ABI
  have hb : ∀ a : Abi, a.lanes sz * sz ≤ (match a with | .avx512 => 64 | .avx => 32 | .sse => 16 | .scalar => 8) := by
    intro a; rcases hsz with rfl | rfl <;> cases a <;> decide
  refine Nat.le_trans (hb _) ?_
  -- the two ladders test the same macros in the same order (`FASTOR_SSE_IMPL` contains `__SSE2__`), so the claim is a
  -- table over the five flags they look at
  have hsse : p.sse2 = true → p.sseImpl = true := fun h => by simp [Predef.sseImpl, h]
  unfold Predef.native Predef.alignment
  revert hsse
  cases p.novec <;> cases p.avx512Impl <;> cases p.avxImpl <;> cases p.sse2 <;> cases p.sseImpl <;> decide

/-- the type `is_exact_multiple_of_smaller_simd` proposes is the ABI itself, its half, or (AVX-512 only) its quarter -/
theorem exactMultiple_snd (a : Abi) (sz N : Nat) :
    (exactMultiple a sz N).2 = a ∨ (exactMultiple a sz N).2 = a.half ∨
      (a = .avx512 ∧ (exactMultiple a sz N).2 = .sse) := by
  unfold exactMultiple
  dsimp only
  generalize (if (a.lanes sz / N == 2) = true then 2 else if (a.lanes sz / N == 4) = true then 4 else 1) = w
  cases a
  · exact Or.inl rfl
  · exact Or.inl rfl
  · cases w == 2
    · exact Or.inl rfl
    · exact Or.inr (Or.inl rfl)
  · cases w == 2
    · cases w == 4
      · exact Or.inl rfl
      · exact Or.inr (Or.inr ⟨rfl, rfl⟩)
    · exact Or.inr (Or.inl rfl)

/-- the ABI selected by `choose_best_simd_type` is the native one, its half, or (AVX-512 only) its quarter -/
theorem bestAbi_rel (c : Cfg) (sz N : Nat) :
    c.bestAbi sz N = c.native ∨ c.bestAbi sz N = c.native.half ∨ (c.native = .avx512 ∧ c.bestAbi sz N = .sse) := by
  have h := exactMultiple_snd c.native sz N
  unfold Cfg.bestAbi
  dsimp only
  split
  · split
    · exact h
    · exact Or.inl rfl
  · split
    · exact h
    · split
      · exact Or.inr (Or.inl rfl)
      · exact Or.inl rfl

/-- every width `choose_best_simd_type` selects is at most the native width -/
theorem vsize_le_native (c : Cfg) (sz N : Nat) (hsz : PrimSize sz) :
    c.vsize sz N ≤ c.native.lanes sz := by
  unfold Cfg.vsize
  rcases bestAbi_rel c sz N with h | h | ⟨hn, h⟩
  · rw [h]
  · rw [h]; rcases hsz with rfl | rfl <;> cases c.native <;> decide
  · rw [h, hn]; rcases hsz with rfl | rfl <;> decide

/-- every selected width is a power of two (so `ROUND_DOWN` by masking is `n / V * V`) -/
theorem vsize_pow2 (c : Cfg) (sz N : Nat) (hsz : PrimSize sz) : ∃ e, e ≤ 6 ∧ c.vsize sz N = 2 ^ e :=
  C01.vsize_pow2 c sz N (by rcases hsz with h | h <;> simp [h])

/-- every selected width (in bytes) divides the alignment value of the configuration -/
theorem vsize_dvd_alignment (p : Predef) (sz N : Nat) (hsz : PrimSize sz) :
    (p.toCfg.vsize sz N * sz) ∣ p.alignment := by
  have hle : p.toCfg.vsize sz N * sz ≤ p.alignment :=
    Nat.le_trans (Nat.mul_le_mul_right _ (vsize_le_native p.toCfg sz N hsz)) (native_vector_fits_alignment p sz hsz)
  -- both are powers of two
  obtain ⟨e, _, hv⟩ := vsize_pow2 p.toCfg sz N hsz
  obtain ⟨s, rfl⟩ : ∃ s, sz = 2 ^ s := by
    rcases hsz with rfl | rfl
    exacts [⟨2, rfl⟩, ⟨3, rfl⟩]
  obtain ⟨k, hk⟩ : ∃ k, p.alignment = 2 ^ k := by
    unfold Predef.alignment
    repeat' split
    exacts [⟨6, rfl⟩, ⟨5, rfl⟩, ⟨4, rfl⟩, ⟨3, rfl⟩]
  rw [hv, ← Nat.pow_add, hk] at hle ⊢
  exact Nat.pow_dvd_pow 2 ((Nat.pow_le_pow_iff_right (by omega)).1 hle)

/-- the seven flag sets the checks compile are monotone predefine sets, and the `Cfg` used by the
    kernel models for each name is the one the ladder derives -/
theorem named_configs_consistent :
    ∀ n ∈ ["scalar", "sse2", "sse42", "avx", "avx2", "avx512f", "avx512"],
      ∃ p, Predef.ofName n = some p ∧ p.Monotone ∧ Cfg.ofName n = some p.toCfg := by
  intro n hn
  simp only [List.mem_cons, List.mem_nil_iff, or_false] at hn
  rcases hn with rfl | rfl | rfl | rfl | rfl | rfl | rfl <;>
    exact ⟨_, rfl, by simp [Predef.Monotone], rfl⟩

/-! ## Operations with a kernel model: the result is the same under every configuration -/

variable {R : Type} [CommSemiring R]

/-- **matmul**: the final contents of the output buffer do not depend on ISA, element size class or
    the block-size macros (`FASTOR_MATMUL_OUTER/INNER_BLOCK_SIZE`). -/
theorem matmul_independent (cfg cfg' : Cfg) (sz sz' M K N : Nat)
    (hsz : sz = 4 ∨ sz = 8 ∨ sz = 16) (hsz' : sz' = 4 ∨ sz' = 8 ∨ sz' = 16) (hN : N < 2 ^ 64)
    (hob : ∀ x, cfg.outerBlock = some x → 0 < x) (hib : ∀ x, cfg.innerBlock = some x → 0 < x)
    (hob' : ∀ x, cfg'.outerBlock = some x → 0 < x) (hib' : ∀ x, cfg'.innerBlock = some x → 0 < x)
    (a b c₀ : Nat → R) (p : Nat) :
    applyWrites (kernelWrites N (val a b K N) (kernel cfg sz M K N).2.2) c₀ p
      = applyWrites (kernelWrites N (val a b K N) (kernel cfg' sz' M K N).2.2) c₀ p :=
  C01.matmul_config_independent cfg cfg' sz sz' M K N hsz hsz' hN hob hib hob' hib' a b c₀ p

/-- **tmatmul** (operands vanishing outside their tagged triangles): same statement. -/
theorem tmatmul_independent (cfg cfg' : Cfg) (lt rt : UpLo) (sz sz' M K N : Nat)
    (hsz : sz = 4 ∨ sz = 8 ∨ sz = 16) (hsz' : sz' = 4 ∨ sz' = 8 ∨ sz' = 16)
    (hob : ∀ x, cfg.outerBlock = some x → 0 < x) (hib : ∀ x, cfg.innerBlock = some x → 0 < x)
    (hob' : ∀ x, cfg'.outerBlock = some x → 0 < x) (hib' : ∀ x, cfg'.innerBlock = some x → 0 < x)
    (a b c₀ : Nat → R) (ha : TriA lt K a) (hb : TriB rt N b) (p : Nat) :
    applyWrites (kernelWrites N (tval a b K N) (tkernel cfg lt rt sz M K N).2.2) c₀ p
      = applyWrites (kernelWrites N (tval a b K N) (tkernel cfg' lt rt sz' M K N).2.2) c₀ p :=
  applyWrites_eq_of_exact (C17.tmatmul_writesExactly cfg lt rt sz M K N hsz hob hib a b ha hb)
    (C17.tmatmul_writesExactly cfg' lt rt sz' M K N hsz' hob' hib' a b ha hb) c₀ p

/-- **element-wise expression assignment** (`=`, `+=`, `-=`, `*=` of any tree): the final contents of
    the destination do not depend on the vector width (hence not on the ISA). -/
theorem assign_independent {α : Type} [Add α] [Sub α] [Mul α] [Neg α]
    (ofInt : Int → α) (env : Nat → Nat → α) (op : Expr.AOp) (dst : Nat → α) (e : Expr.E)
    (n ex ex' : Nat) (hn : n < 2 ^ 64) (hex : ex ≤ 64) (hex' : ex' ≤ 64) (p : Nat) :
    applyWrites (Expr.assignWrites ofInt env op dst e n (2 ^ ex)) dst p
      = applyWrites (Expr.assignWrites ofInt env op dst e n (2 ^ ex')) dst p :=
  applyWrites_eq_of_exact (C02.assign_correct ofInt env op dst e n ex hn hex)
    (C02.assign_correct ofInt env op dst e n ex' hn hex') dst p

/-- **pairwise einsum**: every cell is the same whatever element size decides the stride and whether
    vectorisation is enabled (`FASTOR_DONT_VECTORISE`). -/
theorem einsum_independent (p : Einsum.Pair) (hI : p.I.length = p.dI.length) (hJ : p.J.length = p.dJ.length)
    (sz sz' : Nat) (hsz : 0 < sz ∧ sz ≤ 16) (hsz' : 0 < sz' ∧ sz' ≤ 16) (vec vec' : Bool)
    (a b : Nat → R) (q : Nat) :
    Einsum.accAt a b (p.loopEvents (p.stride sz vec)) q
      = Einsum.accAt a b (p.loopEvents (p.stride sz' vec')) q := by
  rw [C03.loopnest_vectorised_correct p hI hJ sz hsz vec a b q,
      C03.loopnest_vectorised_correct p hI hJ sz' hsz' vec' a b q]

/-! the hypotheses can be met: both primitive sizes, and two of the named flag sets with the widths they give -/
example : PrimSize 4 ∧ PrimSize 8 := ⟨Or.inl rfl, Or.inr rfl⟩
example : ∃ p, Predef.ofName "avx512" = some p ∧ p.native = .avx512 ∧ p.alignment = 64 ∧
    p.toCfg.vsize 4 4 = 4 ∧ p.toCfg.vsize 8 3 = 4 := ⟨_, rfl, by decide, by decide, by decide, by decide⟩
example : ∃ p, Predef.ofName "sse2" = some p ∧ p.native = .sse ∧ p.toCfg.vsize 4 3 = 4 ∧ p.toCfg.vsize 8 1 = 2 :=
  ⟨_, rfl, by decide, by decide, by decide⟩

end Fastor.C06
