import FastorModel.Model.Expr
import FastorModel.Proofs.Loops
/-
# C02 — An evaluated expression equals the scalar operation applied element by element

Property: assigning any expression built from tensors, scalars, unary minus, +, -, * … to a tensor
(with =, +=, -=, *=) gives, at every flat position p, exactly the value obtained by applying the same
scalar operations to the p-th elements of the operands, for every tensor size (whether or not a
multiple of the vector width).

Reading of the statements.
* `E` is the expression tree; `env w p` is element `p` of tensor operand `w`; `evalS` is the scalar
  evaluator every node implements (`eval_s`), `evalV … V` the vector evaluator (`eval`), `V` lanes.
* `lanes_of_evalV`: by structural induction, lane `l` of the vector evaluation at `p` is the scalar
  evaluation at `p + l` — for every tree and every width.  (The vector primitives of the model are
  lane-wise by definition; the real ones are the subject of C08 — C02 is proved relative to C08.)
* `assign_correct`: for every size `n`, width `V = 2^e`, operator and tree, the writes issued by the
  assignment loop (vector body over `ROUND_DOWN(n,V)`, scalar tail) leave `op(dst p, evalS e p)` at
  every `p < n` and touch nothing at or beyond `n`.  Division, math functions, comparisons and the
  reciprocal-multiply form of division by a scalar are not in this model (value runs on the real types).
-/
namespace Fastor.C02
open Fastor Fastor.Expr

variable {α : Type} [Add α] [Sub α] [Mul α] [Neg α]

/-- **vector evaluation is the scalar evaluation lane by lane**, as one list equation -/
theorem evalV_eq (ofInt : Int → α) (env : Nat → Nat → α) (V : Nat) (e : E) (p : Nat) :
    evalV ofInt env V e p = (List.range V).map fun l => evalS ofInt env e (p + l) := by
  induction e with
  | t w => rfl
  | c k => simp [evalV, evalS, List.map_const']
  | bin op l r ihl ihr => simp [evalV, evalS, ihl, ihr, List.zipWith_map_left, List.zipWith_map_right]
  | neg e ih => simp [evalV, evalS, ih]

theorem evalV_length (ofInt : Int → α) (env : Nat → Nat → α) (V : Nat) (e : E) (p : Nat) :
    (evalV ofInt env V e p).length = V := by
  rw [evalV_eq, List.length_map, List.length_range]

/-- **vector evaluation is the scalar evaluation lane by lane** -/
theorem lanes_of_evalV (ofInt : Int → α) (env : Nat → Nat → α) (V : Nat) (e : E) (p l : Nat) (hl : l < V) :
    (evalV ofInt env V e p)[l]? = some (evalS ofInt env e (p + l)) := by
  rw [evalV_eq, List.getElem?_map, List.getElem?_range hl]
  rfl

theorem roundDown_pow2 (x e : Nat) (hx : x < 2 ^ 64) (he : e ≤ 64) :
    roundDown x (2 ^ e) = x / 2 ^ e * 2 ^ e :=
  and_not_low_bits x e hx he

/-- **C02**: the assignment loop leaves `op(dst p, evalS e p)` at every `p < n` and writes nothing else. -/
theorem assign_correct (ofInt : Int → α) (env : Nat → Nat → α) (op : AOp) (dst : Nat → α) (e : E)
    (n ex : Nat) (hn : n < 2 ^ 64) (hex : ex ≤ 64) :
    WritesExactly (assignWrites ofInt env op dst e n (2 ^ ex)) (fun p => p < n)
      (fun p => op.ap (dst p) (evalS ofInt env e p)) := by
  have hV : 0 < 2 ^ ex := Nat.pow_pos (by omega)
  have hR : n / 2 ^ ex * 2 ^ ex ≤ n := Nat.div_mul_le_self _ _
  unfold assignWrites
  -- the chunk at `i` writes `op(dst (i+l), evalS e (i+l))` at `i + l` for `l < V`
  simp only [roundDown_pow2 n ex hn hex, forExit_div_mul hV, evalV_eq, zip_map_self, List.map_map, Function.comp_def]
  apply writesExactly_of_all_right
  · intro w hw
    rcases List.mem_append.1 hw with h | h
    · obtain ⟨i, hi, hw⟩ := List.mem_flatMap.1 h
      obtain ⟨l, hl, rfl⟩ := List.mem_map.1 hw
      have := add_le_of_mem_forRange (div_mul_dvd n _) hi
      have := List.mem_range.1 hl
      exact ⟨by omega, rfl⟩
    · obtain ⟨i, hi, rfl⟩ := List.mem_map.1 h
      obtain ⟨t, rfl, hlt⟩ := (mem_forRange Nat.one_pos).1 hi
      exact ⟨hlt, rfl⟩
  · intro p hp
    refine ⟨(p, op.ap (dst p) (evalS ofInt env e p)), ?_, rfl⟩
    by_cases hpR : p < n / 2 ^ ex * 2 ^ ex
    · obtain ⟨i, hi, h1, h2⟩ := (forRange_cover (div_mul_dvd n _) p).2 ⟨Nat.zero_le _, hpR⟩
      exact List.mem_append_left _ (List.mem_flatMap.2 ⟨i, hi, List.mem_map.2
        ⟨p - i, List.mem_range.2 (by omega), by rw [Nat.add_sub_cancel' h1]⟩⟩)
    · exact List.mem_append_right _ (List.mem_map.2
        ⟨p, (mem_forRange Nat.one_pos).2 ⟨p - n / 2 ^ ex * 2 ^ ex, by omega, hp⟩, rfl⟩)

/-- final memory: the property as stated -/
theorem assign_memory (ofInt : Int → α) (env : Nat → Nat → α) (op : AOp) (dst : Nat → α) (e : E)
    (n ex : Nat) (hn : n < 2 ^ 64) (hex : ex ≤ 64) (p : Nat) :
    (p < n → applyWrites (assignWrites ofInt env op dst e n (2 ^ ex)) dst p = op.ap (dst p) (evalS ofInt env e p)) ∧
    (n ≤ p → applyWrites (assignWrites ofInt env op dst e n (2 ^ ex)) dst p = dst p) := by
  have h := applyWrites_of_exact (assign_correct ofInt env op dst e n ex hn hex) dst p
  exact ⟨h.1, fun hp => h.2 (by omega)⟩

/-- non-vacuity: a depth-2 tree over `Int`, width 4, size 7 -/
example : applyWrites (assignWrites (fun k => k) (fun w p => (w : Int) * 10 + p) .add (fun p => (p : Int))
    (.bin .add (.t 1) (.bin .mul (.t 2) (.c 3))) 7 (2 ^ 2)) (fun p => (p : Int)) 5 = 5 + (15 + 25 * 3) := by
  decide

end Fastor.C02
