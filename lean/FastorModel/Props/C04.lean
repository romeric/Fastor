import FastorModel.Proofs.ViewsOdo
import FastorModel.Proofs.ViewsIseq
import FastorModel.Props.C02
/-
# C04 — Reading through an index or a slice returns exactly the selected elements

Property: scalar indexing `A(i0,...,ik)` denotes the row-major element with each negative index counted
from the end, and a slice built from any mixture of dynamic ranges, compile-time ranges, immediate
ranges, all/first/last and fixed integers denotes the tensor of extent `ceil((last-first)/step)` per axis
whose element `(j0,...,jk)` is `A(first0+j0*step0,...)`.  Evaluating a slice, alone or inside any
expression, yields exactly those elements in that order for every admissible range.

Reading of the statements (the model is `FastorModel/Model/Views.lean`, a transcription of Ranges.h,
IndexRetriever.h, BlockIndexing.h, the six view headers, `vector_setter`, `trivial_assign` and the
specialised constructors; every evaluator returns the *parent offsets* it reads, one per lane):

* `Enc` is what a user writes on one axis; `Enc.Adm n` says when that is a documented range on an axis of
  extent `n`; `Enc.first/count/step` is its documented meaning.  Spellings outside `Enc.Adm` are not judged.
* `rowMajor dims idx` is the offset of the element with multi-index `idx` (Horner form); `InRange dims idx`
  says `idx` is a multi-index below `dims`.
* `specOff pdims axs j` = `rowMajor pdims (first_k + j_k*step_k)_k`: the documented parent offset of
  element `j` of the slice — this is the specification; `flatIdx`, `unflat`, `odoInc`, the routes and the
  loops are the code.
* `View.WF`: the view class matches the rank (what overload resolution of `operator()` guarantees).
* consumer theorems use `WritesExactly ws D f` (Core/Writes.lean): the stores stay inside `D`, every
  position of `D` is stored to, and the last store to `p ∈ D` is `f p` — here `f p` is the parent offset
  whose element lands at result position `p`.

Not in these theorems (tied by the correspondence runs only): expressions mixing several
views (each leaf is covered; the node-wise combination is C02), and that the real `SIMDVector` load / `set` /
store are lane-wise (C08; here the symbolic runs use an ideal vector and the real types run against the oracle).
-/
namespace Fastor.C04
open Fastor Fastor.Views

/-- **the fixed views normalise exactly like the dynamic 2-D / n-D views** ("same logic as seq", Ranges.h) -/
theorem toPositive_eq_normN (N : Int) (s : Seq) : toPositive N s = normN N s :=
  Views.toPositive_eq_normN N s

/-- **extent**: for a forward range the number `seq::size()` / `range_detector` computes with truncating
    `/` and `%` is `ceil((last-first)/step)`: the unique `k` with `(k-1)*step < last-first <= k*step` -/
theorem size_eq_ceil (s : Seq) (hs : 0 < s.step) (hfl : s.first ≤ s.last) :
    (s.size - 1) * s.step < s.last - s.first ∧ s.last - s.first ≤ s.size * s.step ∧ 0 ≤ s.size := by
  obtain ⟨r, hr⟩ := Int.eq_ofNat_of_zero_le (show 0 ≤ s.last - s.first by omega)
  obtain ⟨t, ht⟩ := Int.eq_ofNat_of_zero_le (show 0 ≤ s.step by omega)
  have htpos : 0 < t := by omega
  rw [size_of_nat s r t hr ht htpos, hr, ht]
  -- `q = ⌈r / t⌉` through `r + t - 1 = t * q + m`, `m < t`
  have hd := Nat.div_add_mod (r + t - 1) t
  have hm := Nat.mod_lt (r + t - 1) htpos
  generalize (r + t - 1) / t = q at hd ⊢
  refine ⟨?_, ?_, Int.natCast_nonneg _⟩
  · have : ((q : Int) - 1) * t = ((t * q : Nat) : Int) - t := by push_cast; ring
    rw [this]; omega
  · have : (q : Int) * t = ((t * q : Nat) : Int) := by push_cast; ring
    rw [this]; omega

example : (Views.Seq.mk 1 8 3).size = 3 := by decide

/-- **normalisation (2-D, n-D and fixed views)**: every admissible spelling becomes `[first, last)` with
    `0 <= first < last <= n`, `first` the documented first element, and the documented number of elements -/
theorem norm_admissible (n : Nat) (e : Enc) (h : e.Adm n) (cls : Cls) (hc : cls ≠ .dyn1 ∨ e.isRange) :
    let s := cls.norm n e.seq
    0 ≤ s.first ∧ s.first < s.last ∧ s.last ≤ n ∧ 0 < s.step ∧
    Ax.ofSeq s = ⟨e.first n, e.stepN, e.countN n⟩ := by
  intro s
  have hb := adm_bounds n e h
  have hs : s = ⟨(e.first n : Nat), (e.last n : Nat), (e.stepN : Nat)⟩ := norm_eq n e h cls hc
  rw [hs, ofSeq_nat _ _ _ hb.2.2 (Nat.le_of_lt hb.1)]
  exact ⟨Int.natCast_nonneg _, Int.ofNat_lt.2 hb.1, Int.ofNat_le.2 hb.2.1, Int.natCast_pos.2 hb.2.2, rfl⟩

example : (Enc.idx (-2)).Adm 7 := by decide
example : (Enc.range 1 8 3).Adm 9 := by decide
example : (Enc.fromEnd 4 1 2).Adm 9 := by decide

/-- why `seq(int i)` and `fix<i>` must spell `i < -1` as `[i-1, i)` (`Seq.ofInt`): the naive `[i, i+1)` is read
    as "both ends from the end" and `fseq<-2,-1>` selects the last element of a 7-element axis, not element 5.
    (`seq(int)` was repaired earlier; `fix<i>` was still `fseq<i,i+1>` and is repaired on branch fix/c04.) -/
theorem fix_below_minus_one_counterexample : toPositive 7 ⟨-2, -1, 1⟩ = ⟨6, 7, 1⟩ := by decide

/-- **scalar indexing, all ranks**: for indices in `[-d_k, d_k)` the offset computed by
    `get_flat_index` (ranks 1–4 written out, rank >= 5 the products loop), with or without the bounds
    assertion, is the row-major offset of the element with every negative index counted from the end -/
theorem scalarIndex_correct (chk : Bool) (dims : List Nat) (args : List Int) (h : ValidArgs dims args) :
    scalarIndex chk dims args = some ((rowMajor dims (List.zipWith wrapNat dims args) : Nat) : Int) :=
  Views.scalarIndex_valid chk dims args h

/-- with `FASTOR_BOUNDS_CHECK`, an out-of-range index raises the assertion and nothing is accessed -/
theorem scalarIndex_checked (dims : List Nat) (args : List Int)
    (h : inBounds dims (List.zipWith wrapIdx dims args) = false) : scalarIndex true dims args = none :=
  Views.scalarIndex_checked_oob dims args h

example : ValidArgs [3, 4, 5, 2, 6] [-1, 2, -5, 0, 5] := by simp [ValidArgs]
example : scalarIndex true [3, 4] [-1, 4] = none := by decide

/-- **read_correct, flat scalar route** (`eval_s(idx)`: 1-D stride form, 2-D div/mod form, n-D
    `remaining` un-flatten loop + products sum): position `rowMajor dims j` of the evaluated slice is
    `A(first_0 + j_0*step_0, …)`, for every view class, rank, extents and in-range `j` -/
theorem read_correct (v : View) (hwf : v.WF) (j : List Nat) (hj : InRange (vdims v.axs) j) :
    v.evalS (rowMajor (vdims v.axs) j) = specOff v.pdims v.axs j := by
  have hjl : v.axs.length = j.length := by rw [← vdims_length]; exact inRange_length hj
  rw [← tevalS_correct v hwf j hjl]
  induction v, hwf using View.wf_cases with
  | h1 cls n a hc hwf =>
    match j, hjl with
    | [i], _ => rcases hc with rfl | rfl <;> simp [View.evalS, View.tevalS, rowMajor, horner, vdims]
  | h2 cls m n a0 a1 hc hwf =>
    -- the div/mod form of the 2-D views at `i * dim1 + k`, `k < dim1`
    match j, hjl, hj with
    | [i, k], _, hj =>
      have hk : k < a1.dim := hj.2.1
      have e : rowMajor (vdims [a0, a1]) [i, k] = i * a1.dim + k := by simp [rowMajor, horner, vdims]
      cases cls <;> simp only [is2D] at hc <;>
        simp only [e, View.evalS, View.tevalS, pos_div hk, pos_mod hk] <;> ring
  | hN cls pd axs hc hwf =>
    rcases hc with rfl | rfl <;>
      exact congrArg (flatIdx (prods pd) axs) (unflat_rowMajor hj)

example : (View.mk .dynN [3, 4, 9] [⟨1, 1, 2⟩, ⟨0, 2, 2⟩, ⟨0, 2, 4⟩]).WF ∧
    InRange (vdims [⟨1, 1, 2⟩, ⟨0, 2, 2⟩, ⟨0, 2, 4⟩]) [1, 1, 3] := by simp [View.WF, InRange, vdims]

/-- **flat vector route** (`eval(idx)`: strided `vector_setter(idx,step)` for 1-D views, per-lane
    un-flatten + `vector_setter(inds)` otherwise): lane `l` is what `eval_s(idx+l)` reads, for every width -/
theorem evalV_lanes (v : View) (hwf : v.WF) (V idx l : Nat) (hl : l < V) :
    (v.evalV V idx)[l]? = some (v.evalS (idx + l)) := by
  rw [evalV_eq v hwf, List.getElem?_map, List.getElem?_range hl, Option.map_some]

/-- **two-index routes of the 2-D views**: `eval_s(i,j)` reads the documented element `(i,j)`;
    lane `l` of `eval(i,j)` reads element `(i,j+l)` on both routes (one contiguous load when the last step
    is 1, strided gather otherwise) -/
theorem eval2_correct (cls : Cls) (h2 : is2D cls) (m n : Nat) (a0 a1 : Ax) (V i j l : Nat) (hl : l < V) :
    (View.mk cls [m, n] [a0, a1]).eval2S i j = specOff [m, n] [a0, a1] [i, j] ∧
    ((View.mk cls [m, n] [a0, a1]).eval2V V i j).2[l]? = some (specOff [m, n] [a0, a1] [i, j + l]) ∧
    (((View.mk cls [m, n] [a0, a1]).eval2V V i j).1 = true ↔ a1.step = 1) := by
  have h := Views.eval2V_lane cls h2 m n a0 a1 V i j l hl
  refine ⟨Views.eval2S_correct cls h2 m n a0 a1 i j, ?_, h.2⟩
  rw [h.1, Views.eval2S_correct cls h2 m n a0 a1 i (j + l)]

/-- **`teval_s(as)`** reads the documented element `as` (all classes and ranks) -/
theorem tevalS_correct (v : View) (hwf : v.WF) (as : List Nat) (hl : v.axs.length = as.length) :
    v.tevalS as = specOff v.pdims v.axs as :=
  Views.tevalS_correct v hwf as hl

/-- **routes_agree (`teval`)**: on the contiguous-load route and on the strided-gather route lane `l`
    reads the documented element `(as_0,…,as_last + l)` — the same element, whichever of the two routes the
    last extent and step select -/
theorem tevalV_row_routes (v : View) (hwf : v.WF) (V : Nat) (as : List Nat) (hl : v.axs.length = as.length)
    (hne : as ≠ []) (l : Nat) (hlV : l < V) (hr : v.route V ≠ .gather) :
    (v.tevalV V as)[l]? = some (specOff v.pdims v.axs (bumpLast as l)) := by
  rw [tevalV_row v hwf V as hl hne hr, List.getElem?_map, List.getElem?_range hlV, Option.map_some]

/-- **`teval`, per-lane gather route** (last extent not a multiple of the width): lane `l` reads the
    documented element at row-major position `rowMajor as + l` of the slice, continuing into the following
    rows — `l` steps of the odometer `as_[jt] += 1; if (as_[jt] < dims[jt]) break; else as_[jt] = 0` -/
theorem tevalV_gather_route (v : View) (hwf : v.WF) (V : Nat) (as : List Nat) (hne : v.axs ≠ [])
    (has : InRange (vdims v.axs) as) (l : Nat) (hlV : l < V) (hr : v.route V = .gather)
    (hfit : rowMajor (vdims v.axs) as + l < v.size) :
    ∃ j, InRange (vdims v.axs) j ∧ rowMajor (vdims v.axs) j = rowMajor (vdims v.axs) as + l ∧
      (v.tevalV V as)[l]? = some (specOff v.pdims v.axs j) := by
  obtain ⟨j1, j2⟩ := odoIter_spec (vdims v.axs) (by simpa [vdims] using hne) l as has hfit
  refine ⟨odoIter (vdims v.axs) l as, j1, j2, ?_⟩
  rw [tevalV_lane_gather v V as l hlV hr, flatIdx_eq _ _ _ hwf.1]
  rw [← vdims_length]
  exact inRange_length j1

/-- **one odometer step** (shared by the gather route and the constructors of rank >= 3): the row-major
    position advances by the increment (1, or `V` on the last axis when it is aligned), or the odometer runs
    over exactly at the end -/
theorem odometer_step (inc : Nat) (hinc : 0 < inc) (ds as : List Nat) (h : InRange ds as) (hf : LastFits ds as inc) :
    InRange ds (odoInc ds as inc).1 ∧
    (rowMajor ds as + inc < lprod ds →
      (odoInc ds as inc).2 = false ∧ rowMajor ds (odoInc ds as inc).1 = rowMajor ds as + inc) ∧
    (¬ rowMajor ds as + inc < lprod ds →
      (odoInc ds as inc).2 = true ∧ rowMajor ds (odoInc ds as inc).1 = 0 ∧ rowMajor ds as + inc = lprod ds) :=
  Views.odoInc_spec inc ds as h hf

/-- **consumer `trivial_assign`** (constructor of a tensor from a 1-D view; `+=`-family and flat
    expressions for every view): for every size and width the stores cover exactly the positions below
    `size()`, position `p` receiving what `eval_s(p)` reads — with `read_correct`, the documented element -/
theorem trivial_assign_correct (v : View) (hwf : v.WF) (V : Nat) (hV : 0 < V) :
    WritesExactly (v.trivialWrites V) (fun p => p < v.size) (fun p => v.evalS p) := by
  have h := writesExactly_range 0 v.size (fun i => v.evalS i) (fun p => v.evalS p) (fun j _ => by rw [Nat.zero_add])
  simp only [Nat.zero_add] at h
  rw [trivialWrites_eq v hwf V hV]
  exact writesExactly_congr h (by simp)

/-- **consumer: the two-index constructor loop** (2-D views and 2-D expressions containing them): for
    all result extents `M × N` and widths the stores cover exactly the positions below `M*N`, position
    `i*N + j` receiving the documented element `(i,j)` of the slice -/
theorem ctor2_correct (cls : Cls) (h2 : is2D cls) (m n : Nat) (a0 a1 : Ax) (V M N : Nat) (hV : 0 < V)
    (hN : 0 < N) :
    WritesExactly ((View.mk cls [m, n] [a0, a1]).ctor2Writes V M N) (fun p => p < M * N)
      (fun p => specOff [m, n] [a0, a1] [p / N, p % N]) := by
  have h := Views.ctor2Writes_exact cls h2 m n a0 a1 V M N hV
  intro p
  have hp := h p
  simp only [Views.eval2S_correct cls h2 m n a0 a1] at hp
  exact hp

example : applyWrites ((View.mk .dyn2 [5, 9] [⟨1, 2, 2⟩, ⟨2, 1, 5⟩]).ctor2Writes 4 2 5) (fun _ => 0) 7
    = specOff [5, 9] [⟨1, 2, 2⟩, ⟨2, 1, 5⟩] [1, 2] := by decide

/-- **consumer: the odometer constructors of rank >= 3** (`Tensor(const TensorViewExpr<…,DIMS>&)`,
    `Tensor(const TensorFixedViewExprnD&)`: vectorised with `teval` when the view is (strided-)vectorisable,
    scalar with `teval_s` otherwise; const views and expressions: always scalar): for every rank, extents and
    width, exactly the positions below `size()` are stored to, and position `rowMajor dims j` receives the
    documented element `j` of the slice -/
theorem ctorN_correct (v : View) (hwf : v.WF) (hcls : v.cls = .dynN ∨ v.cls = .fixN) (hne : v.axs ≠ [])
    (hpos : ∀ d ∈ vdims v.axs, 0 < d) (V : Nat) (hV : 0 < V) (vecAllowed : Bool) :
    (∀ j, InRange (vdims v.axs) j →
      lastWrite (v.ctorN V vecAllowed (vdims v.axs)).writes (rowMajor (vdims v.axs) j) = some (specOff v.pdims v.axs j)) ∧
    (∀ p, v.size ≤ p → lastWrite (v.ctorN V vecAllowed (vdims v.axs)).writes p = none) := by
  have h := Views.ctorN_exact v hwf hcls hne hpos V hV vecAllowed
  constructor
  · intro j hj
    have hlt : rowMajor (vdims v.axs) j < v.size := Views.rowMajor_lt hj
    have := (h _).1 hlt
    rw [this]
    show some (specOff v.pdims v.axs (unflat (vdims v.axs) (lprod (vdims v.axs)) (rowMajor (vdims v.axs) j))) = _
    rw [Views.unflat_rowMajor hj]
  · intro p hp
    exact (h p).2 (by omega)

example : lastWrite ((View.mk .dynN [3, 4, 9] [⟨1, 1, 2⟩, ⟨0, 2, 2⟩, ⟨0, 2, 4⟩]).ctorN 4 true [2, 2, 4]).writes 13
    = some (specOff [3, 4, 9] [⟨1, 1, 2⟩, ⟨0, 2, 2⟩, ⟨0, 2, 4⟩] [1, 1, 1]) := by decide

/-- **immediate sequences** `A(iseq<F,L,S>{}…)` (BlockIndexing.h: nested counted loops with counters, every
    element through scalar indexing): for every rank, extents and positive steps the (destination, source) pairs
    of the loop nest are exactly `(rowMajor result j, rowMajor parent (F_k + j_k*S_k))`, `j` below the result
    extents `ceil((L_k-F_k)/S_k)` — every result element is written, each from the documented element -/
theorem iseq_correct (pd rd : List Nat) (tr : List (Nat × Nat × Nat)) (h : IseqOk pd rd tr) (w : Nat × Nat) :
    w ∈ iseqLoop pd rd tr ↔ ∃ j, InRange rd j ∧ w = (rowMajor rd j, rowMajor pd (iseqSrc tr j)) := by
  induction pd generalizing rd tr w with
  | nil =>
    cases rd <;> cases tr <;> simp only [IseqOk] at h
    simp only [iseqLoop, List.mem_singleton]
    constructor
    · intro hw; exact ⟨[], trivial, by simp [hw, rowMajor, horner]⟩
    · rintro ⟨j, hj, rfl⟩
      cases j with
      | nil => simp [rowMajor, horner]
      | cons _ _ => simp [InRange] at hj
  | cons p pd ih =>
    cases rd with
    | nil => simp [IseqOk] at h
    | cons r rd =>
      cases tr with
      | nil => simp [IseqOk] at h
      | cons t tr =>
        obtain ⟨f, l, s⟩ := t
        simp only [IseqOk] at h
        obtain ⟨hs, hr, hrest⟩ := h
        obtain ⟨hl1, hl2⟩ := iseqOk_lengths hrest
        simp only [iseqLoop, zip_forRange, List.mem_flatMap, List.mem_map, List.mem_range]
        constructor
        · rintro ⟨ic, ⟨t, ht, rfl⟩, w', hw', rfl⟩
          obtain ⟨j, hj, rfl⟩ := (ih rd tr hrest w').1 hw'
          have hjl := inRange_length hj
          refine ⟨t :: j, ⟨by omega, hj⟩, ?_⟩
          simp only [iseqSrc]
          rw [rowMajor_cons _ _ _ _ hjl, rowMajor_cons _ _ _ _ (by rw [iseqSrc_length _ _ (by omega)]; omega)]
        · rintro ⟨j, hj, rfl⟩
          cases j with
          | nil => simp [InRange] at hj
          | cons t js =>
            simp only [InRange] at hj
            have hjl := inRange_length hj.2
            refine ⟨(f + t * s, t), ⟨t, by omega, rfl⟩, (rowMajor rd js, rowMajor pd (iseqSrc tr js)),
              (ih rd tr hrest _).2 ⟨js, hj.2, rfl⟩, ?_⟩
            simp only [iseqSrc]
            rw [rowMajor_cons _ _ _ _ hjl, rowMajor_cons _ _ _ _ (by rw [iseqSrc_length _ _ (by omega)]; omega)]

example : IseqOk [5, 6] [2, 2] [(0, 4, 2), (1, 6, 3)] := by simp [IseqOk, forCount]

/-- **diagonal views** `diag(A)`: the offsets `eval_s(i)` / lane `l` of `eval(i)` read (`it*N + it`) are those of
    the 1-D view of the flattened `n × n` parent with first 0 and step `n+1` (the model the driver runs, so that
    `evalV_lanes` and `trivial_assign_correct` apply to it), and that offset is the diagonal element `A(i,i)` -/
theorem diag_correct (n i : Nat) :
    (View.mk .dyn1 [n * n] [⟨0, n + 1, n⟩]).evalS i = rowMajor [n, n] [i, i] ∧
    (View.mk .dyn1 [n * n] [⟨0, n + 1, n⟩]).WF := by
  constructor
  · simp [View.evalS, rowMajor, horner]; ring
  · simp [View.WF]

/-- the loop bound `ROUND_DOWN(n,V)` of the consumers is the mask `n & ~(V-1)` in the source; for the
    power-of-two widths the library uses it is the arithmetic `n / V * V` the model's loops run to
    (the bit-level fact is `Fastor.C02.roundDown_pow2`) -/
theorem round_down_is_mask (n e : Nat) (hn : n < 2 ^ 64) (he : e ≤ 64) :
    Fastor.Expr.roundDown n (2 ^ e) = roundDownV n (2 ^ e) :=
  Fastor.C02.roundDown_pow2 n e hn he

end Fastor.C04
