import FastorModel.Proofs.Solve
import FastorModel.Props.C11
/-
  C12 — "For every square size, each implemented solve strategy (inverse-based, block and simple LU, and their pivoted forms) and
  both a vector and a multi-column right-hand side, the returned x satisfies ||A*x - b|| <= c*n*eps*cond(A)*||b|| for every A on
  which the strategy is defined […]. The lazy solve expression and the triangular substitution helpers obey the same bound."

  Proved here, over ANY field (exact arithmetic — what a wrong index, bound or permutation breaks), for ALL sizes n and ALL numbers of
  columns c (the vector overload is c = 1), about `Model/Solve.lean`, which transcribes the compile-time recursions
  `forward_subs_impl` / `backward_subs_impl` (including the backward inner product that starts AT the diagonal and relies on the
  zero-initialised x), `get_lu_solve` and the `solve<SolveCompType::…>` dispatch:
    forward_subs_correct, backward_subs_correct, lu_solve_correct (any factorisation `L*U = P*A`, any bijection p),
    solve_lu_correct (the four LU strategies, all n, via C11's lu_post), solve_inv_correct, solve_invPiv_correct
    — i.e. `A*X = B` for all six strategies.
  Not proved: the floating-point residual bound (measured by the harness: a test).
-/
namespace Fastor.C12
open Fastor.LU Finset

variable {K : Type} [Field K]

/-- `forward_subs(L[, p], B)`, every size, every number of columns: L unit lower triangular ⇒ `L * X = B∘p` -/
theorem forward_subs_correct (n c : Nat) (L B : Mat K) (p : Nat → Nat)
    (hdiag : ∀ i, i < n → L.get i i = 1) (hlz : ∀ i k, i < n → k < n → i < k → L.get i k = 0)
    (i j : Nat) (hi : i < n) (hj : j < c) :
    ∑ k ∈ range n, L.get i k * (forwardSubs n c L B p).get k j = B.get (p i) j := by
  rw [← forwardCol_solves n L B p j hdiag hlz i hi]
  exact sum_range_congr fun k hk => by rw [forwardSubs_get _ _ _ _ _ _ _ hk hj]

/-- `backward_subs(U, Y)`, every size, every number of columns: U upper triangular with non-zero diagonal ⇒ `U * X = Y` -/
theorem backward_subs_correct (n c : Nat) (U Y : Mat K)
    (huz : ∀ i k, i < n → k < n → k < i → U.get i k = 0) (hd : ∀ i, i < n → U.get i i ≠ 0)
    (i j : Nat) (hi : i < n) (hj : j < c) :
    ∑ k ∈ range n, U.get i k * (backwardSubs n c U Y).get k j = Y.get i j := by
  rw [← backwardCol_solves n U Y j huz hd i hi]
  exact sum_range_congr fun k hk => by rw [backwardSubs_get _ _ _ _ _ _ hk hj]

/-- `get_lu_solve(L, U, p, B)` after ANY correct factorisation `L*U = P*A` with a bijective `p`: `A * X = B`. -/
theorem lu_solve_correct (n c : Nat) (A L U B : Mat K) (perm : Array Nat)
    (h : IsLU n (applyPivotV n A perm) L U) (hd : ∀ i, i < n → U.get i i ≠ 0)
    (hsurj : ∀ v, v < n → ∃ i, i < n ∧ perm.getD i 0 = v)
    (r j : Nat) (hr : r < n) (hj : j < c) :
    ∑ k ∈ range n, A.get r k * (luSolve n c L U B (fun i => perm.getD i 0)).get k j = B.get r j := by
  exact luSolve_perm_solves n c A L U B perm _ (fun _ _ => rfl) h hd hsurj r j hr hj

/-- the LU strategy behind a solve strategy -/
def luStrategyOf : SolveStrategy → Option Strategy
  | .blockLU => some .block
  | .simpleLU => some .simple
  | .blockLUPiv => some .blockPiv
  | .simpleLUPiv => some .simplePiv
  | _ => none

/-- **solve_lu_correct** — `solve<SolveCompType::{Block,Simple}LU[Piv]>(A, B)`: EVERY size n, EVERY number of columns c (the
`Tensor<T,M>` overload is c = 1), every A on which the LU strategy is defined (C11) and whose `U` has a non-zero diagonal
(A invertible): `A * X = B`. -/
theorem solve_lu_correct (ops : InvOps K) (hops : InvSpec ops) (inv : Nat → Mat K → Mat K) (gt : K → K → Bool)
    (ss : SolveStrategy) (s : Strategy) (hs : luStrategyOf ss = some s)
    (n c : Nat) (A B : Mat K) (hdef : Fastor.LU.LUDefined ops gt s n A)
    (hd : ∀ i, i < n → (luPublicV ops gt s n A).U.get i i ≠ 0)
    (r j : Nat) (hr : r < n) (hj : j < c) :
    ∑ k ∈ range n, A.get r k * (solve ops inv gt ss n c A B).get k j = B.get r j := by
  have h := Fastor.LU.lu_post ops hops gt s n A hdef
  -- `get_lu_solve` reads `B` through the identity (unpivoted) or through the returned permutation, which then is the identity
  have key : ∀ p : Nat → Nat, (∀ i, i < n → p i = (luPublicV ops gt s n A).perm.getD i 0) →
      ∑ k ∈ range n, A.get r k * (luSolve n c (luPublicV ops gt s n A).L (luPublicV ops gt s n A).U B p).get k j = B.get r j :=
    fun p hp => luSolve_perm_solves n c A _ _ B _ p hp h.isLU hd h.surj r j hr hj
  cases ss with
  | simpleInv => cases hs
  | simpleInvPiv => cases hs
  | blockLU =>
    obtain rfl := Option.some.inj hs
    exact key id fun i hi => (range_getD n i hi).symm
  | simpleLU =>
    obtain rfl := Option.some.inj hs
    exact key id fun i hi => (range_getD n i hi).symm
  | blockLUPiv =>
    obtain rfl := Option.some.inj hs
    exact key _ fun _ _ => rfl
  | simpleLUPiv =>
    obtain rfl := Option.some.inj hs
    exact key _ fun _ _ => rfl

/-- `solve<SolveCompType::SimpleInv>(A, B) = matmul(inverse(A), B)`: if `inverse` returns a right inverse (C10) then `A * X = B` -/
theorem solve_inv_correct (ops : InvOps K) (inv : Nat → Mat K → Mat K) (gt : K → K → Bool) (n c : Nat) (A B : Mat K)
    (hinv : ∀ i m, i < n → m < n → ∑ k ∈ range n, A.get i k * (inv n A).get k m = if i = m then 1 else 0)
    (r j : Nat) (hr : r < n) (hj : j < c) :
    ∑ k ∈ range n, A.get r k * (solve ops inv gt .simpleInv n c A B).get k j = B.get r j := by
  show ∑ k ∈ range n, A.get r k * (Mat.mul n n c (inv n A) B).get k j = B.get r j
  rw [sum_range_congr fun k hk => by rw [get_mul _ _ _ _ _ _ _ hk hj], sum_assoc_left]
  exact sum_delta_mul hr _ _ fun m hm => hinv r m hr hm

/-- `solve<SolveCompType::SimpleInvPiv>(A, B)` — vector and matrix right-hand sides alike —
`= matmul(reconstruct_colwise(inverse(P*A), p), B)`: if `inverse` returns a right inverse of `P*A` (C10) then `A * X = B`, every size,
every number of columns.  (With the row scatter `reconstruct` that the matrix overload used before the repair, this is false.) -/
theorem solve_invPiv_correct (ops : InvOps K) (inv : Nat → Mat K → Mat K) (gt : K → K → Bool) (n c : Nat) (A B : Mat K)
    (hinv : ∀ i m, i < n → m < n →
      ∑ k ∈ range n, (applyPivotV n A (pivotPerm gt n A)).get i k * (inv n (applyPivotV n A (pivotPerm gt n A))).get k m
        = if i = m then 1 else 0)
    (r j : Nat) (hr : r < n) (hj : j < c) :
    ∑ k ∈ range n, A.get r k * (solve ops inv gt .simpleInvPiv n c A B).get k j = B.get r j := by
  have pb := pivotPerm_bijection gt n A
  exact solve_invPiv_solves n c A B _ _ pb.2.1 pb.2.2.1 pb.2.2.2 hinv r j hr hj

/-! ### the diagonal of `U` has no zero on C11's example matrices -/
/-- for `C11.exA` (size 9) the block strategy is the recursive kernel, whose `U` has the pivots evaluated in C11 on its diagonal -/
example : ∀ i, i < 9 → (luPublicV (execOps : InvOps ℚ) Fastor.C11.exGt .block 9 Fastor.C11.exA).U.get i i ≠ 0 := by
  show ∀ i, i < 9 → (luBlock (execOps : InvOps ℚ) 9 Fastor.C11.exA (Mat.zero 9 9) (Mat.zero 9 9)).2.get i i ≠ 0
  rw [luBlock, dif_neg (by decide), dif_pos (by decide)]
  exact Fastor.C11.exA_pivots
example : ∀ i, i < 9 → (luPublicV (execOps : InvOps ℚ) Fastor.C11.exGt .blockPiv 9 Fastor.C11.exB).U.get i i ≠ 0 := by
  show ∀ i, i < 9 → (luBlock (execOps : InvOps ℚ) 9
    (applyPivotV 9 Fastor.C11.exB (pivotPerm Fastor.C11.exGt 9 Fastor.C11.exB)) (Mat.zero 9 9) (Mat.zero 9 9)).2.get i i ≠ 0
  rw [Fastor.C11.exB_pivoted, luBlock, dif_neg (by decide), dif_pos (by decide)]
  exact Fastor.C11.exA_pivots

end Fastor.C12
