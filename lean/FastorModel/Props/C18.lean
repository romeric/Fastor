import FastorModel.Model.ViewAlias
import FastorModel.Proofs.ViewWrite
import FastorModel.Props.C05
/-
  C18 — overlapping slice assignment with noalias() acts on a snapshot of the source.

  Model: `Model/ViewAlias.lean` (`ViewObj` with the `_does_alias` flag, `guardedAssign` = copy the parent,
  assign into a view of the copy, `op=` the copy's view into the real view; `step`/`runHist` = histories on a
  stored view object) over the write model of C05 (`Model/ViewWrite.lean`), in which every iteration reads
  the CURRENT memory, so an unguarded overlapping assignment really shows the traversal-dependent result.

  The hypotheses `hnd`/`hd` ("the stored positions are pairwise distinct and lane j is stored at dpos j") are
  discharged for the 1-D classes (`noalias_snapshot_1d`) and the n-D classes of every rank (`noalias_snapshot_nd`, via
  the odometer enumeration of Proofs/Odometer.lean) and the 2-D classes (`noalias_snapshot_2d`).

  * `noalias_snapshot`         guarded assignment = evaluate the WHOLE right-hand side on the original contents,
                               then update: every selected element is `op(old, rhs(old) j)`, the rest is unchanged;
                               whatever the right-hand side reads (any overlap, any operator).
  * `perfect_overlap_no_flag`  without the flag, if the right-hand side reads the destination tensor only at the
                               element's own position (source and destination coincide exactly), the in-order
                               path gives the same result.
  * `flag_one_shot`            history theorem: on a view object whose class honours the flag, `noalias()` before
                               statement 0 sends exactly that statement through the copy; all later statements
                               (without a new `noalias()`) take the plain path.  `flag_cleared`, `scalar_keeps_flag`
                               (the scalar overloads neither test nor clear it), `ignored_flag` (classes that store
                               the flag but never test it always take the plain path).
-/
namespace Fastor.C18
open Fastor Fastor.ViewWrite Fastor.ViewAlias

variable {α : Type} [Add α] [Sub α] [Mul α] [Div α]

/-- **noalias_snapshot** -/
theorem noalias_snapshot (op : WOp) (its1 its2 : List Iter) (dpos : Nat → Nat) (r : Rhs α) (m : Nat → α)
    (hnd1 : ((lanesOf its1).map (·.1)).Nodup) (hnd2 : ((lanesOf its2).map (·.1)).Nodup)
    (hd2 : ∀ l ∈ lanesOf its2, dpos l.2 = l.1)
    (hsame : ∀ l ∈ lanesOf its2, l ∈ lanesOf its1) :
    (∀ l ∈ lanesOf its2, guardedAssign op its1 its2 dpos r m l.1 = op.ap (m l.1) (r.val m l.2)) ∧
    (∀ p, p ∉ (lanesOf its2).map (·.1) → guardedAssign op its1 its2 dpos r m p = m p) := by
  unfold guardedAssign
  have h1 := exec_spec .set (r.val m) its1 m hnd1
  have h2 := exec_spec op (fun j => exec .set (fun _ j => r.val m j) its1 m (dpos j)) its2 m hnd2
  refine ⟨?_, h2.2⟩
  intro l hl
  rw [h2.1 l hl, hd2 l hl]
  have := h1.1 l (hsame l hl)
  simp only [WOp.ap] at this
  rw [this]

/-- non-vacuity: `A(seq(1,4)).noalias() += A(seq(0,3))` on 5 integers, width 2: the shifted source is read
    from the original contents -/
example : (List.range 5).map (guardedAssign .add (linIters 2 false ⟨1, 1, 3⟩) (linIters 2 false ⟨1, 1, 3⟩)
      (fun j => j + 1) ⟨false, fun m j => m j⟩ (fun p => (10 : Int) * p)) = [0, 10, 30, 50, 40] := by decide

/-- the same statement WITHOUT the guard under width 2 differs (the hazard the property is about):
    `A(seq(1,4)) += A(seq(0,3))` in order -/
example : (List.range 5).map (exec .add (fun m j => m j) (linIters 2 false ⟨1, 1, 3⟩) (fun p => (10 : Int) * p))
    = [0, 10, 30, 60, 40] := by decide

/-- **perfect overlap needs no guard**: when the right-hand side reads the destination only at the lane's own position
    (`dpos j` is where lane `j` is stored), the in-order execution gives `op(old p, g (old p) j)` at every lane and
    keeps every other position -/
theorem perfect_overlap_no_flag (op : WOp) (its : List Iter) (g : α → Nat → α) (dpos : Nat → Nat) (m : Nat → α)
    (hnd : ((lanesOf its).map (·.1)).Nodup) (hd : ∀ l ∈ lanesOf its, dpos l.2 = l.1) :
    let rhs : (Nat → α) → Nat → α := fun mm j => g (mm (dpos j)) j
    (∀ l ∈ lanesOf its, exec op rhs its m l.1 = op.ap (m l.1) (g (m l.1) l.2)) ∧
    (∀ p, p ∉ (lanesOf its).map (·.1) → exec op rhs its m p = m p) := by
  intro rhs
  have h := exec_spec_local op rhs its m hnd (by
    intro m1 m2 l hl he
    show g (m1 (dpos l.2)) l.2 = g (m2 (dpos l.2)) l.2
    rw [hd l hl, he])
  refine ⟨?_, h.2⟩
  intro l hl
  rw [h.1 l hl]
  show op.ap (m l.1) (g (m (dpos l.2)) l.2) = _
  rw [hd l hl]

/-- under perfect overlap the unguarded execution equals the guarded one for the same right-hand side -/
theorem perfect_overlap_eq_guarded (op : WOp) (its : List Iter) (g : α → Nat → α) (dpos : Nat → Nat) (m : Nat → α)
    (hnd : ((lanesOf its).map (·.1)).Nodup) (hd : ∀ l ∈ lanesOf its, dpos l.2 = l.1) :
    exec op (fun mm j => g (mm (dpos j)) j) its m =
      guardedAssign op its its dpos ⟨false, fun mm j => g (mm (dpos j)) j⟩ m := by
  funext p
  have h1 := perfect_overlap_no_flag op its g dpos m hnd hd
  have h2 := noalias_snapshot op its its dpos ⟨false, fun mm j => g (mm (dpos j)) j⟩ m hnd hnd hd (fun _ h => h)
  by_cases hp : p ∈ (lanesOf its).map (·.1)
  · obtain ⟨l, hl, rfl⟩ := List.mem_map.1 hp
    rw [h1.1 l hl, h2.1 l hl]
    show _ = op.ap (m l.1) (g (m (dpos l.2)) l.2)
    rw [hd l hl]
  · rw [h1.2 p hp, h2.2 p hp]

example : (List.range 5).map (exec .mul (fun m j => m (j + 1) + 1) (linIters 2 true ⟨1, 1, 3⟩) (fun p => (p : Int)))
    = [0, 2, 6, 12, 4] := by decide

/-! ### the hypotheses discharged for the view classes -/

/-- `noalias_snapshot` for lanes listed through an index set: `lanesOf its = I.map (pos, j)`, `pos` injective on `I` -/
theorem noalias_indexed {ι : Type} (op : WOp) (its : List Iter) (dpos : Nat → Nat) (r : Rhs α) (m : Nat → α) (I : List ι)
    (pos j : ι → Nat) (hl : lanesOf its = I.map fun x => (pos x, j x)) (hnd : (I.map pos).Nodup)
    (hd : ∀ x ∈ I, dpos (j x) = pos x) :
    (∀ x ∈ I, guardedAssign op its its dpos r m (pos x) = op.ap (m (pos x)) (r.val m (j x))) ∧
    (∀ p, (∀ x ∈ I, p ≠ pos x) → guardedAssign op its its dpos r m p = m p) := by
  have hpos : (lanesOf its).map (·.1) = I.map pos := by rw [hl, List.map_map]; rfl
  have hnd' : ((lanesOf its).map (·.1)).Nodup := by rw [hpos]; exact hnd
  have h := noalias_snapshot op its its dpos r m hnd' hnd'
    (by rw [hl]; intro l hl'; obtain ⟨x, hx, rfl⟩ := List.mem_map.1 hl'; exact hd x hx) (fun _ h => h)
  rw [hpos, hl] at h
  exact ⟨fun x hx => h.1 _ (List.mem_map_of_mem hx),
    fun p hp => h.2 p (fun hin => by obtain ⟨x, hx, rfl⟩ := List.mem_map.1 hin; exact hp x hx rfl)⟩

/-- **noalias_snapshot, 1-D views** (dynamic and fixed): all extents, steps, widths, macro settings, operators and
    right-hand sides (reading the destination tensor anywhere) -/
theorem noalias_snapshot_1d (e : Nat) (he : e ≤ 64) (vea : Bool) (a : Ax) (hn : a.ext < 2 ^ 64) (hs : 0 < a.step)
    (op : WOp) (r : Rhs α) (m : Nat → α) :
    let its := linIters (2 ^ e) vea a
    let m' := guardedAssign op its its (fun j => j * a.step + a.first) r m
    (∀ k < a.ext, m' (k * a.step + a.first) = op.ap (m (k * a.step + a.first)) (r.val m k)) ∧
    (∀ p, (∀ k < a.ext, p ≠ k * a.step + a.first) → m' p = m p) := by
  have h := noalias_indexed op _ (fun j => j * a.step + a.first) r m (List.range a.ext) (fun k => k * a.step + a.first)
    (fun k => k) (C05.lin_lanes e he vea a hn) (by simpa using C05.run_nodup 0 a.first a.step a.ext hs) (fun _ _ => rfl)
  exact ⟨fun k hk => h.1 k (List.mem_range.2 hk), fun p hp => h.2 p (fun k hk => hp k (List.mem_range.1 hk))⟩

/-- **noalias_snapshot, 2-D views** (dynamic and fixed) -/
theorem noalias_snapshot_2d (e : Nat) (he : e ≤ 64) (vea : Bool) (N : Nat) (a0 a1 : Ax) (hn : a1.ext < 2 ^ 64)
    (hs0 : 0 < a0.step) (hs1 : 0 < a1.step) (hin : ∀ k < a1.ext, k * a1.step + a1.first < N) (he1 : 0 < a1.ext)
    (op : WOp) (r : Rhs α) (m : Nat → α) :
    let its := rowIters (2 ^ e) vea N a0 a1
    let pos := fun i k => (a0.step * i + a0.first) * N + (k * a1.step + a1.first)
    let m' := guardedAssign op its its (fun j => pos (j / a1.ext) (j % a1.ext)) r m
    (∀ i < a0.ext, ∀ k < a1.ext, m' (pos i k) = op.ap (m (pos i k)) (r.val m (i * a1.ext + k))) ∧
    (∀ p, (∀ i < a0.ext, ∀ k < a1.ext, p ≠ pos i k) → m' p = m p) := by
  intro its pos m'
  have hl := C05.row_lanes e he vea N a0 a1 hn
  have hnd := C05.row_nodup N a0 a1 hs0 hs1 hin
  rw [C05.flatMap_range_product, List.map_map] at hnd
  rw [C05.flatMap_range_product] at hl
  have h := noalias_indexed op its (fun j => pos (j / a1.ext) (j % a1.ext)) r m _ (fun x : Nat × Nat => pos x.1 x.2)
    (fun x => x.1 * a1.ext + x.2) hl hnd (fun x hx => by
      have hk := List.mem_range.1 (List.pair_mem_product.1 hx).2
      show pos ((x.1 * a1.ext + x.2) / a1.ext) ((x.1 * a1.ext + x.2) % a1.ext) = _
      rw [pos_div hk, pos_mod hk])
  exact ⟨fun i hi k hk => h.1 (i, k) (List.pair_mem_product.2 ⟨List.mem_range.2 hi, List.mem_range.2 hk⟩),
    fun p hp => h.2 p (fun x hx => hp x.1 (List.mem_range.1 (List.pair_mem_product.1 hx).1) x.2
      (List.mem_range.1 (List.pair_mem_product.1 hx).2))⟩

/-- **noalias_snapshot, n-D views of every rank** (the odometer classes), `dpos` being any function that maps the flat
    index of a multi-index of the slice to its position (the copy's view is read back through the same index map) -/
theorem noalias_snapshot_nd (V : Nat) (hV : 0 < V) (dims : List Nat) (axs : List Ax) (hne : axs ≠ [])
    (hin : C05.InBounds dims axs) (hlen : dims.length = axs.length) (hext : ∀ a ∈ axs, 0 < a.ext)
    (dpos : Nat → Nat) (hdpos : ∀ j ∈ box ((axs.map (·.ext)).map fun e => (e, 1)), dpos (flat (axs.map (·.ext)) j) = posOf dims axs j)
    (op : WOp) (r : Rhs α) (m : Nat → α) :
    let its := odoIters V dims axs false V
    let m' := guardedAssign op its its dpos r m
    (∀ j ∈ box ((axs.map (·.ext)).map fun e => (e, 1)),
        m' (posOf dims axs j) = op.ap (m (posOf dims axs j)) (r.val m (flat (axs.map (·.ext)) j))) ∧
    (∀ p, (∀ j ∈ box ((axs.map (·.ext)).map fun e => (e, 1)), p ≠ posOf dims axs j) → m' p = m p) := by
  have hl := odo_lanes V hV dims axs hne hlen hext V (Or.inl rfl)
  rw [incs_one] at hl
  exact noalias_indexed op _ dpos r m _ (posOf dims axs) (flat (axs.map (·.ext))) hl
    (by simpa only [Nat.zero_add] using C05.pos_nodup dims axs hin 0) hdpos

/-! ### the flag is one-shot -/

theorem flag_cleared (v : ViewObj) (hh : v.honours = true) : (v.noalias.after false).flag = false := by
  simp [ViewObj.after, ViewObj.takesGuardedPath, ViewObj.noalias, hh]

theorem scalar_keeps_flag (v : ViewObj) : v.after true = v := by
  simp [ViewObj.after, ViewObj.takesGuardedPath]

theorem ignored_flag (v : ViewObj) (hh : v.honours = false) (s : Bool) : v.takesGuardedPath s = false := by
  simp [ViewObj.takesGuardedPath, hh]

/-- statements that do not call `noalias()` and are run on an object whose flag is clear take the plain path
    and leave the flag clear -/
theorem plain_run (its1 its2 : List Iter) (dpos : Nat → Nat) (v : ViewObj) (hf : v.flag = false) (m : Nat → α)
    (h : List (Stmt α)) (hna : ∀ s ∈ h, s.na = false) :
    runHist its1 its2 dpos v m h = (v, h.foldl (fun m s => assign s.op its1 s.r m) m) := by
  unfold runHist
  induction h generalizing m with
  | nil => rfl
  | cons s h ih =>
    simp only [List.foldl_cons]
    have hs : s.na = false := hna s (by simp)
    have hstep : step its1 its2 dpos (v, m) s = (v, assign s.op its1 s.r m) := by
      simp [step, hs, ViewObj.takesGuardedPath, ViewObj.after, hf]
    rw [hstep]
    exact ih _ (fun s' hs' => hna s' (List.mem_cons_of_mem _ hs'))

/-- **flag_one_shot**: `v.noalias()` followed by a history whose first statement has a tensor-valued right-hand
    side and in which `noalias()` is not called again: the first statement — and only it — goes through the copy -/
theorem flag_one_shot (its1 its2 : List Iter) (dpos : Nat → Nat) (v : ViewObj) (hh : v.honours = true) (m : Nat → α)
    (s : Stmt α) (hs : s.scalarRhs = false) (h : List (Stmt α)) (hna : ∀ s' ∈ h, s'.na = false) :
    runHist its1 its2 dpos v.noalias m (s :: h) =
      ({ v with flag := false },
        h.foldl (fun m s => assign s.op its1 s.r m) (guardedAssign s.op its1 its2 dpos s.r m)) := by
  have hstep : step its1 its2 dpos (v.noalias, m) s = ({ v with flag := false }, guardedAssign s.op its1 its2 dpos s.r m) := by
    cases hsn : s.na <;> simp [step, hsn, hs, ViewObj.takesGuardedPath, ViewObj.after, ViewObj.noalias, hh]
  have := plain_run its1 its2 dpos { v with flag := false } rfl (guardedAssign s.op its1 its2 dpos s.r m) h hna
  unfold runHist at this ⊢
  simp only [List.foldl_cons, hstep]
  exact this

example : ∃ s : Stmt Int, s.scalarRhs = false := ⟨⟨false, false, .add, ⟨false, fun m j => m j⟩⟩, rfl⟩

end Fastor.C18
