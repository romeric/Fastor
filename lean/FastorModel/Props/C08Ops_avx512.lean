import FastorModel.Proofs.SimdLanes
import FastorModel.Generated.Simd_avx512
import Mathlib.Tactic.IntervalCases
/-! GENERATED by tools/gen_c08_ops.py — lane theorems of C08 for the member definitions of configuration `avx512`.
    The right-hand side depends only on (element type, ABI, operation name): `lane i (v OP w) = lane i v OP lane i w`,
    scalar operands on the side they were written; integer division, a scalar loop in the source, is `BitVec.sdiv` of the
    lanes.  Every lane theorem has the binders `(fo : FOps) … (i : Nat) (hi : i < lanes)`, needed or not; a store theorem is
    about every word of the memory.  A horizontal operation is the left fold over the lanes, for float / double under
    `hassoc`, `hcomm` (the code fixes one association tree, compared with the fold by `ac_rfl`; Props/C08.lean states the
    trees).  The complex classes carry `hfma` (a fused multiply-add is the product, then the sum) and `hneg` (adding the
    sign-flipped value is subtracting) for the members that call fused operations.  A proof unfolds the member and reads
    lane `i` of each intrinsic (`lane`, Proofs/SimdLanes.lean); the SSE2 64-bit `abs` opens `lane64` into its halves. -/
namespace Fastor.C08Ops.avx512
open Fastor.Simd Fastor.Gen
set_option linter.unusedVariables false

theorem float_avx512_ctor (fo : FOps) (i : Nat) (hi : i < 16) :
    (avx512.float_avx512.ctor) i = 0#32 := by
  simp only [avx512.float_avx512.ctor, lane]
theorem float_avx512_ctor_s (fo : FOps) (num : BitVec 32) (i : Nat) (hi : i < 16) :
    (avx512.float_avx512.ctor_s num) i = num := by
  simp only [avx512.float_avx512.ctor_s, lane]
theorem float_avx512_ctor_r (fo : FOps) (regi : Reg) (i : Nat) (hi : i < 16) :
    (avx512.float_avx512.ctor_r regi) i = regi i := by
  simp only [avx512.float_avx512.ctor_r]
theorem float_avx512_load_pb (fo : FOps) (self : Reg) (data : Reg) (Aligned : Bool) (i : Nat) (hi : i < 16) :
    (avx512.float_avx512.load_pb self data Aligned) i = data i := by
  simp only [avx512.float_avx512.load_pb, lane, Nat.zero_add]
theorem float_avx512_store_pb (fo : FOps) (self : Reg) (data : Reg) (Aligned : Bool) (i : Nat) :
    (avx512.float_avx512.store_pb self data Aligned) i = (if i < 16 then self i else data i) := by
  simp only [avx512.float_avx512.store_pb, lane, Nat.zero_le, Nat.zero_add, Nat.sub_zero]
theorem float_avx512_aligned_load_p (fo : FOps) (self : Reg) (data : Reg) (i : Nat) (hi : i < 16) :
    (avx512.float_avx512.aligned_load_p self data) i = data i := by
  simp only [avx512.float_avx512.aligned_load_p, lane, Nat.zero_add]
theorem float_avx512_aligned_store_p (fo : FOps) (self : Reg) (data : Reg) (i : Nat) :
    (avx512.float_avx512.aligned_store_p self data) i = (if i < 16 then self i else data i) := by
  simp only [avx512.float_avx512.aligned_store_p, lane, Nat.zero_le, Nat.zero_add, Nat.sub_zero]
theorem float_avx512_mask_load_pmb (fo : FOps) (self : Reg) (a : Reg) (mask : Nat) (Aligned : Bool) (i : Nat) (hi : i < 16) :
    (avx512.float_avx512.mask_load_pmb self a mask Aligned) i = (if (mask >>> i) % 2 = 1 then a i else self i) := by
  simp only [avx512.float_avx512.mask_load_pmb, lane, Nat.zero_add]
theorem float_avx512_mask_store_pmb (fo : FOps) (self : Reg) (a : Reg) (mask : Nat) (Aligned : Bool) (i : Nat) :
    (avx512.float_avx512.mask_store_pmb self a mask Aligned) i = (if i < 16 ∧ (mask >>> (i)) % 2 = 1 then self i else a i) := by
  simp only [avx512.float_avx512.mask_store_pmb, lane, Nat.zero_le, Nat.zero_add, Nat.sub_zero]
theorem float_avx512_set_s (fo : FOps) (self : Reg) (num : BitVec 32) (i : Nat) (hi : i < 16) :
    (avx512.float_avx512.set_s self num) i = num := by
  simp only [avx512.float_avx512.set_s, lane]
theorem float_avx512_set_ssssssssssssssss (fo : FOps) (self : Reg) (num0 : BitVec 32) (num1 : BitVec 32) (num2 : BitVec 32) (num3 : BitVec 32) (num4 : BitVec 32) (num5 : BitVec 32) (num6 : BitVec 32) (num7 : BitVec 32) (num8 : BitVec 32) (num9 : BitVec 32) (num10 : BitVec 32) (num11 : BitVec 32) (num12 : BitVec 32) (num13 : BitVec 32) (num14 : BitVec 32) (num15 : BitVec 32) (i : Nat) (hi : i < 16) :
    (avx512.float_avx512.set_ssssssssssssssss self num0 num1 num2 num3 num4 num5 num6 num7 num8 num9 num10 num11 num12 num13 num14 num15) i = [num15, num14, num13, num12, num11, num10, num9, num8, num7, num6, num5, num4, num3, num2, num1, num0].getD i 0 := by
  simp only [avx512.float_avx512.set_ssssssssssssssss, lane]
theorem float_avx512_set_sequential_s (fo : FOps) (self : Reg) (num0 : BitVec 32) (i : Nat) (hi : i < 16) :
    (avx512.float_avx512.set_sequential_s fo self num0) i = [num0, fo.add32 num0 1065353216#32, fo.add32 num0 1073741824#32, fo.add32 num0 1077936128#32, fo.add32 num0 1082130432#32, fo.add32 num0 1084227584#32, fo.add32 num0 1086324736#32, fo.add32 num0 1088421888#32, fo.add32 num0 1090519040#32, fo.add32 num0 1091567616#32, fo.add32 num0 1092616192#32, fo.add32 num0 1093664768#32, fo.add32 num0 1094713344#32, fo.add32 num0 1095761920#32, fo.add32 num0 1096810496#32, fo.add32 num0 1097859072#32].getD i 0 := by
  simp only [avx512.float_avx512.set_sequential_s, lane]
theorem float_avx512_iadd_s (fo : FOps) (self : Reg) (num : BitVec 32) (i : Nat) (hi : i < 16) :
    (avx512.float_avx512.iadd_s fo self num) i = fo.add32 (self i) (num) := by
  simp only [avx512.float_avx512.iadd_s, lane]
theorem float_avx512_iadd_r (fo : FOps) (self : Reg) (regi : Reg) (i : Nat) (hi : i < 16) :
    (avx512.float_avx512.iadd_r fo self regi) i = fo.add32 (self i) (regi i) := by
  simp only [avx512.float_avx512.iadd_r, lane]
theorem float_avx512_iadd_v (fo : FOps) (self : Reg) (a : Reg) (i : Nat) (hi : i < 16) :
    (avx512.float_avx512.iadd_v fo self a) i = fo.add32 (self i) (a i) := by
  simp only [avx512.float_avx512.iadd_v, lane]
theorem float_avx512_isub_s (fo : FOps) (self : Reg) (num : BitVec 32) (i : Nat) (hi : i < 16) :
    (avx512.float_avx512.isub_s fo self num) i = fo.sub32 (self i) (num) := by
  simp only [avx512.float_avx512.isub_s, lane]
theorem float_avx512_isub_r (fo : FOps) (self : Reg) (regi : Reg) (i : Nat) (hi : i < 16) :
    (avx512.float_avx512.isub_r fo self regi) i = fo.sub32 (self i) (regi i) := by
  simp only [avx512.float_avx512.isub_r, lane]
theorem float_avx512_isub_v (fo : FOps) (self : Reg) (a : Reg) (i : Nat) (hi : i < 16) :
    (avx512.float_avx512.isub_v fo self a) i = fo.sub32 (self i) (a i) := by
  simp only [avx512.float_avx512.isub_v, lane]
theorem float_avx512_imul_s (fo : FOps) (self : Reg) (num : BitVec 32) (i : Nat) (hi : i < 16) :
    (avx512.float_avx512.imul_s fo self num) i = fo.mul32 (self i) (num) := by
  simp only [avx512.float_avx512.imul_s, lane]
theorem float_avx512_imul_r (fo : FOps) (self : Reg) (regi : Reg) (i : Nat) (hi : i < 16) :
    (avx512.float_avx512.imul_r fo self regi) i = fo.mul32 (self i) (regi i) := by
  simp only [avx512.float_avx512.imul_r, lane]
theorem float_avx512_imul_v (fo : FOps) (self : Reg) (a : Reg) (i : Nat) (hi : i < 16) :
    (avx512.float_avx512.imul_v fo self a) i = fo.mul32 (self i) (a i) := by
  simp only [avx512.float_avx512.imul_v, lane]
theorem float_avx512_idiv_s (fo : FOps) (self : Reg) (num : BitVec 32) (i : Nat) (hi : i < 16) :
    (avx512.float_avx512.idiv_s fo self num) i = fo.div32 (self i) (num) := by
  simp only [avx512.float_avx512.idiv_s, lane]
theorem float_avx512_idiv_r (fo : FOps) (self : Reg) (regi : Reg) (i : Nat) (hi : i < 16) :
    (avx512.float_avx512.idiv_r fo self regi) i = fo.div32 (self i) (regi i) := by
  simp only [avx512.float_avx512.idiv_r, lane]
theorem float_avx512_idiv_v (fo : FOps) (self : Reg) (a : Reg) (i : Nat) (hi : i < 16) :
    (avx512.float_avx512.idiv_v fo self a) i = fo.div32 (self i) (a i) := by
  simp only [avx512.float_avx512.idiv_v, lane]
theorem float_avx512_reverse (fo : FOps) (self : Reg) (i : Nat) (hi : i < 16) :
    (avx512.float_avx512.reverse self) i = self (15 - i) := by
  simp only [avx512.float_avx512.reverse, avx512.mm512_reverse_ps, lane]
  interval_cases i <;> rfl
theorem float_avx512_add_vv (fo : FOps) (a : Reg) (b : Reg) (i : Nat) (hi : i < 16) :
    (avx512.float_avx512.add_vv fo a b) i = fo.add32 (a i) (b i) := by
  simp only [avx512.float_avx512.add_vv, lane]
theorem float_avx512_add_vs (fo : FOps) (a : Reg) (b : BitVec 32) (i : Nat) (hi : i < 16) :
    (avx512.float_avx512.add_vs fo a b) i = fo.add32 (a i) (b) := by
  simp only [avx512.float_avx512.add_vs, lane]
theorem float_avx512_add_sv (fo : FOps) (a : BitVec 32) (b : Reg) (i : Nat) (hi : i < 16) :
    (avx512.float_avx512.add_sv fo a b) i = fo.add32 (a) (b i) := by
  simp only [avx512.float_avx512.add_sv, lane]
theorem float_avx512_pos (fo : FOps) (b : Reg) (i : Nat) (hi : i < 16) :
    (avx512.float_avx512.pos b) i = b i := by
  simp only [avx512.float_avx512.pos]
theorem float_avx512_sub_vv (fo : FOps) (a : Reg) (b : Reg) (i : Nat) (hi : i < 16) :
    (avx512.float_avx512.sub_vv fo a b) i = fo.sub32 (a i) (b i) := by
  simp only [avx512.float_avx512.sub_vv, lane]
theorem float_avx512_sub_vs (fo : FOps) (a : Reg) (b : BitVec 32) (i : Nat) (hi : i < 16) :
    (avx512.float_avx512.sub_vs fo a b) i = fo.sub32 (a i) (b) := by
  simp only [avx512.float_avx512.sub_vs, lane]
theorem float_avx512_sub_sv (fo : FOps) (a : BitVec 32) (b : Reg) (i : Nat) (hi : i < 16) :
    (avx512.float_avx512.sub_sv fo a b) i = fo.sub32 (a) (b i) := by
  simp only [avx512.float_avx512.sub_sv, lane]
theorem float_avx512_neg (fo : FOps) (b : Reg) (i : Nat) (hi : i < 16) :
    (avx512.float_avx512.neg b) i = fneg32 (b i) := by
  simp only [avx512.float_avx512.neg, avx512.mm512_neg_ps, lane, fneg32, sign32]
theorem float_avx512_mul_vv (fo : FOps) (a : Reg) (b : Reg) (i : Nat) (hi : i < 16) :
    (avx512.float_avx512.mul_vv fo a b) i = fo.mul32 (a i) (b i) := by
  simp only [avx512.float_avx512.mul_vv, lane]
theorem float_avx512_mul_vs (fo : FOps) (a : Reg) (b : BitVec 32) (i : Nat) (hi : i < 16) :
    (avx512.float_avx512.mul_vs fo a b) i = fo.mul32 (a i) (b) := by
  simp only [avx512.float_avx512.mul_vs, lane]
theorem float_avx512_mul_sv (fo : FOps) (a : BitVec 32) (b : Reg) (i : Nat) (hi : i < 16) :
    (avx512.float_avx512.mul_sv fo a b) i = fo.mul32 (a) (b i) := by
  simp only [avx512.float_avx512.mul_sv, lane]
theorem float_avx512_div_vv (fo : FOps) (a : Reg) (b : Reg) (i : Nat) (hi : i < 16) :
    (avx512.float_avx512.div_vv fo a b) i = fo.div32 (a i) (b i) := by
  simp only [avx512.float_avx512.div_vv, lane]
theorem float_avx512_div_vs (fo : FOps) (a : Reg) (b : BitVec 32) (i : Nat) (hi : i < 16) :
    (avx512.float_avx512.div_vs fo a b) i = fo.div32 (a i) (b) := by
  simp only [avx512.float_avx512.div_vs, lane]
theorem float_avx512_div_sv (fo : FOps) (a : BitVec 32) (b : Reg) (i : Nat) (hi : i < 16) :
    (avx512.float_avx512.div_sv fo a b) i = fo.div32 (a) (b i) := by
  simp only [avx512.float_avx512.div_sv, lane]
theorem float_avx512_sqrt (fo : FOps) (a : Reg) (i : Nat) (hi : i < 16) :
    (avx512.float_avx512.sqrt fo a) i = fo.sqrt32 (a i) := by
  simp only [avx512.float_avx512.sqrt, lane]
theorem float_avx_ctor (fo : FOps) (i : Nat) (hi : i < 8) :
    (avx512.float_avx.ctor) i = 0#32 := by
  simp only [avx512.float_avx.ctor, lane]
theorem float_avx_ctor_s (fo : FOps) (num : BitVec 32) (i : Nat) (hi : i < 8) :
    (avx512.float_avx.ctor_s num) i = num := by
  simp only [avx512.float_avx.ctor_s, lane]
theorem float_avx_ctor_r (fo : FOps) (regi : Reg) (i : Nat) (hi : i < 8) :
    (avx512.float_avx.ctor_r regi) i = regi i := by
  simp only [avx512.float_avx.ctor_r]
theorem float_avx_load_pb (fo : FOps) (self : Reg) (data : Reg) (Aligned : Bool) (i : Nat) (hi : i < 8) :
    (avx512.float_avx.load_pb self data Aligned) i = data i := by
  simp only [avx512.float_avx.load_pb, lane, Nat.zero_add]
theorem float_avx_store_pb (fo : FOps) (self : Reg) (data : Reg) (Aligned : Bool) (i : Nat) :
    (avx512.float_avx.store_pb self data Aligned) i = (if i < 8 then self i else data i) := by
  simp only [avx512.float_avx.store_pb, lane, Nat.zero_le, Nat.zero_add, Nat.sub_zero]
theorem float_avx_aligned_load_p (fo : FOps) (self : Reg) (data : Reg) (i : Nat) (hi : i < 8) :
    (avx512.float_avx.aligned_load_p self data) i = data i := by
  simp only [avx512.float_avx.aligned_load_p, lane, Nat.zero_add]
theorem float_avx_aligned_store_p (fo : FOps) (self : Reg) (data : Reg) (i : Nat) :
    (avx512.float_avx.aligned_store_p self data) i = (if i < 8 then self i else data i) := by
  simp only [avx512.float_avx.aligned_store_p, lane, Nat.zero_le, Nat.zero_add, Nat.sub_zero]
theorem float_avx_mask_load_pmb (fo : FOps) (self : Reg) (a : Reg) (mask : Nat) (Aligned : Bool) (i : Nat) (hi : i < 8) :
    (avx512.float_avx.mask_load_pmb self a mask Aligned) i = (if (mask >>> i) % 2 = 1 then a i else self i) := by
  simp only [avx512.float_avx.mask_load_pmb, lane, Nat.zero_add]
theorem float_avx_mask_store_pmb (fo : FOps) (self : Reg) (a : Reg) (mask : Nat) (Aligned : Bool) (i : Nat) :
    (avx512.float_avx.mask_store_pmb self a mask Aligned) i = (if i < 8 ∧ (mask >>> (i)) % 2 = 1 then self i else a i) := by
  simp only [avx512.float_avx.mask_store_pmb, lane, Nat.zero_le, Nat.zero_add, Nat.sub_zero]
theorem float_avx_set_s (fo : FOps) (self : Reg) (num : BitVec 32) (i : Nat) (hi : i < 8) :
    (avx512.float_avx.set_s self num) i = num := by
  simp only [avx512.float_avx.set_s, lane]
theorem float_avx_set_ssssssss (fo : FOps) (self : Reg) (num0 : BitVec 32) (num1 : BitVec 32) (num2 : BitVec 32) (num3 : BitVec 32) (num4 : BitVec 32) (num5 : BitVec 32) (num6 : BitVec 32) (num7 : BitVec 32) (i : Nat) (hi : i < 8) :
    (avx512.float_avx.set_ssssssss self num0 num1 num2 num3 num4 num5 num6 num7) i = [num7, num6, num5, num4, num3, num2, num1, num0].getD i 0 := by
  simp only [avx512.float_avx.set_ssssssss, lane]
theorem float_avx_set_sequential_s (fo : FOps) (self : Reg) (num0 : BitVec 32) (i : Nat) (hi : i < 8) :
    (avx512.float_avx.set_sequential_s fo self num0) i = [num0, fo.add32 num0 1065353216#32, fo.add32 num0 1073741824#32, fo.add32 num0 1077936128#32, fo.add32 num0 1082130432#32, fo.add32 num0 1084227584#32, fo.add32 num0 1086324736#32, fo.add32 num0 1088421888#32].getD i 0 := by
  simp only [avx512.float_avx.set_sequential_s, lane]
theorem float_avx_iadd_s (fo : FOps) (self : Reg) (num : BitVec 32) (i : Nat) (hi : i < 8) :
    (avx512.float_avx.iadd_s fo self num) i = fo.add32 (self i) (num) := by
  simp only [avx512.float_avx.iadd_s, lane]
theorem float_avx_iadd_r (fo : FOps) (self : Reg) (regi : Reg) (i : Nat) (hi : i < 8) :
    (avx512.float_avx.iadd_r fo self regi) i = fo.add32 (self i) (regi i) := by
  simp only [avx512.float_avx.iadd_r, lane]
theorem float_avx_iadd_v (fo : FOps) (self : Reg) (a : Reg) (i : Nat) (hi : i < 8) :
    (avx512.float_avx.iadd_v fo self a) i = fo.add32 (self i) (a i) := by
  simp only [avx512.float_avx.iadd_v, lane]
theorem float_avx_isub_s (fo : FOps) (self : Reg) (num : BitVec 32) (i : Nat) (hi : i < 8) :
    (avx512.float_avx.isub_s fo self num) i = fo.sub32 (self i) (num) := by
  simp only [avx512.float_avx.isub_s, lane]
theorem float_avx_isub_r (fo : FOps) (self : Reg) (regi : Reg) (i : Nat) (hi : i < 8) :
    (avx512.float_avx.isub_r fo self regi) i = fo.sub32 (self i) (regi i) := by
  simp only [avx512.float_avx.isub_r, lane]
theorem float_avx_isub_v (fo : FOps) (self : Reg) (a : Reg) (i : Nat) (hi : i < 8) :
    (avx512.float_avx.isub_v fo self a) i = fo.sub32 (self i) (a i) := by
  simp only [avx512.float_avx.isub_v, lane]
theorem float_avx_imul_s (fo : FOps) (self : Reg) (num : BitVec 32) (i : Nat) (hi : i < 8) :
    (avx512.float_avx.imul_s fo self num) i = fo.mul32 (self i) (num) := by
  simp only [avx512.float_avx.imul_s, lane]
theorem float_avx_imul_r (fo : FOps) (self : Reg) (regi : Reg) (i : Nat) (hi : i < 8) :
    (avx512.float_avx.imul_r fo self regi) i = fo.mul32 (self i) (regi i) := by
  simp only [avx512.float_avx.imul_r, lane]
theorem float_avx_imul_v (fo : FOps) (self : Reg) (a : Reg) (i : Nat) (hi : i < 8) :
    (avx512.float_avx.imul_v fo self a) i = fo.mul32 (self i) (a i) := by
  simp only [avx512.float_avx.imul_v, lane]
theorem float_avx_idiv_s (fo : FOps) (self : Reg) (num : BitVec 32) (i : Nat) (hi : i < 8) :
    (avx512.float_avx.idiv_s fo self num) i = fo.div32 (self i) (num) := by
  simp only [avx512.float_avx.idiv_s, lane]
theorem float_avx_idiv_r (fo : FOps) (self : Reg) (regi : Reg) (i : Nat) (hi : i < 8) :
    (avx512.float_avx.idiv_r fo self regi) i = fo.div32 (self i) (regi i) := by
  simp only [avx512.float_avx.idiv_r, lane]
theorem float_avx_idiv_v (fo : FOps) (self : Reg) (a : Reg) (i : Nat) (hi : i < 8) :
    (avx512.float_avx.idiv_v fo self a) i = fo.div32 (self i) (a i) := by
  simp only [avx512.float_avx.idiv_v, lane]
theorem float_avx_sum (fo : FOps) (hassoc : ∀ x y z, fo.add32 (fo.add32 x y) z = fo.add32 x (fo.add32 y z)) (hcomm : ∀ x y, fo.add32 x y = fo.add32 y x) (self : Reg) :
    avx512.float_avx.sum fo self = [(self 1), (self 2), (self 3), (self 4), (self 5), (self 6), (self 7)].foldl fo.add32 ((self 0)) := by
  have : Std.Associative fo.add32 := ⟨hassoc⟩
  have : Std.Commutative fo.add32 := ⟨hcomm⟩
  simp only [avx512.float_avx.sum, avx512.mm256_sum_ps, avx512.mm_sum_ps, lane, List.foldl, simprocAttr]
  ac_rfl
theorem float_avx_product (fo : FOps) (hassoc : ∀ x y z, fo.mul32 (fo.mul32 x y) z = fo.mul32 x (fo.mul32 y z)) (hcomm : ∀ x y, fo.mul32 x y = fo.mul32 y x) (self : Reg) :
    avx512.float_avx.product fo self = [(self 1), (self 2), (self 3), (self 4), (self 5), (self 6), (self 7)].foldl fo.mul32 ((self 0)) := by
  have : Std.Associative fo.mul32 := ⟨hassoc⟩
  have : Std.Commutative fo.mul32 := ⟨hcomm⟩
  simp only [avx512.float_avx.product, avx512.mm256_prod_ps, avx512.mm_prod_ps, lane, List.foldl, simprocAttr]
  ac_rfl
theorem float_avx_reverse (fo : FOps) (self : Reg) (i : Nat) (hi : i < 8) :
    (avx512.float_avx.reverse self) i = self (7 - i) := by
  simp only [avx512.float_avx.reverse, avx512.mm256_reverse_ps, lane]
  interval_cases i <;> rfl
theorem float_avx_minimum (fo : FOps) (hassoc : ∀ x y z, fo.min32 (fo.min32 x y) z = fo.min32 x (fo.min32 y z)) (hcomm : ∀ x y, fo.min32 x y = fo.min32 y x) (self : Reg) :
    avx512.float_avx.minimum fo self = [(self 1), (self 2), (self 3), (self 4), (self 5), (self 6), (self 7)].foldl fo.min32 ((self 0)) := by
  have : Std.Associative fo.min32 := ⟨hassoc⟩
  have : Std.Commutative fo.min32 := ⟨hcomm⟩
  simp only [avx512.float_avx.minimum, avx512.mm256_hmin_ps, avx512.mm_reverse_ps, lane, List.foldl, simprocAttr]
  ac_rfl
theorem float_avx_maximum (fo : FOps) (hassoc : ∀ x y z, fo.max32 (fo.max32 x y) z = fo.max32 x (fo.max32 y z)) (hcomm : ∀ x y, fo.max32 x y = fo.max32 y x) (self : Reg) :
    avx512.float_avx.maximum fo self = [(self 1), (self 2), (self 3), (self 4), (self 5), (self 6), (self 7)].foldl fo.max32 ((self 0)) := by
  have : Std.Associative fo.max32 := ⟨hassoc⟩
  have : Std.Commutative fo.max32 := ⟨hcomm⟩
  simp only [avx512.float_avx.maximum, avx512.mm256_hmax_ps, avx512.mm_reverse_ps, lane, List.foldl, simprocAttr]
  ac_rfl
theorem float_avx_add_vv (fo : FOps) (a : Reg) (b : Reg) (i : Nat) (hi : i < 8) :
    (avx512.float_avx.add_vv fo a b) i = fo.add32 (a i) (b i) := by
  simp only [avx512.float_avx.add_vv, lane]
theorem float_avx_add_vs (fo : FOps) (a : Reg) (b : BitVec 32) (i : Nat) (hi : i < 8) :
    (avx512.float_avx.add_vs fo a b) i = fo.add32 (a i) (b) := by
  simp only [avx512.float_avx.add_vs, lane]
theorem float_avx_add_sv (fo : FOps) (a : BitVec 32) (b : Reg) (i : Nat) (hi : i < 8) :
    (avx512.float_avx.add_sv fo a b) i = fo.add32 (a) (b i) := by
  simp only [avx512.float_avx.add_sv, lane]
theorem float_avx_pos (fo : FOps) (b : Reg) (i : Nat) (hi : i < 8) :
    (avx512.float_avx.pos b) i = b i := by
  simp only [avx512.float_avx.pos]
theorem float_avx_sub_vv (fo : FOps) (a : Reg) (b : Reg) (i : Nat) (hi : i < 8) :
    (avx512.float_avx.sub_vv fo a b) i = fo.sub32 (a i) (b i) := by
  simp only [avx512.float_avx.sub_vv, lane]
theorem float_avx_sub_vs (fo : FOps) (a : Reg) (b : BitVec 32) (i : Nat) (hi : i < 8) :
    (avx512.float_avx.sub_vs fo a b) i = fo.sub32 (a i) (b) := by
  simp only [avx512.float_avx.sub_vs, lane]
theorem float_avx_sub_sv (fo : FOps) (a : BitVec 32) (b : Reg) (i : Nat) (hi : i < 8) :
    (avx512.float_avx.sub_sv fo a b) i = fo.sub32 (a) (b i) := by
  simp only [avx512.float_avx.sub_sv, lane]
theorem float_avx_neg (fo : FOps) (b : Reg) (i : Nat) (hi : i < 8) :
    (avx512.float_avx.neg b) i = fneg32 (b i) := by
  simp only [avx512.float_avx.neg, avx512.mm256_neg_ps, lane, fneg32, sign32]
theorem float_avx_mul_vv (fo : FOps) (a : Reg) (b : Reg) (i : Nat) (hi : i < 8) :
    (avx512.float_avx.mul_vv fo a b) i = fo.mul32 (a i) (b i) := by
  simp only [avx512.float_avx.mul_vv, lane]
theorem float_avx_mul_vs (fo : FOps) (a : Reg) (b : BitVec 32) (i : Nat) (hi : i < 8) :
    (avx512.float_avx.mul_vs fo a b) i = fo.mul32 (a i) (b) := by
  simp only [avx512.float_avx.mul_vs, lane]
theorem float_avx_mul_sv (fo : FOps) (a : BitVec 32) (b : Reg) (i : Nat) (hi : i < 8) :
    (avx512.float_avx.mul_sv fo a b) i = fo.mul32 (a) (b i) := by
  simp only [avx512.float_avx.mul_sv, lane]
theorem float_avx_div_vv (fo : FOps) (a : Reg) (b : Reg) (i : Nat) (hi : i < 8) :
    (avx512.float_avx.div_vv fo a b) i = fo.div32 (a i) (b i) := by
  simp only [avx512.float_avx.div_vv, lane]
theorem float_avx_div_vs (fo : FOps) (a : Reg) (b : BitVec 32) (i : Nat) (hi : i < 8) :
    (avx512.float_avx.div_vs fo a b) i = fo.div32 (a i) (b) := by
  simp only [avx512.float_avx.div_vs, lane]
theorem float_avx_div_sv (fo : FOps) (a : BitVec 32) (b : Reg) (i : Nat) (hi : i < 8) :
    (avx512.float_avx.div_sv fo a b) i = fo.div32 (a) (b i) := by
  simp only [avx512.float_avx.div_sv, lane]
theorem float_avx_sqrt (fo : FOps) (a : Reg) (i : Nat) (hi : i < 8) :
    (avx512.float_avx.sqrt fo a) i = fo.sqrt32 (a i) := by
  simp only [avx512.float_avx.sqrt, lane]
theorem float_avx_abs (fo : FOps) (a : Reg) (i : Nat) (hi : i < 8) :
    (avx512.float_avx.abs a) i = fabs32 (a i) := by
  simp only [avx512.float_avx.abs, avx512.mm256_abs_ps, lane, fabs32, sign32]
theorem float_sse_ctor (fo : FOps) (i : Nat) (hi : i < 4) :
    (avx512.float_sse.ctor) i = 0#32 := by
  simp only [avx512.float_sse.ctor, lane]
theorem float_sse_ctor_s (fo : FOps) (num : BitVec 32) (i : Nat) (hi : i < 4) :
    (avx512.float_sse.ctor_s num) i = num := by
  simp only [avx512.float_sse.ctor_s, lane]
theorem float_sse_ctor_r (fo : FOps) (regi : Reg) (i : Nat) (hi : i < 4) :
    (avx512.float_sse.ctor_r regi) i = regi i := by
  simp only [avx512.float_sse.ctor_r]
theorem float_sse_load_pb (fo : FOps) (self : Reg) (data : Reg) (Aligned : Bool) (i : Nat) (hi : i < 4) :
    (avx512.float_sse.load_pb self data Aligned) i = data i := by
  simp only [avx512.float_sse.load_pb, lane, Nat.zero_add]
theorem float_sse_store_pb (fo : FOps) (self : Reg) (data : Reg) (Aligned : Bool) (i : Nat) :
    (avx512.float_sse.store_pb self data Aligned) i = (if i < 4 then self i else data i) := by
  simp only [avx512.float_sse.store_pb, lane, Nat.zero_le, Nat.zero_add, Nat.sub_zero]
theorem float_sse_aligned_load_p (fo : FOps) (self : Reg) (data : Reg) (i : Nat) (hi : i < 4) :
    (avx512.float_sse.aligned_load_p self data) i = data i := by
  simp only [avx512.float_sse.aligned_load_p, lane, Nat.zero_add]
theorem float_sse_aligned_store_p (fo : FOps) (self : Reg) (data : Reg) (i : Nat) :
    (avx512.float_sse.aligned_store_p self data) i = (if i < 4 then self i else data i) := by
  simp only [avx512.float_sse.aligned_store_p, lane, Nat.zero_le, Nat.zero_add, Nat.sub_zero]
theorem float_sse_mask_load_pmb (fo : FOps) (self : Reg) (a : Reg) (mask : Nat) (Aligned : Bool) (i : Nat) (hi : i < 4) :
    (avx512.float_sse.mask_load_pmb self a mask Aligned) i = (if (mask >>> i) % 2 = 1 then a i else self i) := by
  simp only [avx512.float_sse.mask_load_pmb, lane, Nat.zero_add]
theorem float_sse_mask_store_pmb (fo : FOps) (self : Reg) (a : Reg) (mask : Nat) (Aligned : Bool) (i : Nat) :
    (avx512.float_sse.mask_store_pmb self a mask Aligned) i = (if i < 4 ∧ (mask >>> (i)) % 2 = 1 then self i else a i) := by
  simp only [avx512.float_sse.mask_store_pmb, lane, Nat.zero_le, Nat.zero_add, Nat.sub_zero]
theorem float_sse_set_s (fo : FOps) (self : Reg) (num : BitVec 32) (i : Nat) (hi : i < 4) :
    (avx512.float_sse.set_s self num) i = num := by
  simp only [avx512.float_sse.set_s, lane]
theorem float_sse_set_ssss (fo : FOps) (self : Reg) (num0 : BitVec 32) (num1 : BitVec 32) (num2 : BitVec 32) (num3 : BitVec 32) (i : Nat) (hi : i < 4) :
    (avx512.float_sse.set_ssss self num0 num1 num2 num3) i = [num3, num2, num1, num0].getD i 0 := by
  simp only [avx512.float_sse.set_ssss, lane]
theorem float_sse_set_sequential_s (fo : FOps) (self : Reg) (num0 : BitVec 32) (i : Nat) (hi : i < 4) :
    (avx512.float_sse.set_sequential_s fo self num0) i = [num0, fo.add32 num0 1065353216#32, fo.add32 num0 1073741824#32, fo.add32 num0 1077936128#32].getD i 0 := by
  simp only [avx512.float_sse.set_sequential_s, lane]
theorem float_sse_iadd_s (fo : FOps) (self : Reg) (num : BitVec 32) (i : Nat) (hi : i < 4) :
    (avx512.float_sse.iadd_s fo self num) i = fo.add32 (self i) (num) := by
  simp only [avx512.float_sse.iadd_s, lane]
theorem float_sse_iadd_r (fo : FOps) (self : Reg) (regi : Reg) (i : Nat) (hi : i < 4) :
    (avx512.float_sse.iadd_r fo self regi) i = fo.add32 (self i) (regi i) := by
  simp only [avx512.float_sse.iadd_r, lane]
theorem float_sse_iadd_v (fo : FOps) (self : Reg) (a : Reg) (i : Nat) (hi : i < 4) :
    (avx512.float_sse.iadd_v fo self a) i = fo.add32 (self i) (a i) := by
  simp only [avx512.float_sse.iadd_v, lane]
theorem float_sse_isub_s (fo : FOps) (self : Reg) (num : BitVec 32) (i : Nat) (hi : i < 4) :
    (avx512.float_sse.isub_s fo self num) i = fo.sub32 (self i) (num) := by
  simp only [avx512.float_sse.isub_s, lane]
theorem float_sse_isub_r (fo : FOps) (self : Reg) (regi : Reg) (i : Nat) (hi : i < 4) :
    (avx512.float_sse.isub_r fo self regi) i = fo.sub32 (self i) (regi i) := by
  simp only [avx512.float_sse.isub_r, lane]
theorem float_sse_isub_v (fo : FOps) (self : Reg) (a : Reg) (i : Nat) (hi : i < 4) :
    (avx512.float_sse.isub_v fo self a) i = fo.sub32 (self i) (a i) := by
  simp only [avx512.float_sse.isub_v, lane]
theorem float_sse_imul_s (fo : FOps) (self : Reg) (num : BitVec 32) (i : Nat) (hi : i < 4) :
    (avx512.float_sse.imul_s fo self num) i = fo.mul32 (self i) (num) := by
  simp only [avx512.float_sse.imul_s, lane]
theorem float_sse_imul_r (fo : FOps) (self : Reg) (regi : Reg) (i : Nat) (hi : i < 4) :
    (avx512.float_sse.imul_r fo self regi) i = fo.mul32 (self i) (regi i) := by
  simp only [avx512.float_sse.imul_r, lane]
theorem float_sse_imul_v (fo : FOps) (self : Reg) (a : Reg) (i : Nat) (hi : i < 4) :
    (avx512.float_sse.imul_v fo self a) i = fo.mul32 (self i) (a i) := by
  simp only [avx512.float_sse.imul_v, lane]
theorem float_sse_idiv_s (fo : FOps) (self : Reg) (num : BitVec 32) (i : Nat) (hi : i < 4) :
    (avx512.float_sse.idiv_s fo self num) i = fo.div32 (self i) (num) := by
  simp only [avx512.float_sse.idiv_s, lane]
theorem float_sse_idiv_r (fo : FOps) (self : Reg) (regi : Reg) (i : Nat) (hi : i < 4) :
    (avx512.float_sse.idiv_r fo self regi) i = fo.div32 (self i) (regi i) := by
  simp only [avx512.float_sse.idiv_r, lane]
theorem float_sse_idiv_v (fo : FOps) (self : Reg) (a : Reg) (i : Nat) (hi : i < 4) :
    (avx512.float_sse.idiv_v fo self a) i = fo.div32 (self i) (a i) := by
  simp only [avx512.float_sse.idiv_v, lane]
theorem float_sse_sum (fo : FOps) (hassoc : ∀ x y z, fo.add32 (fo.add32 x y) z = fo.add32 x (fo.add32 y z)) (hcomm : ∀ x y, fo.add32 x y = fo.add32 y x) (self : Reg) :
    avx512.float_sse.sum fo self = [(self 1), (self 2), (self 3)].foldl fo.add32 ((self 0)) := by
  have : Std.Associative fo.add32 := ⟨hassoc⟩
  have : Std.Commutative fo.add32 := ⟨hcomm⟩
  simp only [avx512.float_sse.sum, avx512.mm_sum_ps, lane, List.foldl, simprocAttr]
  ac_rfl
theorem float_sse_product (fo : FOps) (hassoc : ∀ x y z, fo.mul32 (fo.mul32 x y) z = fo.mul32 x (fo.mul32 y z)) (hcomm : ∀ x y, fo.mul32 x y = fo.mul32 y x) (self : Reg) :
    avx512.float_sse.product fo self = [(self 1), (self 2), (self 3)].foldl fo.mul32 ((self 0)) := by
  have : Std.Associative fo.mul32 := ⟨hassoc⟩
  have : Std.Commutative fo.mul32 := ⟨hcomm⟩
  simp only [avx512.float_sse.product, avx512.mm_prod_ps, lane, List.foldl, simprocAttr]
  ac_rfl
theorem float_sse_reverse (fo : FOps) (self : Reg) (i : Nat) (hi : i < 4) :
    (avx512.float_sse.reverse self) i = self (3 - i) := by
  simp only [avx512.float_sse.reverse, avx512.mm_reverse_ps, lane]
  interval_cases i <;> rfl
theorem float_sse_minimum (fo : FOps) (hassoc : ∀ x y z, fo.min32 (fo.min32 x y) z = fo.min32 x (fo.min32 y z)) (hcomm : ∀ x y, fo.min32 x y = fo.min32 y x) (self : Reg) :
    avx512.float_sse.minimum fo self = [(self 1), (self 2), (self 3)].foldl fo.min32 ((self 0)) := by
  have : Std.Associative fo.min32 := ⟨hassoc⟩
  have : Std.Commutative fo.min32 := ⟨hcomm⟩
  simp only [avx512.float_sse.minimum, avx512.mm_hmin_ps, avx512.mm_reverse_ps, lane, List.foldl, simprocAttr]
  ac_rfl
theorem float_sse_maximum (fo : FOps) (hassoc : ∀ x y z, fo.max32 (fo.max32 x y) z = fo.max32 x (fo.max32 y z)) (hcomm : ∀ x y, fo.max32 x y = fo.max32 y x) (self : Reg) :
    avx512.float_sse.maximum fo self = [(self 1), (self 2), (self 3)].foldl fo.max32 ((self 0)) := by
  have : Std.Associative fo.max32 := ⟨hassoc⟩
  have : Std.Commutative fo.max32 := ⟨hcomm⟩
  simp only [avx512.float_sse.maximum, avx512.mm_hmax_ps, avx512.mm_reverse_ps, lane, List.foldl, simprocAttr]
  ac_rfl
theorem float_sse_add_vv (fo : FOps) (a : Reg) (b : Reg) (i : Nat) (hi : i < 4) :
    (avx512.float_sse.add_vv fo a b) i = fo.add32 (a i) (b i) := by
  simp only [avx512.float_sse.add_vv, lane]
theorem float_sse_add_vs (fo : FOps) (a : Reg) (b : BitVec 32) (i : Nat) (hi : i < 4) :
    (avx512.float_sse.add_vs fo a b) i = fo.add32 (a i) (b) := by
  simp only [avx512.float_sse.add_vs, lane]
theorem float_sse_add_sv (fo : FOps) (a : BitVec 32) (b : Reg) (i : Nat) (hi : i < 4) :
    (avx512.float_sse.add_sv fo a b) i = fo.add32 (a) (b i) := by
  simp only [avx512.float_sse.add_sv, lane]
theorem float_sse_pos (fo : FOps) (b : Reg) (i : Nat) (hi : i < 4) :
    (avx512.float_sse.pos b) i = b i := by
  simp only [avx512.float_sse.pos]
theorem float_sse_sub_vv (fo : FOps) (a : Reg) (b : Reg) (i : Nat) (hi : i < 4) :
    (avx512.float_sse.sub_vv fo a b) i = fo.sub32 (a i) (b i) := by
  simp only [avx512.float_sse.sub_vv, lane]
theorem float_sse_sub_vs (fo : FOps) (a : Reg) (b : BitVec 32) (i : Nat) (hi : i < 4) :
    (avx512.float_sse.sub_vs fo a b) i = fo.sub32 (a i) (b) := by
  simp only [avx512.float_sse.sub_vs, lane]
theorem float_sse_sub_sv (fo : FOps) (a : BitVec 32) (b : Reg) (i : Nat) (hi : i < 4) :
    (avx512.float_sse.sub_sv fo a b) i = fo.sub32 (a) (b i) := by
  simp only [avx512.float_sse.sub_sv, lane]
theorem float_sse_neg (fo : FOps) (b : Reg) (i : Nat) (hi : i < 4) :
    (avx512.float_sse.neg b) i = fneg32 (b i) := by
  simp only [avx512.float_sse.neg, avx512.mm_neg_ps, lane, fneg32, sign32]
theorem float_sse_mul_vv (fo : FOps) (a : Reg) (b : Reg) (i : Nat) (hi : i < 4) :
    (avx512.float_sse.mul_vv fo a b) i = fo.mul32 (a i) (b i) := by
  simp only [avx512.float_sse.mul_vv, lane]
theorem float_sse_mul_vs (fo : FOps) (a : Reg) (b : BitVec 32) (i : Nat) (hi : i < 4) :
    (avx512.float_sse.mul_vs fo a b) i = fo.mul32 (a i) (b) := by
  simp only [avx512.float_sse.mul_vs, lane]
theorem float_sse_mul_sv (fo : FOps) (a : BitVec 32) (b : Reg) (i : Nat) (hi : i < 4) :
    (avx512.float_sse.mul_sv fo a b) i = fo.mul32 (a) (b i) := by
  simp only [avx512.float_sse.mul_sv, lane]
theorem float_sse_div_vv (fo : FOps) (a : Reg) (b : Reg) (i : Nat) (hi : i < 4) :
    (avx512.float_sse.div_vv fo a b) i = fo.div32 (a i) (b i) := by
  simp only [avx512.float_sse.div_vv, lane]
theorem float_sse_div_vs (fo : FOps) (a : Reg) (b : BitVec 32) (i : Nat) (hi : i < 4) :
    (avx512.float_sse.div_vs fo a b) i = fo.div32 (a i) (b) := by
  simp only [avx512.float_sse.div_vs, lane]
theorem float_sse_div_sv (fo : FOps) (a : BitVec 32) (b : Reg) (i : Nat) (hi : i < 4) :
    (avx512.float_sse.div_sv fo a b) i = fo.div32 (a) (b i) := by
  simp only [avx512.float_sse.div_sv, lane]
theorem float_sse_sqrt (fo : FOps) (a : Reg) (i : Nat) (hi : i < 4) :
    (avx512.float_sse.sqrt fo a) i = fo.sqrt32 (a i) := by
  simp only [avx512.float_sse.sqrt, lane]
theorem float_sse_abs (fo : FOps) (a : Reg) (i : Nat) (hi : i < 4) :
    (avx512.float_sse.abs a) i = fabs32 (a i) := by
  simp only [avx512.float_sse.abs, avx512.mm_abs_ps, lane, fabs32, sign32]
theorem double_avx512_ctor (fo : FOps) (i : Nat) (hi : i < 8) :
    lane64 (avx512.double_avx512.ctor) i = 0#64 := by
  simp only [avx512.double_avx512.ctor, lane]
theorem double_avx512_ctor_s (fo : FOps) (num : BitVec 64) (i : Nat) (hi : i < 8) :
    lane64 (avx512.double_avx512.ctor_s num) i = num := by
  simp only [avx512.double_avx512.ctor_s, lane]
theorem double_avx512_ctor_r (fo : FOps) (regi : Reg) (i : Nat) (hi : i < 8) :
    lane64 (avx512.double_avx512.ctor_r regi) i = lane64 regi i := by
  simp only [avx512.double_avx512.ctor_r]
theorem double_avx512_load_pb (fo : FOps) (self : Reg) (data : Reg) (Aligned : Bool) (i : Nat) (hi : i < 8) :
    lane64 (avx512.double_avx512.load_pb self data Aligned) i = lane64 data i := by
  simp only [avx512.double_avx512.load_pb, lane, Nat.zero_mod, Nat.zero_div, Nat.zero_add]
theorem double_avx512_store_pb (fo : FOps) (self : Reg) (data : Reg) (Aligned : Bool) (i : Nat) :
    (avx512.double_avx512.store_pb self data Aligned) i = (if i < 16 then self i else data i) := by
  simp only [avx512.double_avx512.store_pb, lane, Nat.zero_le, Nat.zero_add, Nat.sub_zero]
theorem double_avx512_aligned_load_p (fo : FOps) (self : Reg) (data : Reg) (i : Nat) (hi : i < 8) :
    lane64 (avx512.double_avx512.aligned_load_p self data) i = lane64 data i := by
  simp only [avx512.double_avx512.aligned_load_p, lane, Nat.zero_mod, Nat.zero_div, Nat.zero_add]
theorem double_avx512_aligned_store_p (fo : FOps) (self : Reg) (data : Reg) (i : Nat) :
    (avx512.double_avx512.aligned_store_p self data) i = (if i < 16 then self i else data i) := by
  simp only [avx512.double_avx512.aligned_store_p, lane, Nat.zero_le, Nat.zero_add, Nat.sub_zero]
theorem double_avx512_mask_load_pmb (fo : FOps) (self : Reg) (a : Reg) (mask : Nat) (Aligned : Bool) (i : Nat) (hi : i < 8) :
    lane64 (avx512.double_avx512.mask_load_pmb self a mask Aligned) i = (if (mask >>> i) % 2 = 1 then lane64 a i else lane64 self i) := by
  simp only [avx512.double_avx512.mask_load_pmb, lane, Nat.zero_mod, Nat.zero_div, Nat.zero_add]
theorem double_avx512_mask_store_pmb (fo : FOps) (self : Reg) (a : Reg) (mask : Nat) (Aligned : Bool) (i : Nat) :
    (avx512.double_avx512.mask_store_pmb self a mask Aligned) i = (if i < 16 ∧ (mask >>> (i / 2)) % 2 = 1 then self i else a i) := by
  simp only [avx512.double_avx512.mask_store_pmb, lane, Nat.zero_le, Nat.zero_add, Nat.sub_zero]
theorem double_avx512_set_s (fo : FOps) (self : Reg) (num : BitVec 64) (i : Nat) (hi : i < 8) :
    lane64 (avx512.double_avx512.set_s self num) i = num := by
  simp only [avx512.double_avx512.set_s, lane]
theorem double_avx512_set_ssssssss (fo : FOps) (self : Reg) (num0 : BitVec 64) (num1 : BitVec 64) (num2 : BitVec 64) (num3 : BitVec 64) (num4 : BitVec 64) (num5 : BitVec 64) (num6 : BitVec 64) (num7 : BitVec 64) (i : Nat) (hi : i < 8) :
    lane64 (avx512.double_avx512.set_ssssssss self num0 num1 num2 num3 num4 num5 num6 num7) i = [num7, num6, num5, num4, num3, num2, num1, num0].getD i 0 := by
  simp only [avx512.double_avx512.set_ssssssss, lane]
theorem double_avx512_set_sequential_s (fo : FOps) (self : Reg) (num0 : BitVec 64) (i : Nat) (hi : i < 8) :
    lane64 (avx512.double_avx512.set_sequential_s fo self num0) i = [num0, fo.add64 num0 4607182418800017408#64, fo.add64 num0 4611686018427387904#64, fo.add64 num0 4613937818241073152#64, fo.add64 num0 4616189618054758400#64, fo.add64 num0 4617315517961601024#64, fo.add64 num0 4618441417868443648#64, fo.add64 num0 4619567317775286272#64].getD i 0 := by
  simp only [avx512.double_avx512.set_sequential_s, lane]
theorem double_avx512_iadd_s (fo : FOps) (self : Reg) (num : BitVec 64) (i : Nat) (hi : i < 8) :
    lane64 (avx512.double_avx512.iadd_s fo self num) i = fo.add64 (lane64 self i) (num) := by
  simp only [avx512.double_avx512.iadd_s, lane]
theorem double_avx512_iadd_r (fo : FOps) (self : Reg) (regi : Reg) (i : Nat) (hi : i < 8) :
    lane64 (avx512.double_avx512.iadd_r fo self regi) i = fo.add64 (lane64 self i) (lane64 regi i) := by
  simp only [avx512.double_avx512.iadd_r, lane]
theorem double_avx512_iadd_v (fo : FOps) (self : Reg) (a : Reg) (i : Nat) (hi : i < 8) :
    lane64 (avx512.double_avx512.iadd_v fo self a) i = fo.add64 (lane64 self i) (lane64 a i) := by
  simp only [avx512.double_avx512.iadd_v, lane]
theorem double_avx512_isub_s (fo : FOps) (self : Reg) (num : BitVec 64) (i : Nat) (hi : i < 8) :
    lane64 (avx512.double_avx512.isub_s fo self num) i = fo.sub64 (lane64 self i) (num) := by
  simp only [avx512.double_avx512.isub_s, lane]
theorem double_avx512_isub_r (fo : FOps) (self : Reg) (regi : Reg) (i : Nat) (hi : i < 8) :
    lane64 (avx512.double_avx512.isub_r fo self regi) i = fo.sub64 (lane64 self i) (lane64 regi i) := by
  simp only [avx512.double_avx512.isub_r, lane]
theorem double_avx512_isub_v (fo : FOps) (self : Reg) (a : Reg) (i : Nat) (hi : i < 8) :
    lane64 (avx512.double_avx512.isub_v fo self a) i = fo.sub64 (lane64 self i) (lane64 a i) := by
  simp only [avx512.double_avx512.isub_v, lane]
theorem double_avx512_imul_s (fo : FOps) (self : Reg) (num : BitVec 64) (i : Nat) (hi : i < 8) :
    lane64 (avx512.double_avx512.imul_s fo self num) i = fo.mul64 (lane64 self i) (num) := by
  simp only [avx512.double_avx512.imul_s, lane]
theorem double_avx512_imul_r (fo : FOps) (self : Reg) (regi : Reg) (i : Nat) (hi : i < 8) :
    lane64 (avx512.double_avx512.imul_r fo self regi) i = fo.mul64 (lane64 self i) (lane64 regi i) := by
  simp only [avx512.double_avx512.imul_r, lane]
theorem double_avx512_imul_v (fo : FOps) (self : Reg) (a : Reg) (i : Nat) (hi : i < 8) :
    lane64 (avx512.double_avx512.imul_v fo self a) i = fo.mul64 (lane64 self i) (lane64 a i) := by
  simp only [avx512.double_avx512.imul_v, lane]
theorem double_avx512_idiv_s (fo : FOps) (self : Reg) (num : BitVec 64) (i : Nat) (hi : i < 8) :
    lane64 (avx512.double_avx512.idiv_s fo self num) i = fo.div64 (lane64 self i) (num) := by
  simp only [avx512.double_avx512.idiv_s, lane]
theorem double_avx512_idiv_r (fo : FOps) (self : Reg) (regi : Reg) (i : Nat) (hi : i < 8) :
    lane64 (avx512.double_avx512.idiv_r fo self regi) i = fo.div64 (lane64 self i) (lane64 regi i) := by
  simp only [avx512.double_avx512.idiv_r, lane]
theorem double_avx512_idiv_v (fo : FOps) (self : Reg) (a : Reg) (i : Nat) (hi : i < 8) :
    lane64 (avx512.double_avx512.idiv_v fo self a) i = fo.div64 (lane64 self i) (lane64 a i) := by
  simp only [avx512.double_avx512.idiv_v, lane]
theorem double_avx512_reverse (fo : FOps) (self : Reg) (i : Nat) (hi : i < 8) :
    lane64 (avx512.double_avx512.reverse self) i = lane64 self (7 - i) := by
  simp only [avx512.double_avx512.reverse, avx512.mm512_reverse_pd, lane]
  interval_cases i <;> rfl
theorem double_avx512_add_vv (fo : FOps) (a : Reg) (b : Reg) (i : Nat) (hi : i < 8) :
    lane64 (avx512.double_avx512.add_vv fo a b) i = fo.add64 (lane64 a i) (lane64 b i) := by
  simp only [avx512.double_avx512.add_vv, lane]
theorem double_avx512_add_vs (fo : FOps) (a : Reg) (b : BitVec 64) (i : Nat) (hi : i < 8) :
    lane64 (avx512.double_avx512.add_vs fo a b) i = fo.add64 (lane64 a i) (b) := by
  simp only [avx512.double_avx512.add_vs, lane]
theorem double_avx512_add_sv (fo : FOps) (a : BitVec 64) (b : Reg) (i : Nat) (hi : i < 8) :
    lane64 (avx512.double_avx512.add_sv fo a b) i = fo.add64 (a) (lane64 b i) := by
  simp only [avx512.double_avx512.add_sv, lane]
theorem double_avx512_pos (fo : FOps) (b : Reg) (i : Nat) (hi : i < 8) :
    lane64 (avx512.double_avx512.pos b) i = lane64 b i := by
  simp only [avx512.double_avx512.pos]
theorem double_avx512_sub_vv (fo : FOps) (a : Reg) (b : Reg) (i : Nat) (hi : i < 8) :
    lane64 (avx512.double_avx512.sub_vv fo a b) i = fo.sub64 (lane64 a i) (lane64 b i) := by
  simp only [avx512.double_avx512.sub_vv, lane]
theorem double_avx512_sub_vs (fo : FOps) (a : Reg) (b : BitVec 64) (i : Nat) (hi : i < 8) :
    lane64 (avx512.double_avx512.sub_vs fo a b) i = fo.sub64 (lane64 a i) (b) := by
  simp only [avx512.double_avx512.sub_vs, lane]
theorem double_avx512_sub_sv (fo : FOps) (a : BitVec 64) (b : Reg) (i : Nat) (hi : i < 8) :
    lane64 (avx512.double_avx512.sub_sv fo a b) i = fo.sub64 (a) (lane64 b i) := by
  simp only [avx512.double_avx512.sub_sv, lane]
theorem double_avx512_neg (fo : FOps) (b : Reg) (i : Nat) (hi : i < 8) :
    lane64 (avx512.double_avx512.neg b) i = fneg64 (lane64 b i) := by
  simp only [avx512.double_avx512.neg, avx512.mm512_neg_pd, lane, fneg64, sign64]
theorem double_avx512_mul_vv (fo : FOps) (a : Reg) (b : Reg) (i : Nat) (hi : i < 8) :
    lane64 (avx512.double_avx512.mul_vv fo a b) i = fo.mul64 (lane64 a i) (lane64 b i) := by
  simp only [avx512.double_avx512.mul_vv, lane]
theorem double_avx512_mul_vs (fo : FOps) (a : Reg) (b : BitVec 64) (i : Nat) (hi : i < 8) :
    lane64 (avx512.double_avx512.mul_vs fo a b) i = fo.mul64 (lane64 a i) (b) := by
  simp only [avx512.double_avx512.mul_vs, lane]
theorem double_avx512_mul_sv (fo : FOps) (a : BitVec 64) (b : Reg) (i : Nat) (hi : i < 8) :
    lane64 (avx512.double_avx512.mul_sv fo a b) i = fo.mul64 (a) (lane64 b i) := by
  simp only [avx512.double_avx512.mul_sv, lane]
theorem double_avx512_div_vv (fo : FOps) (a : Reg) (b : Reg) (i : Nat) (hi : i < 8) :
    lane64 (avx512.double_avx512.div_vv fo a b) i = fo.div64 (lane64 a i) (lane64 b i) := by
  simp only [avx512.double_avx512.div_vv, lane]
theorem double_avx512_div_vs (fo : FOps) (a : Reg) (b : BitVec 64) (i : Nat) (hi : i < 8) :
    lane64 (avx512.double_avx512.div_vs fo a b) i = fo.div64 (lane64 a i) (b) := by
  simp only [avx512.double_avx512.div_vs, lane]
theorem double_avx512_div_sv (fo : FOps) (a : BitVec 64) (b : Reg) (i : Nat) (hi : i < 8) :
    lane64 (avx512.double_avx512.div_sv fo a b) i = fo.div64 (a) (lane64 b i) := by
  simp only [avx512.double_avx512.div_sv, lane]
theorem double_avx512_sqrt (fo : FOps) (a : Reg) (i : Nat) (hi : i < 8) :
    lane64 (avx512.double_avx512.sqrt fo a) i = fo.sqrt64 (lane64 a i) := by
  simp only [avx512.double_avx512.sqrt, lane]
theorem double_avx_ctor (fo : FOps) (i : Nat) (hi : i < 4) :
    lane64 (avx512.double_avx.ctor) i = 0#64 := by
  simp only [avx512.double_avx.ctor, lane]
theorem double_avx_ctor_s (fo : FOps) (num : BitVec 64) (i : Nat) (hi : i < 4) :
    lane64 (avx512.double_avx.ctor_s num) i = num := by
  simp only [avx512.double_avx.ctor_s, lane]
theorem double_avx_ctor_r (fo : FOps) (regi : Reg) (i : Nat) (hi : i < 4) :
    lane64 (avx512.double_avx.ctor_r regi) i = lane64 regi i := by
  simp only [avx512.double_avx.ctor_r]
theorem double_avx_load_pb (fo : FOps) (self : Reg) (data : Reg) (Aligned : Bool) (i : Nat) (hi : i < 4) :
    lane64 (avx512.double_avx.load_pb self data Aligned) i = lane64 data i := by
  simp only [avx512.double_avx.load_pb, lane, Nat.zero_mod, Nat.zero_div, Nat.zero_add]
theorem double_avx_store_pb (fo : FOps) (self : Reg) (data : Reg) (Aligned : Bool) (i : Nat) :
    (avx512.double_avx.store_pb self data Aligned) i = (if i < 8 then self i else data i) := by
  simp only [avx512.double_avx.store_pb, lane, Nat.zero_le, Nat.zero_add, Nat.sub_zero]
theorem double_avx_aligned_load_p (fo : FOps) (self : Reg) (data : Reg) (i : Nat) (hi : i < 4) :
    lane64 (avx512.double_avx.aligned_load_p self data) i = lane64 data i := by
  simp only [avx512.double_avx.aligned_load_p, lane, Nat.zero_mod, Nat.zero_div, Nat.zero_add]
theorem double_avx_aligned_store_p (fo : FOps) (self : Reg) (data : Reg) (i : Nat) :
    (avx512.double_avx.aligned_store_p self data) i = (if i < 8 then self i else data i) := by
  simp only [avx512.double_avx.aligned_store_p, lane, Nat.zero_le, Nat.zero_add, Nat.sub_zero]
theorem double_avx_mask_load_pmb (fo : FOps) (self : Reg) (a : Reg) (mask : Nat) (Aligned : Bool) (i : Nat) (hi : i < 4) :
    lane64 (avx512.double_avx.mask_load_pmb self a mask Aligned) i = (if (mask >>> i) % 2 = 1 then lane64 a i else lane64 self i) := by
  simp only [avx512.double_avx.mask_load_pmb, lane, Nat.zero_mod, Nat.zero_div, Nat.zero_add]
theorem double_avx_mask_store_pmb (fo : FOps) (self : Reg) (a : Reg) (mask : Nat) (Aligned : Bool) (i : Nat) :
    (avx512.double_avx.mask_store_pmb self a mask Aligned) i = (if i < 8 ∧ (mask >>> (i / 2)) % 2 = 1 then self i else a i) := by
  simp only [avx512.double_avx.mask_store_pmb, lane, Nat.zero_le, Nat.zero_add, Nat.sub_zero]
theorem double_avx_set_s (fo : FOps) (self : Reg) (num : BitVec 64) (i : Nat) (hi : i < 4) :
    lane64 (avx512.double_avx.set_s self num) i = num := by
  simp only [avx512.double_avx.set_s, lane]
theorem double_avx_set_ssss (fo : FOps) (self : Reg) (num0 : BitVec 64) (num1 : BitVec 64) (num2 : BitVec 64) (num3 : BitVec 64) (i : Nat) (hi : i < 4) :
    lane64 (avx512.double_avx.set_ssss self num0 num1 num2 num3) i = [num3, num2, num1, num0].getD i 0 := by
  simp only [avx512.double_avx.set_ssss, lane]
theorem double_avx_set_sequential_s (fo : FOps) (self : Reg) (num0 : BitVec 64) (i : Nat) (hi : i < 4) :
    lane64 (avx512.double_avx.set_sequential_s fo self num0) i = [num0, fo.add64 num0 4607182418800017408#64, fo.add64 num0 4611686018427387904#64, fo.add64 num0 4613937818241073152#64].getD i 0 := by
  simp only [avx512.double_avx.set_sequential_s, lane]
theorem double_avx_iadd_s (fo : FOps) (self : Reg) (num : BitVec 64) (i : Nat) (hi : i < 4) :
    lane64 (avx512.double_avx.iadd_s fo self num) i = fo.add64 (lane64 self i) (num) := by
  simp only [avx512.double_avx.iadd_s, lane]
theorem double_avx_iadd_r (fo : FOps) (self : Reg) (regi : Reg) (i : Nat) (hi : i < 4) :
    lane64 (avx512.double_avx.iadd_r fo self regi) i = fo.add64 (lane64 self i) (lane64 regi i) := by
  simp only [avx512.double_avx.iadd_r, lane]
theorem double_avx_iadd_v (fo : FOps) (self : Reg) (a : Reg) (i : Nat) (hi : i < 4) :
    lane64 (avx512.double_avx.iadd_v fo self a) i = fo.add64 (lane64 self i) (lane64 a i) := by
  simp only [avx512.double_avx.iadd_v, lane]
theorem double_avx_isub_s (fo : FOps) (self : Reg) (num : BitVec 64) (i : Nat) (hi : i < 4) :
    lane64 (avx512.double_avx.isub_s fo self num) i = fo.sub64 (lane64 self i) (num) := by
  simp only [avx512.double_avx.isub_s, lane]
theorem double_avx_isub_r (fo : FOps) (self : Reg) (regi : Reg) (i : Nat) (hi : i < 4) :
    lane64 (avx512.double_avx.isub_r fo self regi) i = fo.sub64 (lane64 self i) (lane64 regi i) := by
  simp only [avx512.double_avx.isub_r, lane]
theorem double_avx_isub_v (fo : FOps) (self : Reg) (a : Reg) (i : Nat) (hi : i < 4) :
    lane64 (avx512.double_avx.isub_v fo self a) i = fo.sub64 (lane64 self i) (lane64 a i) := by
  simp only [avx512.double_avx.isub_v, lane]
theorem double_avx_imul_s (fo : FOps) (self : Reg) (num : BitVec 64) (i : Nat) (hi : i < 4) :
    lane64 (avx512.double_avx.imul_s fo self num) i = fo.mul64 (lane64 self i) (num) := by
  simp only [avx512.double_avx.imul_s, lane]
theorem double_avx_imul_r (fo : FOps) (self : Reg) (regi : Reg) (i : Nat) (hi : i < 4) :
    lane64 (avx512.double_avx.imul_r fo self regi) i = fo.mul64 (lane64 self i) (lane64 regi i) := by
  simp only [avx512.double_avx.imul_r, lane]
theorem double_avx_imul_v (fo : FOps) (self : Reg) (a : Reg) (i : Nat) (hi : i < 4) :
    lane64 (avx512.double_avx.imul_v fo self a) i = fo.mul64 (lane64 self i) (lane64 a i) := by
  simp only [avx512.double_avx.imul_v, lane]
theorem double_avx_idiv_s (fo : FOps) (self : Reg) (num : BitVec 64) (i : Nat) (hi : i < 4) :
    lane64 (avx512.double_avx.idiv_s fo self num) i = fo.div64 (lane64 self i) (num) := by
  simp only [avx512.double_avx.idiv_s, lane]
theorem double_avx_idiv_r (fo : FOps) (self : Reg) (regi : Reg) (i : Nat) (hi : i < 4) :
    lane64 (avx512.double_avx.idiv_r fo self regi) i = fo.div64 (lane64 self i) (lane64 regi i) := by
  simp only [avx512.double_avx.idiv_r, lane]
theorem double_avx_idiv_v (fo : FOps) (self : Reg) (a : Reg) (i : Nat) (hi : i < 4) :
    lane64 (avx512.double_avx.idiv_v fo self a) i = fo.div64 (lane64 self i) (lane64 a i) := by
  simp only [avx512.double_avx.idiv_v, lane]
theorem double_avx_sum (fo : FOps) (hassoc : ∀ x y z, fo.add64 (fo.add64 x y) z = fo.add64 x (fo.add64 y z)) (hcomm : ∀ x y, fo.add64 x y = fo.add64 y x) (self : Reg) :
    avx512.double_avx.sum fo self = [(lane64 self 1), (lane64 self 2), (lane64 self 3)].foldl fo.add64 ((lane64 self 0)) := by
  have : Std.Associative fo.add64 := ⟨hassoc⟩
  have : Std.Commutative fo.add64 := ⟨hcomm⟩
  simp only [avx512.double_avx.sum, avx512.mm256_sum_pd, lane, List.foldl, simprocAttr]
  ac_rfl
theorem double_avx_product (fo : FOps) (hassoc : ∀ x y z, fo.mul64 (fo.mul64 x y) z = fo.mul64 x (fo.mul64 y z)) (hcomm : ∀ x y, fo.mul64 x y = fo.mul64 y x) (self : Reg) :
    avx512.double_avx.product fo self = [(lane64 self 1), (lane64 self 2), (lane64 self 3)].foldl fo.mul64 ((lane64 self 0)) := by
  have : Std.Associative fo.mul64 := ⟨hassoc⟩
  have : Std.Commutative fo.mul64 := ⟨hcomm⟩
  simp only [avx512.double_avx.product, avx512.mm256_prod_pd, lane, List.foldl, simprocAttr]
  ac_rfl
theorem double_avx_reverse (fo : FOps) (self : Reg) (i : Nat) (hi : i < 4) :
    lane64 (avx512.double_avx.reverse self) i = lane64 self (3 - i) := by
  simp only [avx512.double_avx.reverse, avx512.mm256_reverse_pd, lane]
  interval_cases i <;> rfl
theorem double_avx_minimum (fo : FOps) (hassoc : ∀ x y z, fo.min64 (fo.min64 x y) z = fo.min64 x (fo.min64 y z)) (hcomm : ∀ x y, fo.min64 x y = fo.min64 y x) (self : Reg) :
    avx512.double_avx.minimum fo self = [(lane64 self 1), (lane64 self 2), (lane64 self 3)].foldl fo.min64 ((lane64 self 0)) := by
  have : Std.Associative fo.min64 := ⟨hassoc⟩
  have : Std.Commutative fo.min64 := ⟨hcomm⟩
  simp only [avx512.double_avx.minimum, avx512.mm256_hmin_pd, avx512.mm256_reverse_pd, lane, List.foldl, simprocAttr]
  ac_rfl
theorem double_avx_maximum (fo : FOps) (hassoc : ∀ x y z, fo.max64 (fo.max64 x y) z = fo.max64 x (fo.max64 y z)) (hcomm : ∀ x y, fo.max64 x y = fo.max64 y x) (self : Reg) :
    avx512.double_avx.maximum fo self = [(lane64 self 1), (lane64 self 2), (lane64 self 3)].foldl fo.max64 ((lane64 self 0)) := by
  have : Std.Associative fo.max64 := ⟨hassoc⟩
  have : Std.Commutative fo.max64 := ⟨hcomm⟩
  simp only [avx512.double_avx.maximum, avx512.mm256_hmax_pd, avx512.mm256_reverse_pd, lane, List.foldl, simprocAttr]
  ac_rfl
theorem double_avx_dot (fo : FOps) (hassoc : ∀ x y z, fo.add64 (fo.add64 x y) z = fo.add64 x (fo.add64 y z)) (hcomm : ∀ x y, fo.add64 x y = fo.add64 y x) (self : Reg) (other : Reg) :
    avx512.double_avx.dot fo self other = [fo.mul64 (lane64 self 1) (lane64 other 1), fo.mul64 (lane64 self 2) (lane64 other 2), fo.mul64 (lane64 self 3) (lane64 other 3)].foldl fo.add64 (fo.mul64 (lane64 self 0) (lane64 other 0)) := by
  have : Std.Associative fo.add64 := ⟨hassoc⟩
  have : Std.Commutative fo.add64 := ⟨hcomm⟩
  simp only [avx512.double_avx.dot, avx512.mm256_dp_pd, avx512.h_add_pd_m256d, lane, List.foldl, simprocAttr]
  ac_rfl
theorem double_avx_add_vv (fo : FOps) (a : Reg) (b : Reg) (i : Nat) (hi : i < 4) :
    lane64 (avx512.double_avx.add_vv fo a b) i = fo.add64 (lane64 a i) (lane64 b i) := by
  simp only [avx512.double_avx.add_vv, lane]
theorem double_avx_add_vs (fo : FOps) (a : Reg) (b : BitVec 64) (i : Nat) (hi : i < 4) :
    lane64 (avx512.double_avx.add_vs fo a b) i = fo.add64 (lane64 a i) (b) := by
  simp only [avx512.double_avx.add_vs, lane]
theorem double_avx_add_sv (fo : FOps) (a : BitVec 64) (b : Reg) (i : Nat) (hi : i < 4) :
    lane64 (avx512.double_avx.add_sv fo a b) i = fo.add64 (a) (lane64 b i) := by
  simp only [avx512.double_avx.add_sv, lane]
theorem double_avx_pos (fo : FOps) (b : Reg) (i : Nat) (hi : i < 4) :
    lane64 (avx512.double_avx.pos b) i = lane64 b i := by
  simp only [avx512.double_avx.pos]
theorem double_avx_sub_vv (fo : FOps) (a : Reg) (b : Reg) (i : Nat) (hi : i < 4) :
    lane64 (avx512.double_avx.sub_vv fo a b) i = fo.sub64 (lane64 a i) (lane64 b i) := by
  simp only [avx512.double_avx.sub_vv, lane]
theorem double_avx_sub_vs (fo : FOps) (a : Reg) (b : BitVec 64) (i : Nat) (hi : i < 4) :
    lane64 (avx512.double_avx.sub_vs fo a b) i = fo.sub64 (lane64 a i) (b) := by
  simp only [avx512.double_avx.sub_vs, lane]
theorem double_avx_sub_sv (fo : FOps) (a : BitVec 64) (b : Reg) (i : Nat) (hi : i < 4) :
    lane64 (avx512.double_avx.sub_sv fo a b) i = fo.sub64 (a) (lane64 b i) := by
  simp only [avx512.double_avx.sub_sv, lane]
theorem double_avx_neg (fo : FOps) (b : Reg) (i : Nat) (hi : i < 4) :
    lane64 (avx512.double_avx.neg b) i = fneg64 (lane64 b i) := by
  simp only [avx512.double_avx.neg, avx512.mm256_neg_pd, lane, fneg64, sign64]
theorem double_avx_mul_vv (fo : FOps) (a : Reg) (b : Reg) (i : Nat) (hi : i < 4) :
    lane64 (avx512.double_avx.mul_vv fo a b) i = fo.mul64 (lane64 a i) (lane64 b i) := by
  simp only [avx512.double_avx.mul_vv, lane]
theorem double_avx_mul_vs (fo : FOps) (a : Reg) (b : BitVec 64) (i : Nat) (hi : i < 4) :
    lane64 (avx512.double_avx.mul_vs fo a b) i = fo.mul64 (lane64 a i) (b) := by
  simp only [avx512.double_avx.mul_vs, lane]
theorem double_avx_mul_sv (fo : FOps) (a : BitVec 64) (b : Reg) (i : Nat) (hi : i < 4) :
    lane64 (avx512.double_avx.mul_sv fo a b) i = fo.mul64 (a) (lane64 b i) := by
  simp only [avx512.double_avx.mul_sv, lane]
theorem double_avx_div_vv (fo : FOps) (a : Reg) (b : Reg) (i : Nat) (hi : i < 4) :
    lane64 (avx512.double_avx.div_vv fo a b) i = fo.div64 (lane64 a i) (lane64 b i) := by
  simp only [avx512.double_avx.div_vv, lane]
theorem double_avx_div_vs (fo : FOps) (a : Reg) (b : BitVec 64) (i : Nat) (hi : i < 4) :
    lane64 (avx512.double_avx.div_vs fo a b) i = fo.div64 (lane64 a i) (b) := by
  simp only [avx512.double_avx.div_vs, lane]
theorem double_avx_div_sv (fo : FOps) (a : BitVec 64) (b : Reg) (i : Nat) (hi : i < 4) :
    lane64 (avx512.double_avx.div_sv fo a b) i = fo.div64 (a) (lane64 b i) := by
  simp only [avx512.double_avx.div_sv, lane]
theorem double_avx_sqrt (fo : FOps) (a : Reg) (i : Nat) (hi : i < 4) :
    lane64 (avx512.double_avx.sqrt fo a) i = fo.sqrt64 (lane64 a i) := by
  simp only [avx512.double_avx.sqrt, lane]
theorem double_avx_abs (fo : FOps) (a : Reg) (i : Nat) (hi : i < 4) :
    lane64 (avx512.double_avx.abs a) i = fabs64 (lane64 a i) := by
  simp only [avx512.double_avx.abs, avx512.mm256_abs_pd, lane, fabs64, sign64]
theorem double_sse_ctor (fo : FOps) (i : Nat) (hi : i < 2) :
    lane64 (avx512.double_sse.ctor) i = 0#64 := by
  simp only [avx512.double_sse.ctor, lane]
theorem double_sse_ctor_s (fo : FOps) (num : BitVec 64) (i : Nat) (hi : i < 2) :
    lane64 (avx512.double_sse.ctor_s num) i = num := by
  simp only [avx512.double_sse.ctor_s, lane]
theorem double_sse_ctor_r (fo : FOps) (regi : Reg) (i : Nat) (hi : i < 2) :
    lane64 (avx512.double_sse.ctor_r regi) i = lane64 regi i := by
  simp only [avx512.double_sse.ctor_r]
theorem double_sse_load_pb (fo : FOps) (self : Reg) (data : Reg) (Aligned : Bool) (i : Nat) (hi : i < 2) :
    lane64 (avx512.double_sse.load_pb self data Aligned) i = lane64 data i := by
  simp only [avx512.double_sse.load_pb, lane, Nat.zero_mod, Nat.zero_div, Nat.zero_add]
theorem double_sse_store_pb (fo : FOps) (self : Reg) (data : Reg) (Aligned : Bool) (i : Nat) :
    (avx512.double_sse.store_pb self data Aligned) i = (if i < 4 then self i else data i) := by
  simp only [avx512.double_sse.store_pb, lane, Nat.zero_le, Nat.zero_add, Nat.sub_zero]
theorem double_sse_aligned_load_p (fo : FOps) (self : Reg) (data : Reg) (i : Nat) (hi : i < 2) :
    lane64 (avx512.double_sse.aligned_load_p self data) i = lane64 data i := by
  simp only [avx512.double_sse.aligned_load_p, lane, Nat.zero_mod, Nat.zero_div, Nat.zero_add]
theorem double_sse_aligned_store_p (fo : FOps) (self : Reg) (data : Reg) (i : Nat) :
    (avx512.double_sse.aligned_store_p self data) i = (if i < 4 then self i else data i) := by
  simp only [avx512.double_sse.aligned_store_p, lane, Nat.zero_le, Nat.zero_add, Nat.sub_zero]
theorem double_sse_mask_load_pmb (fo : FOps) (self : Reg) (a : Reg) (mask : Nat) (Aligned : Bool) (i : Nat) (hi : i < 2) :
    lane64 (avx512.double_sse.mask_load_pmb self a mask Aligned) i = (if (mask >>> i) % 2 = 1 then lane64 a i else lane64 self i) := by
  simp only [avx512.double_sse.mask_load_pmb, lane, Nat.zero_mod, Nat.zero_div, Nat.zero_add]
theorem double_sse_mask_store_pmb (fo : FOps) (self : Reg) (a : Reg) (mask : Nat) (Aligned : Bool) (i : Nat) :
    (avx512.double_sse.mask_store_pmb self a mask Aligned) i = (if i < 4 ∧ (mask >>> (i / 2)) % 2 = 1 then self i else a i) := by
  simp only [avx512.double_sse.mask_store_pmb, lane, Nat.zero_le, Nat.zero_add, Nat.sub_zero]
theorem double_sse_set_s (fo : FOps) (self : Reg) (num : BitVec 64) (i : Nat) (hi : i < 2) :
    lane64 (avx512.double_sse.set_s self num) i = num := by
  simp only [avx512.double_sse.set_s, lane]
theorem double_sse_set_ss (fo : FOps) (self : Reg) (num0 : BitVec 64) (num1 : BitVec 64) (i : Nat) (hi : i < 2) :
    lane64 (avx512.double_sse.set_ss self num0 num1) i = [num1, num0].getD i 0 := by
  simp only [avx512.double_sse.set_ss, lane]
theorem double_sse_set_sequential_s (fo : FOps) (self : Reg) (num0 : BitVec 64) (i : Nat) (hi : i < 2) :
    lane64 (avx512.double_sse.set_sequential_s fo self num0) i = [num0, fo.add64 num0 4607182418800017408#64].getD i 0 := by
  simp only [avx512.double_sse.set_sequential_s, lane]
theorem double_sse_iadd_s (fo : FOps) (self : Reg) (num : BitVec 64) (i : Nat) (hi : i < 2) :
    lane64 (avx512.double_sse.iadd_s fo self num) i = fo.add64 (lane64 self i) (num) := by
  simp only [avx512.double_sse.iadd_s, lane]
theorem double_sse_iadd_r (fo : FOps) (self : Reg) (regi : Reg) (i : Nat) (hi : i < 2) :
    lane64 (avx512.double_sse.iadd_r fo self regi) i = fo.add64 (lane64 self i) (lane64 regi i) := by
  simp only [avx512.double_sse.iadd_r, lane]
theorem double_sse_iadd_v (fo : FOps) (self : Reg) (a : Reg) (i : Nat) (hi : i < 2) :
    lane64 (avx512.double_sse.iadd_v fo self a) i = fo.add64 (lane64 self i) (lane64 a i) := by
  simp only [avx512.double_sse.iadd_v, lane]
theorem double_sse_isub_s (fo : FOps) (self : Reg) (num : BitVec 64) (i : Nat) (hi : i < 2) :
    lane64 (avx512.double_sse.isub_s fo self num) i = fo.sub64 (lane64 self i) (num) := by
  simp only [avx512.double_sse.isub_s, lane]
theorem double_sse_isub_r (fo : FOps) (self : Reg) (regi : Reg) (i : Nat) (hi : i < 2) :
    lane64 (avx512.double_sse.isub_r fo self regi) i = fo.sub64 (lane64 self i) (lane64 regi i) := by
  simp only [avx512.double_sse.isub_r, lane]
theorem double_sse_isub_v (fo : FOps) (self : Reg) (a : Reg) (i : Nat) (hi : i < 2) :
    lane64 (avx512.double_sse.isub_v fo self a) i = fo.sub64 (lane64 self i) (lane64 a i) := by
  simp only [avx512.double_sse.isub_v, lane]
theorem double_sse_imul_s (fo : FOps) (self : Reg) (num : BitVec 64) (i : Nat) (hi : i < 2) :
    lane64 (avx512.double_sse.imul_s fo self num) i = fo.mul64 (lane64 self i) (num) := by
  simp only [avx512.double_sse.imul_s, lane]
theorem double_sse_imul_r (fo : FOps) (self : Reg) (regi : Reg) (i : Nat) (hi : i < 2) :
    lane64 (avx512.double_sse.imul_r fo self regi) i = fo.mul64 (lane64 self i) (lane64 regi i) := by
  simp only [avx512.double_sse.imul_r, lane]
theorem double_sse_imul_v (fo : FOps) (self : Reg) (a : Reg) (i : Nat) (hi : i < 2) :
    lane64 (avx512.double_sse.imul_v fo self a) i = fo.mul64 (lane64 self i) (lane64 a i) := by
  simp only [avx512.double_sse.imul_v, lane]
theorem double_sse_idiv_s (fo : FOps) (self : Reg) (num : BitVec 64) (i : Nat) (hi : i < 2) :
    lane64 (avx512.double_sse.idiv_s fo self num) i = fo.div64 (lane64 self i) (num) := by
  simp only [avx512.double_sse.idiv_s, lane]
theorem double_sse_idiv_r (fo : FOps) (self : Reg) (regi : Reg) (i : Nat) (hi : i < 2) :
    lane64 (avx512.double_sse.idiv_r fo self regi) i = fo.div64 (lane64 self i) (lane64 regi i) := by
  simp only [avx512.double_sse.idiv_r, lane]
theorem double_sse_idiv_v (fo : FOps) (self : Reg) (a : Reg) (i : Nat) (hi : i < 2) :
    lane64 (avx512.double_sse.idiv_v fo self a) i = fo.div64 (lane64 self i) (lane64 a i) := by
  simp only [avx512.double_sse.idiv_v, lane]
theorem double_sse_sum (fo : FOps) (hassoc : ∀ x y z, fo.add64 (fo.add64 x y) z = fo.add64 x (fo.add64 y z)) (hcomm : ∀ x y, fo.add64 x y = fo.add64 y x) (self : Reg) :
    avx512.double_sse.sum fo self = [(lane64 self 1)].foldl fo.add64 ((lane64 self 0)) := by
  simp only [avx512.double_sse.sum, avx512.mm_sum_pd, lane, List.foldl, ↓reduceIte]
theorem double_sse_product (fo : FOps) (hassoc : ∀ x y z, fo.mul64 (fo.mul64 x y) z = fo.mul64 x (fo.mul64 y z)) (hcomm : ∀ x y, fo.mul64 x y = fo.mul64 y x) (self : Reg) :
    avx512.double_sse.product fo self = [(lane64 self 1)].foldl fo.mul64 ((lane64 self 0)) := by
  simp only [avx512.double_sse.product, avx512.mm_prod_pd, lane, List.foldl, ↓reduceIte]
theorem double_sse_reverse (fo : FOps) (self : Reg) (i : Nat) (hi : i < 2) :
    lane64 (avx512.double_sse.reverse self) i = lane64 self (1 - i) := by
  simp only [avx512.double_sse.reverse, avx512.mm_reverse_pd, lane]
  interval_cases i <;> rfl
theorem double_sse_minimum (fo : FOps) (hassoc : ∀ x y z, fo.min64 (fo.min64 x y) z = fo.min64 x (fo.min64 y z)) (hcomm : ∀ x y, fo.min64 x y = fo.min64 y x) (self : Reg) :
    avx512.double_sse.minimum fo self = [(lane64 self 1)].foldl fo.min64 ((lane64 self 0)) := by
  simp only [avx512.double_sse.minimum, avx512.mm_hmin_pd, avx512.mm_reverse_pd, lane, List.foldl, simprocAttr]
theorem double_sse_maximum (fo : FOps) (hassoc : ∀ x y z, fo.max64 (fo.max64 x y) z = fo.max64 x (fo.max64 y z)) (hcomm : ∀ x y, fo.max64 x y = fo.max64 y x) (self : Reg) :
    avx512.double_sse.maximum fo self = [(lane64 self 1)].foldl fo.max64 ((lane64 self 0)) := by
  simp only [avx512.double_sse.maximum, avx512.mm_hmax_pd, avx512.mm_reverse_pd, lane, List.foldl, simprocAttr]
theorem double_sse_add_vv (fo : FOps) (a : Reg) (b : Reg) (i : Nat) (hi : i < 2) :
    lane64 (avx512.double_sse.add_vv fo a b) i = fo.add64 (lane64 a i) (lane64 b i) := by
  simp only [avx512.double_sse.add_vv, lane]
theorem double_sse_add_vs (fo : FOps) (a : Reg) (b : BitVec 64) (i : Nat) (hi : i < 2) :
    lane64 (avx512.double_sse.add_vs fo a b) i = fo.add64 (lane64 a i) (b) := by
  simp only [avx512.double_sse.add_vs, lane]
theorem double_sse_add_sv (fo : FOps) (a : BitVec 64) (b : Reg) (i : Nat) (hi : i < 2) :
    lane64 (avx512.double_sse.add_sv fo a b) i = fo.add64 (a) (lane64 b i) := by
  simp only [avx512.double_sse.add_sv, lane]
theorem double_sse_pos (fo : FOps) (b : Reg) (i : Nat) (hi : i < 2) :
    lane64 (avx512.double_sse.pos b) i = lane64 b i := by
  simp only [avx512.double_sse.pos]
theorem double_sse_sub_vv (fo : FOps) (a : Reg) (b : Reg) (i : Nat) (hi : i < 2) :
    lane64 (avx512.double_sse.sub_vv fo a b) i = fo.sub64 (lane64 a i) (lane64 b i) := by
  simp only [avx512.double_sse.sub_vv, lane]
theorem double_sse_sub_vs (fo : FOps) (a : Reg) (b : BitVec 64) (i : Nat) (hi : i < 2) :
    lane64 (avx512.double_sse.sub_vs fo a b) i = fo.sub64 (lane64 a i) (b) := by
  simp only [avx512.double_sse.sub_vs, lane]
theorem double_sse_sub_sv (fo : FOps) (a : BitVec 64) (b : Reg) (i : Nat) (hi : i < 2) :
    lane64 (avx512.double_sse.sub_sv fo a b) i = fo.sub64 (a) (lane64 b i) := by
  simp only [avx512.double_sse.sub_sv, lane]
theorem double_sse_neg (fo : FOps) (b : Reg) (i : Nat) (hi : i < 2) :
    lane64 (avx512.double_sse.neg b) i = fneg64 (lane64 b i) := by
  simp only [avx512.double_sse.neg, avx512.mm_neg_pd, lane, fneg64, sign64]
theorem double_sse_mul_vv (fo : FOps) (a : Reg) (b : Reg) (i : Nat) (hi : i < 2) :
    lane64 (avx512.double_sse.mul_vv fo a b) i = fo.mul64 (lane64 a i) (lane64 b i) := by
  simp only [avx512.double_sse.mul_vv, lane]
theorem double_sse_mul_vs (fo : FOps) (a : Reg) (b : BitVec 64) (i : Nat) (hi : i < 2) :
    lane64 (avx512.double_sse.mul_vs fo a b) i = fo.mul64 (lane64 a i) (b) := by
  simp only [avx512.double_sse.mul_vs, lane]
theorem double_sse_mul_sv (fo : FOps) (a : BitVec 64) (b : Reg) (i : Nat) (hi : i < 2) :
    lane64 (avx512.double_sse.mul_sv fo a b) i = fo.mul64 (a) (lane64 b i) := by
  simp only [avx512.double_sse.mul_sv, lane]
theorem double_sse_div_vv (fo : FOps) (a : Reg) (b : Reg) (i : Nat) (hi : i < 2) :
    lane64 (avx512.double_sse.div_vv fo a b) i = fo.div64 (lane64 a i) (lane64 b i) := by
  simp only [avx512.double_sse.div_vv, lane]
theorem double_sse_div_vs (fo : FOps) (a : Reg) (b : BitVec 64) (i : Nat) (hi : i < 2) :
    lane64 (avx512.double_sse.div_vs fo a b) i = fo.div64 (lane64 a i) (b) := by
  simp only [avx512.double_sse.div_vs, lane]
theorem double_sse_div_sv (fo : FOps) (a : BitVec 64) (b : Reg) (i : Nat) (hi : i < 2) :
    lane64 (avx512.double_sse.div_sv fo a b) i = fo.div64 (a) (lane64 b i) := by
  simp only [avx512.double_sse.div_sv, lane]
theorem double_sse_sqrt (fo : FOps) (a : Reg) (i : Nat) (hi : i < 2) :
    lane64 (avx512.double_sse.sqrt fo a) i = fo.sqrt64 (lane64 a i) := by
  simp only [avx512.double_sse.sqrt, lane]
theorem double_sse_abs (fo : FOps) (a : Reg) (i : Nat) (hi : i < 2) :
    lane64 (avx512.double_sse.abs a) i = fabs64 (lane64 a i) := by
  simp only [avx512.double_sse.abs, avx512.mm_abs_pd, lane, fabs64, sign64]
theorem int32_avx512_ctor (fo : FOps) (i : Nat) (hi : i < 16) :
    (avx512.int32_avx512.ctor) i = 0#32 := by
  simp only [avx512.int32_avx512.ctor, lane]
theorem int32_avx512_ctor_s (fo : FOps) (num : BitVec 32) (i : Nat) (hi : i < 16) :
    (avx512.int32_avx512.ctor_s num) i = num := by
  simp only [avx512.int32_avx512.ctor_s, lane]
theorem int32_avx512_ctor_r (fo : FOps) (regi : Reg) (i : Nat) (hi : i < 16) :
    (avx512.int32_avx512.ctor_r regi) i = regi i := by
  simp only [avx512.int32_avx512.ctor_r]
theorem int32_avx512_load_pb (fo : FOps) (self : Reg) (data : Reg) (Aligned : Bool) (i : Nat) (hi : i < 16) :
    (avx512.int32_avx512.load_pb self data Aligned) i = data i := by
  simp only [avx512.int32_avx512.load_pb, lane, Nat.zero_add]
theorem int32_avx512_store_pb (fo : FOps) (self : Reg) (data : Reg) (Aligned : Bool) (i : Nat) :
    (avx512.int32_avx512.store_pb self data Aligned) i = (if i < 16 then self i else data i) := by
  simp only [avx512.int32_avx512.store_pb, lane, Nat.zero_le, Nat.zero_add, Nat.sub_zero]
theorem int32_avx512_aligned_load_p (fo : FOps) (self : Reg) (data : Reg) (i : Nat) (hi : i < 16) :
    (avx512.int32_avx512.aligned_load_p self data) i = data i := by
  simp only [avx512.int32_avx512.aligned_load_p, lane, Nat.zero_add]
theorem int32_avx512_aligned_store_p (fo : FOps) (self : Reg) (data : Reg) (i : Nat) :
    (avx512.int32_avx512.aligned_store_p self data) i = (if i < 16 then self i else data i) := by
  simp only [avx512.int32_avx512.aligned_store_p, lane, Nat.zero_le, Nat.zero_add, Nat.sub_zero]
theorem int32_avx512_mask_load_pmb (fo : FOps) (self : Reg) (a : Reg) (mask : Nat) (Aligned : Bool) (i : Nat) (hi : i < 16) :
    (avx512.int32_avx512.mask_load_pmb self a mask Aligned) i = (if (mask >>> i) % 2 = 1 then a i else self i) := by
  simp only [avx512.int32_avx512.mask_load_pmb, lane, Nat.zero_add]
theorem int32_avx512_mask_store_pmb (fo : FOps) (self : Reg) (a : Reg) (mask : Nat) (Aligned : Bool) (i : Nat) :
    (avx512.int32_avx512.mask_store_pmb self a mask Aligned) i = (if i < 16 ∧ (mask >>> (i)) % 2 = 1 then self i else a i) := by
  simp only [avx512.int32_avx512.mask_store_pmb, lane, Nat.zero_le, Nat.zero_add, Nat.sub_zero]
theorem int32_avx512_set_s (fo : FOps) (self : Reg) (num : BitVec 32) (i : Nat) (hi : i < 16) :
    (avx512.int32_avx512.set_s self num) i = num := by
  simp only [avx512.int32_avx512.set_s, lane]
theorem int32_avx512_set_ssssssssssssssss (fo : FOps) (self : Reg) (num0 : BitVec 32) (num1 : BitVec 32) (num2 : BitVec 32) (num3 : BitVec 32) (num4 : BitVec 32) (num5 : BitVec 32) (num6 : BitVec 32) (num7 : BitVec 32) (num8 : BitVec 32) (num9 : BitVec 32) (num10 : BitVec 32) (num11 : BitVec 32) (num12 : BitVec 32) (num13 : BitVec 32) (num14 : BitVec 32) (num15 : BitVec 32) (i : Nat) (hi : i < 16) :
    (avx512.int32_avx512.set_ssssssssssssssss self num0 num1 num2 num3 num4 num5 num6 num7 num8 num9 num10 num11 num12 num13 num14 num15) i = [num15, num14, num13, num12, num11, num10, num9, num8, num7, num6, num5, num4, num3, num2, num1, num0].getD i 0 := by
  simp only [avx512.int32_avx512.set_ssssssssssssssss, lane]
theorem int32_avx512_set_sequential_s (fo : FOps) (self : Reg) (num0 : BitVec 32) (i : Nat) (hi : i < 16) :
    (avx512.int32_avx512.set_sequential_s self num0) i = num0 + BitVec.ofNat 32 i := by
  simp only [avx512.int32_avx512.set_sequential_s, lane]
  interval_cases i
  · exact (BitVec.add_zero num0).symm
  all_goals rfl
theorem int32_avx512_iadd_s (fo : FOps) (self : Reg) (num : BitVec 32) (i : Nat) (hi : i < 16) :
    (avx512.int32_avx512.iadd_s self num) i = (self i) + (num) := by
  simp only [avx512.int32_avx512.iadd_s, lane]
theorem int32_avx512_iadd_r (fo : FOps) (self : Reg) (regi : Reg) (i : Nat) (hi : i < 16) :
    (avx512.int32_avx512.iadd_r self regi) i = (self i) + (regi i) := by
  simp only [avx512.int32_avx512.iadd_r, lane]
theorem int32_avx512_iadd_v (fo : FOps) (self : Reg) (a : Reg) (i : Nat) (hi : i < 16) :
    (avx512.int32_avx512.iadd_v self a) i = (self i) + (a i) := by
  simp only [avx512.int32_avx512.iadd_v, lane]
theorem int32_avx512_isub_s (fo : FOps) (self : Reg) (num : BitVec 32) (i : Nat) (hi : i < 16) :
    (avx512.int32_avx512.isub_s self num) i = (self i) - (num) := by
  simp only [avx512.int32_avx512.isub_s, lane]
theorem int32_avx512_isub_r (fo : FOps) (self : Reg) (regi : Reg) (i : Nat) (hi : i < 16) :
    (avx512.int32_avx512.isub_r self regi) i = (self i) - (regi i) := by
  simp only [avx512.int32_avx512.isub_r, lane]
theorem int32_avx512_isub_v (fo : FOps) (self : Reg) (a : Reg) (i : Nat) (hi : i < 16) :
    (avx512.int32_avx512.isub_v self a) i = (self i) - (a i) := by
  simp only [avx512.int32_avx512.isub_v, lane]
theorem int32_avx512_imul_s (fo : FOps) (self : Reg) (num : BitVec 32) (i : Nat) (hi : i < 16) :
    (avx512.int32_avx512.imul_s self num) i = (self i) * (num) := by
  simp only [avx512.int32_avx512.imul_s, lane]
theorem int32_avx512_imul_r (fo : FOps) (self : Reg) (regi : Reg) (i : Nat) (hi : i < 16) :
    (avx512.int32_avx512.imul_r self regi) i = (self i) * (regi i) := by
  simp only [avx512.int32_avx512.imul_r, lane]
theorem int32_avx512_imul_v (fo : FOps) (self : Reg) (a : Reg) (i : Nat) (hi : i < 16) :
    (avx512.int32_avx512.imul_v self a) i = (self i) * (a i) := by
  simp only [avx512.int32_avx512.imul_v, lane]
theorem int32_avx512_idiv_s (fo : FOps) (self : Reg) (num : BitVec 32) (i : Nat) (hi : i < 16) :
    (avx512.int32_avx512.idiv_s self num) i = BitVec.sdiv (self i) (num) := by
  simp only [avx512.int32_avx512.idiv_s, loadw_apply, Nat.zero_add]
  refine (scalar_loop32 (fun _ x => BitVec.sdiv x num) 16 (storew junk 0 16 self) i).trans ?_
  simp only [hi, if_true, lane, Nat.zero_le, Nat.zero_add, Nat.sub_zero]
theorem int32_avx512_idiv_r (fo : FOps) (self : Reg) (regi : Reg) (i : Nat) (hi : i < 16) :
    (avx512.int32_avx512.idiv_r self regi) i = BitVec.sdiv (self i) (regi i) := by
  simp only [avx512.int32_avx512.idiv_r, loadw_apply, Nat.zero_add]
  refine (scalar_loop32 (fun k x => BitVec.sdiv x ((storew junk 0 16 regi) k)) 16 (storew junk 0 16 self) i).trans ?_
  simp only [hi, if_true, lane, Nat.zero_le, Nat.zero_add, Nat.sub_zero]
theorem int32_avx512_idiv_v (fo : FOps) (self : Reg) (a : Reg) (i : Nat) (hi : i < 16) :
    (avx512.int32_avx512.idiv_v self a) i = BitVec.sdiv (self i) (a i) := by
  simp only [avx512.int32_avx512.idiv_v, loadw_apply, Nat.zero_add]
  refine (scalar_loop32 (fun k x => BitVec.sdiv x ((storew junk 0 16 a) k)) 16 (storew junk 0 16 self) i).trans ?_
  simp only [hi, if_true, lane, Nat.zero_le, Nat.zero_add, Nat.sub_zero]
theorem int32_avx512_minimum (self : Reg) :
    avx512.int32_avx512.minimum self = [self 0, self 1, self 2, self 3, self 4, self 5, self 6, self 7, self 8, self 9, self 10, self 11, self 12, self 13, self 14, self 15].foldl (fun q x => smin32 x q) (self 0) := by
  simp (config := {zeta := false}) only [avx512.int32_avx512.minimum, ite_slt_eq_smin32]
  simp only [List.foldl]
theorem int32_avx512_maximum (self : Reg) :
    avx512.int32_avx512.maximum self = [self 0, self 1, self 2, self 3, self 4, self 5, self 6, self 7, self 8, self 9, self 10, self 11, self 12, self 13, self 14, self 15].foldl (fun q x => smax32 x q) (self 0) := by
  simp (config := {zeta := false}) only [avx512.int32_avx512.maximum, ite_slt_eq_smax32]
  simp only [List.foldl]
theorem int32_avx512_reverse (fo : FOps) (self : Reg) (i : Nat) (hi : i < 16) :
    (avx512.int32_avx512.reverse self) i = self (15 - i) := by
  simp only [avx512.int32_avx512.reverse, avx512.mm512_reverse_epi32, lane]
  interval_cases i <;> rfl
theorem int32_avx512_sum (self : Reg) :
    avx512.int32_avx512.sum self = [self 0, self 1, self 2, self 3, self 4, self 5, self 6, self 7, self 8, self 9, self 10, self 11, self 12, self 13, self 14, self 15].foldl (· + ·) 0 := by
  simp only [avx512.int32_avx512.sum, lane, reduce_add_epi32, List.range_succ, List.range_zero, List.foldl]
theorem int32_avx512_product (self : Reg) :
    avx512.int32_avx512.product self = [self 0, self 1, self 2, self 3, self 4, self 5, self 6, self 7, self 8, self 9, self 10, self 11, self 12, self 13, self 14, self 15].foldl (· * ·) 1 := by
  rfl
theorem int32_avx512_dot (self : Reg) (other : Reg) :
    avx512.int32_avx512.dot self other = [self 0 * other 0, self 1 * other 1, self 2 * other 2, self 3 * other 3, self 4 * other 4, self 5 * other 5, self 6 * other 6, self 7 * other 7, self 8 * other 8, self 9 * other 9, self 10 * other 10, self 11 * other 11, self 12 * other 12, self 13 * other 13, self 14 * other 14, self 15 * other 15].foldl (· + ·) 0 := by
  simp only [avx512.int32_avx512.dot, lane, reduce_add_epi32, List.range_succ, List.range_zero, List.foldl]
theorem int32_avx512_add_vv (fo : FOps) (a : Reg) (b : Reg) (i : Nat) (hi : i < 16) :
    (avx512.int32_avx512.add_vv a b) i = (a i) + (b i) := by
  simp only [avx512.int32_avx512.add_vv, lane]
theorem int32_avx512_add_vs (fo : FOps) (a : Reg) (b : BitVec 32) (i : Nat) (hi : i < 16) :
    (avx512.int32_avx512.add_vs a b) i = (a i) + (b) := by
  simp only [avx512.int32_avx512.add_vs, lane]
theorem int32_avx512_add_sv (fo : FOps) (a : BitVec 32) (b : Reg) (i : Nat) (hi : i < 16) :
    (avx512.int32_avx512.add_sv a b) i = (a) + (b i) := by
  simp only [avx512.int32_avx512.add_sv, lane]
theorem int32_avx512_pos (fo : FOps) (b : Reg) (i : Nat) (hi : i < 16) :
    (avx512.int32_avx512.pos b) i = b i := by
  simp only [avx512.int32_avx512.pos]
theorem int32_avx512_sub_vv (fo : FOps) (a : Reg) (b : Reg) (i : Nat) (hi : i < 16) :
    (avx512.int32_avx512.sub_vv a b) i = (a i) - (b i) := by
  simp only [avx512.int32_avx512.sub_vv, lane]
theorem int32_avx512_sub_vs (fo : FOps) (a : Reg) (b : BitVec 32) (i : Nat) (hi : i < 16) :
    (avx512.int32_avx512.sub_vs a b) i = (a i) - (b) := by
  simp only [avx512.int32_avx512.sub_vs, lane]
theorem int32_avx512_sub_sv (fo : FOps) (a : BitVec 32) (b : Reg) (i : Nat) (hi : i < 16) :
    (avx512.int32_avx512.sub_sv a b) i = (a) - (b i) := by
  simp only [avx512.int32_avx512.sub_sv, lane]
theorem int32_avx512_neg (fo : FOps) (b : Reg) (i : Nat) (hi : i < 16) :
    (avx512.int32_avx512.neg b) i = - (b i) := by
  simp only [avx512.int32_avx512.neg, lane, BitVec.zero_sub]
theorem int32_avx512_mul_vv (fo : FOps) (a : Reg) (b : Reg) (i : Nat) (hi : i < 16) :
    (avx512.int32_avx512.mul_vv a b) i = (a i) * (b i) := by
  simp only [avx512.int32_avx512.mul_vv, lane]
theorem int32_avx512_mul_vs (fo : FOps) (a : Reg) (b : BitVec 32) (i : Nat) (hi : i < 16) :
    (avx512.int32_avx512.mul_vs a b) i = (a i) * (b) := by
  simp only [avx512.int32_avx512.mul_vs, lane]
theorem int32_avx512_mul_sv (fo : FOps) (a : BitVec 32) (b : Reg) (i : Nat) (hi : i < 16) :
    (avx512.int32_avx512.mul_sv a b) i = (a) * (b i) := by
  simp only [avx512.int32_avx512.mul_sv, lane]
theorem int32_avx512_div_vv (fo : FOps) (a : Reg) (b : Reg) (i : Nat) (hi : i < 16) :
    (avx512.int32_avx512.div_vv a b) i = BitVec.sdiv (a i) (b i) := by
  simp only [avx512.int32_avx512.div_vv, loadw_apply, Nat.zero_add]
  refine (scalar_loop32 (fun k _ => BitVec.sdiv ((storew junk 0 16 a) k) ((storew junk 0 16 b) k)) 16 (storew junk 0 16 setzero) i).trans ?_
  simp only [hi, if_true, lane, Nat.zero_le, Nat.zero_add, Nat.sub_zero]
theorem int32_avx512_div_vs (fo : FOps) (a : Reg) (b : BitVec 32) (i : Nat) (hi : i < 16) :
    (avx512.int32_avx512.div_vs a b) i = BitVec.sdiv (a i) (b) := by
  simp only [avx512.int32_avx512.div_vs, loadw_apply, Nat.zero_add]
  refine (scalar_loop32 (fun k _ => BitVec.sdiv ((storew junk 0 16 a) k) b) 16 (storew junk 0 16 setzero) i).trans ?_
  simp only [hi, if_true, lane, Nat.zero_le, Nat.zero_add, Nat.sub_zero]
theorem int32_avx512_div_sv (fo : FOps) (a : BitVec 32) (b : Reg) (i : Nat) (hi : i < 16) :
    (avx512.int32_avx512.div_sv a b) i = BitVec.sdiv (a) (b i) := by
  simp only [avx512.int32_avx512.div_sv, loadw_apply, Nat.zero_add]
  refine (scalar_loop32 (fun k _ => BitVec.sdiv a ((storew junk 0 16 b) k)) 16 (storew junk 0 16 setzero) i).trans ?_
  simp only [hi, if_true, lane, Nat.zero_le, Nat.zero_add, Nat.sub_zero]
theorem int32_avx_ctor (fo : FOps) (i : Nat) (hi : i < 8) :
    (avx512.int32_avx.ctor) i = 0#32 := by
  simp only [avx512.int32_avx.ctor, lane]
theorem int32_avx_ctor_s (fo : FOps) (num : BitVec 32) (i : Nat) (hi : i < 8) :
    (avx512.int32_avx.ctor_s num) i = num := by
  simp only [avx512.int32_avx.ctor_s, lane]
theorem int32_avx_ctor_r (fo : FOps) (regi : Reg) (i : Nat) (hi : i < 8) :
    (avx512.int32_avx.ctor_r regi) i = regi i := by
  simp only [avx512.int32_avx.ctor_r]
theorem int32_avx_load_pb (fo : FOps) (self : Reg) (data : Reg) (Aligned : Bool) (i : Nat) (hi : i < 8) :
    (avx512.int32_avx.load_pb self data Aligned) i = data i := by
  simp only [avx512.int32_avx.load_pb, lane, Nat.zero_add]
theorem int32_avx_store_pb (fo : FOps) (self : Reg) (data : Reg) (Aligned : Bool) (i : Nat) :
    (avx512.int32_avx.store_pb self data Aligned) i = (if i < 8 then self i else data i) := by
  simp only [avx512.int32_avx.store_pb, lane, Nat.zero_le, Nat.zero_add, Nat.sub_zero]
theorem int32_avx_aligned_load_p (fo : FOps) (self : Reg) (data : Reg) (i : Nat) (hi : i < 8) :
    (avx512.int32_avx.aligned_load_p self data) i = data i := by
  simp only [avx512.int32_avx.aligned_load_p, lane, Nat.zero_add]
theorem int32_avx_aligned_store_p (fo : FOps) (self : Reg) (data : Reg) (i : Nat) :
    (avx512.int32_avx.aligned_store_p self data) i = (if i < 8 then self i else data i) := by
  simp only [avx512.int32_avx.aligned_store_p, lane, Nat.zero_le, Nat.zero_add, Nat.sub_zero]
theorem int32_avx_mask_load_pmb (fo : FOps) (self : Reg) (a : Reg) (mask : Nat) (Aligned : Bool) (i : Nat) (hi : i < 8) :
    (avx512.int32_avx.mask_load_pmb self a mask Aligned) i = (if (mask >>> i) % 2 = 1 then a i else self i) := by
  simp only [avx512.int32_avx.mask_load_pmb, lane, Nat.zero_add]
theorem int32_avx_mask_store_pmb (fo : FOps) (self : Reg) (a : Reg) (mask : Nat) (Aligned : Bool) (i : Nat) :
    (avx512.int32_avx.mask_store_pmb self a mask Aligned) i = (if i < 8 ∧ (mask >>> (i)) % 2 = 1 then self i else a i) := by
  simp only [avx512.int32_avx.mask_store_pmb, lane, Nat.zero_le, Nat.zero_add, Nat.sub_zero]
theorem int32_avx_set_s (fo : FOps) (self : Reg) (num : BitVec 32) (i : Nat) (hi : i < 8) :
    (avx512.int32_avx.set_s self num) i = num := by
  simp only [avx512.int32_avx.set_s, lane]
theorem int32_avx_set_ssssssss (fo : FOps) (self : Reg) (num0 : BitVec 32) (num1 : BitVec 32) (num2 : BitVec 32) (num3 : BitVec 32) (num4 : BitVec 32) (num5 : BitVec 32) (num6 : BitVec 32) (num7 : BitVec 32) (i : Nat) (hi : i < 8) :
    (avx512.int32_avx.set_ssssssss self num0 num1 num2 num3 num4 num5 num6 num7) i = [num7, num6, num5, num4, num3, num2, num1, num0].getD i 0 := by
  simp only [avx512.int32_avx.set_ssssssss, lane]
theorem int32_avx_set_sequential_s (fo : FOps) (self : Reg) (num0 : BitVec 32) (i : Nat) (hi : i < 8) :
    (avx512.int32_avx.set_sequential_s self num0) i = num0 + BitVec.ofNat 32 i := by
  simp only [avx512.int32_avx.set_sequential_s, lane]
  interval_cases i
  · exact (BitVec.add_zero num0).symm
  all_goals rfl
theorem int32_avx_iadd_s (fo : FOps) (self : Reg) (num : BitVec 32) (i : Nat) (hi : i < 8) :
    (avx512.int32_avx.iadd_s self num) i = (self i) + (num) := by
  simp (config := {contextual := true}) only [avx512.int32_avx.iadd_s, avx512.mm256_add_epi32x, lane, Nat.reduceMod, Nat.mul_one, Nat.sub_add_cancel, ite_self]
theorem int32_avx_iadd_r (fo : FOps) (self : Reg) (regi : Reg) (i : Nat) (hi : i < 8) :
    (avx512.int32_avx.iadd_r self regi) i = (self i) + (regi i) := by
  simp (config := {contextual := true}) only [avx512.int32_avx.iadd_r, avx512.mm256_add_epi32x, lane, Nat.reduceMod, Nat.mul_one, Nat.sub_add_cancel, ite_self]
theorem int32_avx_iadd_v (fo : FOps) (self : Reg) (a : Reg) (i : Nat) (hi : i < 8) :
    (avx512.int32_avx.iadd_v self a) i = (self i) + (a i) := by
  simp (config := {contextual := true}) only [avx512.int32_avx.iadd_v, avx512.mm256_add_epi32x, lane, Nat.reduceMod, Nat.mul_one, Nat.sub_add_cancel, ite_self]
theorem int32_avx_isub_s (fo : FOps) (self : Reg) (num : BitVec 32) (i : Nat) (hi : i < 8) :
    (avx512.int32_avx.isub_s self num) i = (self i) - (num) := by
  simp (config := {contextual := true}) only [avx512.int32_avx.isub_s, avx512.mm256_sub_epi32x, lane, Nat.reduceMod, Nat.mul_one, Nat.sub_add_cancel, ite_self]
theorem int32_avx_isub_r (fo : FOps) (self : Reg) (regi : Reg) (i : Nat) (hi : i < 8) :
    (avx512.int32_avx.isub_r self regi) i = (self i) - (regi i) := by
  simp (config := {contextual := true}) only [avx512.int32_avx.isub_r, avx512.mm256_sub_epi32x, lane, Nat.reduceMod, Nat.mul_one, Nat.sub_add_cancel, ite_self]
theorem int32_avx_isub_v (fo : FOps) (self : Reg) (a : Reg) (i : Nat) (hi : i < 8) :
    (avx512.int32_avx.isub_v self a) i = (self i) - (a i) := by
  simp (config := {contextual := true}) only [avx512.int32_avx.isub_v, avx512.mm256_sub_epi32x, lane, Nat.reduceMod, Nat.mul_one, Nat.sub_add_cancel, ite_self]
theorem int32_avx_imul_s (fo : FOps) (self : Reg) (num : BitVec 32) (i : Nat) (hi : i < 8) :
    (avx512.int32_avx.imul_s self num) i = (self i) * (num) := by
  simp (config := {contextual := true}) only [avx512.int32_avx.imul_s, avx512.mm256_mul_epi32x, avx512.mm_mul_epi32x, lane, Nat.reduceMod, Nat.mul_one, Nat.sub_add_cancel, ite_self]
theorem int32_avx_imul_r (fo : FOps) (self : Reg) (regi : Reg) (i : Nat) (hi : i < 8) :
    (avx512.int32_avx.imul_r self regi) i = (self i) * (regi i) := by
  simp (config := {contextual := true}) only [avx512.int32_avx.imul_r, avx512.mm256_mul_epi32x, avx512.mm_mul_epi32x, lane, Nat.reduceMod, Nat.mul_one, Nat.sub_add_cancel, ite_self]
theorem int32_avx_imul_v (fo : FOps) (self : Reg) (a : Reg) (i : Nat) (hi : i < 8) :
    (avx512.int32_avx.imul_v self a) i = (self i) * (a i) := by
  simp (config := {contextual := true}) only [avx512.int32_avx.imul_v, avx512.mm256_mul_epi32x, avx512.mm_mul_epi32x, lane, Nat.reduceMod, Nat.mul_one, Nat.sub_add_cancel, ite_self]
theorem int32_avx_idiv_s (fo : FOps) (self : Reg) (num : BitVec 32) (i : Nat) (hi : i < 8) :
    (avx512.int32_avx.idiv_s self num) i = BitVec.sdiv (self i) (num) := by
  simp only [avx512.int32_avx.idiv_s, loadw_apply, Nat.zero_add]
  refine (scalar_loop32 (fun _ x => BitVec.sdiv x num) 8 (storew junk 0 8 self) i).trans ?_
  simp only [hi, if_true, lane, Nat.zero_le, Nat.zero_add, Nat.sub_zero]
theorem int32_avx_idiv_r (fo : FOps) (self : Reg) (regi : Reg) (i : Nat) (hi : i < 8) :
    (avx512.int32_avx.idiv_r self regi) i = BitVec.sdiv (self i) (regi i) := by
  simp only [avx512.int32_avx.idiv_r, loadw_apply, Nat.zero_add]
  refine (scalar_loop32 (fun k x => BitVec.sdiv x ((storew junk 0 8 regi) k)) 8 (storew junk 0 8 self) i).trans ?_
  simp only [hi, if_true, lane, Nat.zero_le, Nat.zero_add, Nat.sub_zero]
theorem int32_avx_idiv_v (fo : FOps) (self : Reg) (a : Reg) (i : Nat) (hi : i < 8) :
    (avx512.int32_avx.idiv_v self a) i = BitVec.sdiv (self i) (a i) := by
  simp only [avx512.int32_avx.idiv_v, loadw_apply, Nat.zero_add]
  refine (scalar_loop32 (fun k x => BitVec.sdiv x ((storew junk 0 8 a) k)) 8 (storew junk 0 8 self) i).trans ?_
  simp only [hi, if_true, lane, Nat.zero_le, Nat.zero_add, Nat.sub_zero]
theorem int32_avx_minimum (self : Reg) :
    avx512.int32_avx.minimum self = [self 0, self 1, self 2, self 3, self 4, self 5, self 6, self 7].foldl (fun q x => smin32 x q) (self 0) := by
  simp (config := {zeta := false}) only [avx512.int32_avx.minimum, ite_slt_eq_smin32]
  simp only [List.foldl]
theorem int32_avx_maximum (self : Reg) :
    avx512.int32_avx.maximum self = [self 0, self 1, self 2, self 3, self 4, self 5, self 6, self 7].foldl (fun q x => smax32 x q) (self 0) := by
  simp (config := {zeta := false}) only [avx512.int32_avx.maximum, ite_slt_eq_smax32]
  simp only [List.foldl]
theorem int32_avx_reverse (fo : FOps) (self : Reg) (i : Nat) (hi : i < 8) :
    (avx512.int32_avx.reverse self) i = self (7 - i) := by
  simp only [avx512.int32_avx.reverse, avx512.mm256_reverse_epi32, avx512.mm256_reverse_ps, lane]
  interval_cases i <;> rfl
theorem int32_avx_sum (self : Reg) :
    avx512.int32_avx.sum self = [self 0, self 1, self 2, self 3, self 4, self 5, self 6, self 7].foldl (· + ·) 0 := by
  rfl
theorem int32_avx_product (self : Reg) :
    avx512.int32_avx.product self = [self 0, self 1, self 2, self 3, self 4, self 5, self 6, self 7].foldl (· * ·) 1 := by
  rfl
theorem int32_avx_dot (self : Reg) (other : Reg) :
    avx512.int32_avx.dot self other = [self 0 * other 0, self 1 * other 1, self 2 * other 2, self 3 * other 3, self 4 * other 4, self 5 * other 5, self 6 * other 6, self 7 * other 7].foldl (· + ·) 0 := by
  rfl
theorem int32_avx_add_vv (fo : FOps) (a : Reg) (b : Reg) (i : Nat) (hi : i < 8) :
    (avx512.int32_avx.add_vv a b) i = (a i) + (b i) := by
  simp (config := {contextual := true}) only [avx512.int32_avx.add_vv, avx512.mm256_add_epi32x, lane, Nat.reduceMod, Nat.mul_one, Nat.sub_add_cancel, ite_self]
theorem int32_avx_add_vs (fo : FOps) (a : Reg) (b : BitVec 32) (i : Nat) (hi : i < 8) :
    (avx512.int32_avx.add_vs a b) i = (a i) + (b) := by
  simp (config := {contextual := true}) only [avx512.int32_avx.add_vs, avx512.mm256_add_epi32x, lane, Nat.reduceMod, Nat.mul_one, Nat.sub_add_cancel, ite_self]
theorem int32_avx_add_sv (fo : FOps) (a : BitVec 32) (b : Reg) (i : Nat) (hi : i < 8) :
    (avx512.int32_avx.add_sv a b) i = (a) + (b i) := by
  simp (config := {contextual := true}) only [avx512.int32_avx.add_sv, avx512.mm256_add_epi32x, lane, Nat.reduceMod, Nat.mul_one, Nat.sub_add_cancel, ite_self]
theorem int32_avx_pos (fo : FOps) (b : Reg) (i : Nat) (hi : i < 8) :
    (avx512.int32_avx.pos b) i = b i := by
  simp only [avx512.int32_avx.pos]
theorem int32_avx_sub_vv (fo : FOps) (a : Reg) (b : Reg) (i : Nat) (hi : i < 8) :
    (avx512.int32_avx.sub_vv a b) i = (a i) - (b i) := by
  simp (config := {contextual := true}) only [avx512.int32_avx.sub_vv, avx512.mm256_sub_epi32x, lane, Nat.reduceMod, Nat.mul_one, Nat.sub_add_cancel, ite_self]
theorem int32_avx_sub_vs (fo : FOps) (a : Reg) (b : BitVec 32) (i : Nat) (hi : i < 8) :
    (avx512.int32_avx.sub_vs a b) i = (a i) - (b) := by
  simp (config := {contextual := true}) only [avx512.int32_avx.sub_vs, avx512.mm256_sub_epi32x, lane, Nat.reduceMod, Nat.mul_one, Nat.sub_add_cancel, ite_self]
theorem int32_avx_sub_sv (fo : FOps) (a : BitVec 32) (b : Reg) (i : Nat) (hi : i < 8) :
    (avx512.int32_avx.sub_sv a b) i = (a) - (b i) := by
  simp (config := {contextual := true}) only [avx512.int32_avx.sub_sv, avx512.mm256_sub_epi32x, lane, Nat.reduceMod, Nat.mul_one, Nat.sub_add_cancel, ite_self]
theorem int32_avx_neg (fo : FOps) (b : Reg) (i : Nat) (hi : i < 8) :
    (avx512.int32_avx.neg b) i = - (b i) := by
  simp (config := {contextual := true}) only [avx512.int32_avx.neg, avx512.mm256_sub_epi32x, lane, Nat.reduceMod, Nat.mul_one, Nat.sub_add_cancel, ite_self, BitVec.zero_sub]
theorem int32_avx_mul_vv (fo : FOps) (a : Reg) (b : Reg) (i : Nat) (hi : i < 8) :
    (avx512.int32_avx.mul_vv a b) i = (a i) * (b i) := by
  simp (config := {contextual := true}) only [avx512.int32_avx.mul_vv, avx512.mm256_mul_epi32x, avx512.mm_mul_epi32x, lane, Nat.reduceMod, Nat.mul_one, Nat.sub_add_cancel, ite_self]
theorem int32_avx_mul_vs (fo : FOps) (a : Reg) (b : BitVec 32) (i : Nat) (hi : i < 8) :
    (avx512.int32_avx.mul_vs a b) i = (a i) * (b) := by
  simp (config := {contextual := true}) only [avx512.int32_avx.mul_vs, avx512.mm256_mul_epi32x, avx512.mm_mul_epi32x, lane, Nat.reduceMod, Nat.mul_one, Nat.sub_add_cancel, ite_self]
theorem int32_avx_mul_sv (fo : FOps) (a : BitVec 32) (b : Reg) (i : Nat) (hi : i < 8) :
    (avx512.int32_avx.mul_sv a b) i = (a) * (b i) := by
  simp (config := {contextual := true}) only [avx512.int32_avx.mul_sv, avx512.mm256_mul_epi32x, avx512.mm_mul_epi32x, lane, Nat.reduceMod, Nat.mul_one, Nat.sub_add_cancel, ite_self]
theorem int32_avx_div_vv (fo : FOps) (a : Reg) (b : Reg) (i : Nat) (hi : i < 8) :
    (avx512.int32_avx.div_vv a b) i = BitVec.sdiv (a i) (b i) := by
  simp only [avx512.int32_avx.div_vv, loadw_apply, Nat.zero_add]
  refine (scalar_loop32 (fun k _ => BitVec.sdiv ((storew junk 0 8 a) k) ((storew junk 0 8 b) k)) 8 (storew junk 0 8 setzero) i).trans ?_
  simp only [hi, if_true, lane, Nat.zero_le, Nat.zero_add, Nat.sub_zero]
theorem int32_avx_div_vs (fo : FOps) (a : Reg) (b : BitVec 32) (i : Nat) (hi : i < 8) :
    (avx512.int32_avx.div_vs a b) i = BitVec.sdiv (a i) (b) := by
  simp only [avx512.int32_avx.div_vs, loadw_apply, Nat.zero_add]
  refine (scalar_loop32 (fun k _ => BitVec.sdiv ((storew junk 0 8 a) k) b) 8 (storew junk 0 8 setzero) i).trans ?_
  simp only [hi, if_true, lane, Nat.zero_le, Nat.zero_add, Nat.sub_zero]
theorem int32_avx_div_sv (fo : FOps) (a : BitVec 32) (b : Reg) (i : Nat) (hi : i < 8) :
    (avx512.int32_avx.div_sv a b) i = BitVec.sdiv (a) (b i) := by
  simp only [avx512.int32_avx.div_sv, loadw_apply, Nat.zero_add]
  refine (scalar_loop32 (fun k _ => BitVec.sdiv a ((storew junk 0 8 b) k)) 8 (storew junk 0 8 setzero) i).trans ?_
  simp only [hi, if_true, lane, Nat.zero_le, Nat.zero_add, Nat.sub_zero]
theorem int32_avx_abs (fo : FOps) (a : Reg) (i : Nat) (hi : i < 8) :
    (avx512.int32_avx.abs a) i = abs32 (a i) := by
  simp only [avx512.int32_avx.abs, lane]
theorem int32_sse_ctor (fo : FOps) (i : Nat) (hi : i < 4) :
    (avx512.int32_sse.ctor) i = 0#32 := by
  simp only [avx512.int32_sse.ctor, lane]
theorem int32_sse_ctor_s (fo : FOps) (num : BitVec 32) (i : Nat) (hi : i < 4) :
    (avx512.int32_sse.ctor_s num) i = num := by
  simp only [avx512.int32_sse.ctor_s, lane]
theorem int32_sse_ctor_r (fo : FOps) (regi : Reg) (i : Nat) (hi : i < 4) :
    (avx512.int32_sse.ctor_r regi) i = regi i := by
  simp only [avx512.int32_sse.ctor_r]
theorem int32_sse_load_pb (fo : FOps) (self : Reg) (data : Reg) (Aligned : Bool) (i : Nat) (hi : i < 4) :
    (avx512.int32_sse.load_pb self data Aligned) i = data i := by
  simp only [avx512.int32_sse.load_pb, lane, Nat.zero_add]
theorem int32_sse_store_pb (fo : FOps) (self : Reg) (data : Reg) (Aligned : Bool) (i : Nat) :
    (avx512.int32_sse.store_pb self data Aligned) i = (if i < 4 then self i else data i) := by
  simp only [avx512.int32_sse.store_pb, lane, Nat.zero_le, Nat.zero_add, Nat.sub_zero]
theorem int32_sse_aligned_load_p (fo : FOps) (self : Reg) (data : Reg) (i : Nat) (hi : i < 4) :
    (avx512.int32_sse.aligned_load_p self data) i = data i := by
  simp only [avx512.int32_sse.aligned_load_p, lane, Nat.zero_add]
theorem int32_sse_aligned_store_p (fo : FOps) (self : Reg) (data : Reg) (i : Nat) :
    (avx512.int32_sse.aligned_store_p self data) i = (if i < 4 then self i else data i) := by
  simp only [avx512.int32_sse.aligned_store_p, lane, Nat.zero_le, Nat.zero_add, Nat.sub_zero]
theorem int32_sse_mask_load_pmb (fo : FOps) (self : Reg) (a : Reg) (mask : Nat) (Aligned : Bool) (i : Nat) (hi : i < 4) :
    (avx512.int32_sse.mask_load_pmb self a mask Aligned) i = (if (mask >>> i) % 2 = 1 then a i else self i) := by
  simp only [avx512.int32_sse.mask_load_pmb, lane, Nat.zero_add]
theorem int32_sse_mask_store_pmb (fo : FOps) (self : Reg) (a : Reg) (mask : Nat) (Aligned : Bool) (i : Nat) :
    (avx512.int32_sse.mask_store_pmb self a mask Aligned) i = (if i < 4 ∧ (mask >>> (i)) % 2 = 1 then self i else a i) := by
  simp only [avx512.int32_sse.mask_store_pmb, lane, Nat.zero_le, Nat.zero_add, Nat.sub_zero]
theorem int32_sse_set_s (fo : FOps) (self : Reg) (num : BitVec 32) (i : Nat) (hi : i < 4) :
    (avx512.int32_sse.set_s self num) i = num := by
  simp only [avx512.int32_sse.set_s, lane]
theorem int32_sse_set_ssss (fo : FOps) (self : Reg) (num0 : BitVec 32) (num1 : BitVec 32) (num2 : BitVec 32) (num3 : BitVec 32) (i : Nat) (hi : i < 4) :
    (avx512.int32_sse.set_ssss self num0 num1 num2 num3) i = [num3, num2, num1, num0].getD i 0 := by
  simp only [avx512.int32_sse.set_ssss, lane]
theorem int32_sse_set_sequential_s (fo : FOps) (self : Reg) (num0 : BitVec 32) (i : Nat) (hi : i < 4) :
    (avx512.int32_sse.set_sequential_s self num0) i = num0 + BitVec.ofNat 32 i := by
  simp only [avx512.int32_sse.set_sequential_s, lane]
  interval_cases i
  · exact (BitVec.add_zero num0).symm
  all_goals rfl
theorem int32_sse_iadd_s (fo : FOps) (self : Reg) (num : BitVec 32) (i : Nat) (hi : i < 4) :
    (avx512.int32_sse.iadd_s self num) i = (self i) + (num) := by
  simp only [avx512.int32_sse.iadd_s, lane]
theorem int32_sse_iadd_r (fo : FOps) (self : Reg) (regi : Reg) (i : Nat) (hi : i < 4) :
    (avx512.int32_sse.iadd_r self regi) i = (self i) + (regi i) := by
  simp only [avx512.int32_sse.iadd_r, lane]
theorem int32_sse_iadd_v (fo : FOps) (self : Reg) (a : Reg) (i : Nat) (hi : i < 4) :
    (avx512.int32_sse.iadd_v self a) i = (self i) + (a i) := by
  simp only [avx512.int32_sse.iadd_v, lane]
theorem int32_sse_isub_s (fo : FOps) (self : Reg) (num : BitVec 32) (i : Nat) (hi : i < 4) :
    (avx512.int32_sse.isub_s self num) i = (self i) - (num) := by
  simp only [avx512.int32_sse.isub_s, lane]
theorem int32_sse_isub_r (fo : FOps) (self : Reg) (regi : Reg) (i : Nat) (hi : i < 4) :
    (avx512.int32_sse.isub_r self regi) i = (self i) - (regi i) := by
  simp only [avx512.int32_sse.isub_r, lane]
theorem int32_sse_isub_v (fo : FOps) (self : Reg) (a : Reg) (i : Nat) (hi : i < 4) :
    (avx512.int32_sse.isub_v self a) i = (self i) - (a i) := by
  simp only [avx512.int32_sse.isub_v, lane]
theorem int32_sse_imul_s (fo : FOps) (self : Reg) (num : BitVec 32) (i : Nat) (hi : i < 4) :
    (avx512.int32_sse.imul_s self num) i = (self i) * (num) := by
  simp only [avx512.int32_sse.imul_s, avx512.mm_mul_epi32x, lane]
theorem int32_sse_imul_r (fo : FOps) (self : Reg) (regi : Reg) (i : Nat) (hi : i < 4) :
    (avx512.int32_sse.imul_r self regi) i = (self i) * (regi i) := by
  simp only [avx512.int32_sse.imul_r, avx512.mm_mul_epi32x, lane]
theorem int32_sse_imul_v (fo : FOps) (self : Reg) (a : Reg) (i : Nat) (hi : i < 4) :
    (avx512.int32_sse.imul_v self a) i = (self i) * (a i) := by
  simp only [avx512.int32_sse.imul_v, avx512.mm_mul_epi32x, lane]
theorem int32_sse_idiv_s (fo : FOps) (self : Reg) (num : BitVec 32) (i : Nat) (hi : i < 4) :
    (avx512.int32_sse.idiv_s self num) i = BitVec.sdiv (self i) (num) := by
  simp only [avx512.int32_sse.idiv_s, loadw_apply, Nat.zero_add]
  refine (scalar_loop32 (fun _ x => BitVec.sdiv x num) 4 (storew junk 0 4 self) i).trans ?_
  simp only [hi, if_true, lane, Nat.zero_le, Nat.zero_add, Nat.sub_zero]
theorem int32_sse_idiv_r (fo : FOps) (self : Reg) (regi : Reg) (i : Nat) (hi : i < 4) :
    (avx512.int32_sse.idiv_r self regi) i = BitVec.sdiv (self i) (regi i) := by
  simp only [avx512.int32_sse.idiv_r, loadw_apply, Nat.zero_add]
  refine (scalar_loop32 (fun k x => BitVec.sdiv x ((storew junk 0 4 regi) k)) 4 (storew junk 0 4 self) i).trans ?_
  simp only [hi, if_true, lane, Nat.zero_le, Nat.zero_add, Nat.sub_zero]
theorem int32_sse_idiv_v (fo : FOps) (self : Reg) (a : Reg) (i : Nat) (hi : i < 4) :
    (avx512.int32_sse.idiv_v self a) i = BitVec.sdiv (self i) (a i) := by
  simp only [avx512.int32_sse.idiv_v, loadw_apply, Nat.zero_add]
  refine (scalar_loop32 (fun k x => BitVec.sdiv x ((storew junk 0 4 a) k)) 4 (storew junk 0 4 self) i).trans ?_
  simp only [hi, if_true, lane, Nat.zero_le, Nat.zero_add, Nat.sub_zero]
theorem int32_sse_minimum (self : Reg) :
    avx512.int32_sse.minimum self = [self 0, self 1, self 2, self 3].foldl (fun q x => smin32 x q) (self 0) := by
  simp (config := {zeta := false}) only [avx512.int32_sse.minimum, ite_slt_eq_smin32]
  simp only [List.foldl]
theorem int32_sse_maximum (self : Reg) :
    avx512.int32_sse.maximum self = [self 0, self 1, self 2, self 3].foldl (fun q x => smax32 x q) (self 0) := by
  simp (config := {zeta := false}) only [avx512.int32_sse.maximum, ite_slt_eq_smax32]
  simp only [List.foldl]
theorem int32_sse_reverse (fo : FOps) (self : Reg) (i : Nat) (hi : i < 4) :
    (avx512.int32_sse.reverse self) i = self (3 - i) := by
  simp only [avx512.int32_sse.reverse, avx512.mm_reverse_epi32, lane]
  interval_cases i <;> rfl
theorem int32_sse_sum (self : Reg) :
    avx512.int32_sse.sum self = [self 0, self 1, self 2, self 3].foldl (· + ·) 0 := by
  simp only [avx512.int32_sse.sum, avx512.mm_sum_epi32, lane, List.foldl, simprocAttr]
  ac_rfl
theorem int32_sse_product (self : Reg) :
    avx512.int32_sse.product self = [self 0, self 1, self 2, self 3].foldl (· * ·) 1 := by
  simp only [avx512.int32_sse.product, avx512.mm_prod_epi32, lane, List.foldl, simprocAttr]
  ac_rfl
theorem int32_sse_dot (self : Reg) (other : Reg) :
    avx512.int32_sse.dot self other = [self 0 * other 0, self 1 * other 1, self 2 * other 2, self 3 * other 3].foldl (· + ·) 0 := by
  simp only [avx512.int32_sse.dot, avx512.mm_mul_epi32x, avx512.mm_sum_epi32, lane, List.foldl, simprocAttr]
  ac_rfl
theorem int32_sse_add_vv (fo : FOps) (a : Reg) (b : Reg) (i : Nat) (hi : i < 4) :
    (avx512.int32_sse.add_vv a b) i = (a i) + (b i) := by
  simp only [avx512.int32_sse.add_vv, lane]
theorem int32_sse_add_vs (fo : FOps) (a : Reg) (b : BitVec 32) (i : Nat) (hi : i < 4) :
    (avx512.int32_sse.add_vs a b) i = (a i) + (b) := by
  simp only [avx512.int32_sse.add_vs, lane]
theorem int32_sse_add_sv (fo : FOps) (a : BitVec 32) (b : Reg) (i : Nat) (hi : i < 4) :
    (avx512.int32_sse.add_sv a b) i = (a) + (b i) := by
  simp only [avx512.int32_sse.add_sv, lane]
theorem int32_sse_pos (fo : FOps) (b : Reg) (i : Nat) (hi : i < 4) :
    (avx512.int32_sse.pos b) i = b i := by
  simp only [avx512.int32_sse.pos]
theorem int32_sse_sub_vv (fo : FOps) (a : Reg) (b : Reg) (i : Nat) (hi : i < 4) :
    (avx512.int32_sse.sub_vv a b) i = (a i) - (b i) := by
  simp only [avx512.int32_sse.sub_vv, lane]
theorem int32_sse_sub_vs (fo : FOps) (a : Reg) (b : BitVec 32) (i : Nat) (hi : i < 4) :
    (avx512.int32_sse.sub_vs a b) i = (a i) - (b) := by
  simp only [avx512.int32_sse.sub_vs, lane]
theorem int32_sse_sub_sv (fo : FOps) (a : BitVec 32) (b : Reg) (i : Nat) (hi : i < 4) :
    (avx512.int32_sse.sub_sv a b) i = (a) - (b i) := by
  simp only [avx512.int32_sse.sub_sv, lane]
theorem int32_sse_neg (fo : FOps) (b : Reg) (i : Nat) (hi : i < 4) :
    (avx512.int32_sse.neg b) i = - (b i) := by
  simp only [avx512.int32_sse.neg, lane, BitVec.zero_sub]
theorem int32_sse_mul_vv (fo : FOps) (a : Reg) (b : Reg) (i : Nat) (hi : i < 4) :
    (avx512.int32_sse.mul_vv a b) i = (a i) * (b i) := by
  simp only [avx512.int32_sse.mul_vv, avx512.mm_mul_epi32x, lane]
theorem int32_sse_mul_vs (fo : FOps) (a : Reg) (b : BitVec 32) (i : Nat) (hi : i < 4) :
    (avx512.int32_sse.mul_vs a b) i = (a i) * (b) := by
  simp only [avx512.int32_sse.mul_vs, avx512.mm_mul_epi32x, lane]
theorem int32_sse_mul_sv (fo : FOps) (a : BitVec 32) (b : Reg) (i : Nat) (hi : i < 4) :
    (avx512.int32_sse.mul_sv a b) i = (a) * (b i) := by
  simp only [avx512.int32_sse.mul_sv, avx512.mm_mul_epi32x, lane]
theorem int32_sse_div_vv (fo : FOps) (a : Reg) (b : Reg) (i : Nat) (hi : i < 4) :
    (avx512.int32_sse.div_vv a b) i = BitVec.sdiv (a i) (b i) := by
  simp only [avx512.int32_sse.div_vv, loadw_apply, Nat.zero_add]
  refine (scalar_loop32 (fun k _ => BitVec.sdiv ((storew junk 0 4 a) k) ((storew junk 0 4 b) k)) 4 (storew junk 0 4 setzero) i).trans ?_
  simp only [hi, if_true, lane, Nat.zero_le, Nat.zero_add, Nat.sub_zero]
theorem int32_sse_div_vs (fo : FOps) (a : Reg) (b : BitVec 32) (i : Nat) (hi : i < 4) :
    (avx512.int32_sse.div_vs a b) i = BitVec.sdiv (a i) (b) := by
  simp only [avx512.int32_sse.div_vs, loadw_apply, Nat.zero_add]
  refine (scalar_loop32 (fun k _ => BitVec.sdiv ((storew junk 0 4 a) k) b) 4 (storew junk 0 4 setzero) i).trans ?_
  simp only [hi, if_true, lane, Nat.zero_le, Nat.zero_add, Nat.sub_zero]
theorem int32_sse_div_sv (fo : FOps) (a : BitVec 32) (b : Reg) (i : Nat) (hi : i < 4) :
    (avx512.int32_sse.div_sv a b) i = BitVec.sdiv (a) (b i) := by
  simp only [avx512.int32_sse.div_sv, loadw_apply, Nat.zero_add]
  refine (scalar_loop32 (fun k _ => BitVec.sdiv a ((storew junk 0 4 b) k)) 4 (storew junk 0 4 setzero) i).trans ?_
  simp only [hi, if_true, lane, Nat.zero_le, Nat.zero_add, Nat.sub_zero]
theorem int32_sse_abs (fo : FOps) (a : Reg) (i : Nat) (hi : i < 4) :
    (avx512.int32_sse.abs a) i = abs32 (a i) := by
  simp only [avx512.int32_sse.abs, lane]
theorem int64_avx512_ctor (fo : FOps) (i : Nat) (hi : i < 8) :
    lane64 (avx512.int64_avx512.ctor) i = 0#64 := by
  simp only [avx512.int64_avx512.ctor, lane]
theorem int64_avx512_ctor_s (fo : FOps) (num : BitVec 64) (i : Nat) (hi : i < 8) :
    lane64 (avx512.int64_avx512.ctor_s num) i = num := by
  simp only [avx512.int64_avx512.ctor_s, lane]
theorem int64_avx512_ctor_r (fo : FOps) (regi : Reg) (i : Nat) (hi : i < 8) :
    lane64 (avx512.int64_avx512.ctor_r regi) i = lane64 regi i := by
  simp only [avx512.int64_avx512.ctor_r]
theorem int64_avx512_load_pb (fo : FOps) (self : Reg) (data : Reg) (Aligned : Bool) (i : Nat) (hi : i < 8) :
    lane64 (avx512.int64_avx512.load_pb self data Aligned) i = lane64 data i := by
  simp only [avx512.int64_avx512.load_pb, lane, Nat.zero_mod, Nat.zero_div, Nat.zero_add]
theorem int64_avx512_store_pb (fo : FOps) (self : Reg) (data : Reg) (Aligned : Bool) (i : Nat) :
    (avx512.int64_avx512.store_pb self data Aligned) i = (if i < 16 then self i else data i) := by
  simp only [avx512.int64_avx512.store_pb, lane, Nat.zero_le, Nat.zero_add, Nat.sub_zero]
theorem int64_avx512_aligned_load_p (fo : FOps) (self : Reg) (data : Reg) (i : Nat) (hi : i < 8) :
    lane64 (avx512.int64_avx512.aligned_load_p self data) i = lane64 data i := by
  simp only [avx512.int64_avx512.aligned_load_p, lane, Nat.zero_mod, Nat.zero_div, Nat.zero_add]
theorem int64_avx512_aligned_store_p (fo : FOps) (self : Reg) (data : Reg) (i : Nat) :
    (avx512.int64_avx512.aligned_store_p self data) i = (if i < 16 then self i else data i) := by
  simp only [avx512.int64_avx512.aligned_store_p, lane, Nat.zero_le, Nat.zero_add, Nat.sub_zero]
theorem int64_avx512_mask_load_pmb (fo : FOps) (self : Reg) (a : Reg) (mask : Nat) (Aligned : Bool) (i : Nat) (hi : i < 8) :
    lane64 (avx512.int64_avx512.mask_load_pmb self a mask Aligned) i = (if (mask >>> i) % 2 = 1 then lane64 a i else lane64 self i) := by
  simp only [avx512.int64_avx512.mask_load_pmb, lane, Nat.zero_mod, Nat.zero_div, Nat.zero_add]
theorem int64_avx512_mask_store_pmb (fo : FOps) (self : Reg) (a : Reg) (mask : Nat) (Aligned : Bool) (i : Nat) :
    (avx512.int64_avx512.mask_store_pmb self a mask Aligned) i = (if i < 16 ∧ (mask >>> (i / 2)) % 2 = 1 then self i else a i) := by
  simp only [avx512.int64_avx512.mask_store_pmb, lane, Nat.zero_le, Nat.zero_add, Nat.sub_zero]
theorem int64_avx512_set_s (fo : FOps) (self : Reg) (num : BitVec 64) (i : Nat) (hi : i < 8) :
    lane64 (avx512.int64_avx512.set_s self num) i = num := by
  simp only [avx512.int64_avx512.set_s, lane]
theorem int64_avx512_set_ssssssss (fo : FOps) (self : Reg) (num0 : BitVec 64) (num1 : BitVec 64) (num2 : BitVec 64) (num3 : BitVec 64) (num4 : BitVec 64) (num5 : BitVec 64) (num6 : BitVec 64) (num7 : BitVec 64) (i : Nat) (hi : i < 8) :
    lane64 (avx512.int64_avx512.set_ssssssss self num0 num1 num2 num3 num4 num5 num6 num7) i = [num7, num6, num5, num4, num3, num2, num1, num0].getD i 0 := by
  simp only [avx512.int64_avx512.set_ssssssss, lane]
theorem int64_avx512_set_sequential_s (fo : FOps) (self : Reg) (num0 : BitVec 64) (i : Nat) (hi : i < 8) :
    lane64 (avx512.int64_avx512.set_sequential_s self num0) i = num0 + BitVec.ofNat 64 i := by
  simp only [avx512.int64_avx512.set_sequential_s, lane]
  interval_cases i
  · exact (BitVec.add_zero num0).symm
  all_goals rfl
theorem int64_avx512_iadd_s (fo : FOps) (self : Reg) (num : BitVec 64) (i : Nat) (hi : i < 8) :
    lane64 (avx512.int64_avx512.iadd_s self num) i = (lane64 self i) + (num) := by
  simp only [avx512.int64_avx512.iadd_s, lane]
theorem int64_avx512_iadd_r (fo : FOps) (self : Reg) (regi : Reg) (i : Nat) (hi : i < 8) :
    lane64 (avx512.int64_avx512.iadd_r self regi) i = (lane64 self i) + (lane64 regi i) := by
  simp only [avx512.int64_avx512.iadd_r, lane]
theorem int64_avx512_iadd_v (fo : FOps) (self : Reg) (a : Reg) (i : Nat) (hi : i < 8) :
    lane64 (avx512.int64_avx512.iadd_v self a) i = (lane64 self i) + (lane64 a i) := by
  simp only [avx512.int64_avx512.iadd_v, lane]
theorem int64_avx512_isub_s (fo : FOps) (self : Reg) (num : BitVec 64) (i : Nat) (hi : i < 8) :
    lane64 (avx512.int64_avx512.isub_s self num) i = (lane64 self i) - (num) := by
  simp only [avx512.int64_avx512.isub_s, lane]
theorem int64_avx512_isub_r (fo : FOps) (self : Reg) (regi : Reg) (i : Nat) (hi : i < 8) :
    lane64 (avx512.int64_avx512.isub_r self regi) i = (lane64 self i) - (lane64 regi i) := by
  simp only [avx512.int64_avx512.isub_r, lane]
theorem int64_avx512_isub_v (fo : FOps) (self : Reg) (a : Reg) (i : Nat) (hi : i < 8) :
    lane64 (avx512.int64_avx512.isub_v self a) i = (lane64 self i) - (lane64 a i) := by
  simp only [avx512.int64_avx512.isub_v, lane]
theorem int64_avx512_imul_s (fo : FOps) (self : Reg) (num : BitVec 64) (i : Nat) (hi : i < 8) :
    lane64 (avx512.int64_avx512.imul_s self num) i = (lane64 self i) * (num) := by
  simp only [avx512.int64_avx512.imul_s, lane]
theorem int64_avx512_imul_r (fo : FOps) (self : Reg) (regi : Reg) (i : Nat) (hi : i < 8) :
    lane64 (avx512.int64_avx512.imul_r self regi) i = (lane64 self i) * (lane64 regi i) := by
  simp only [avx512.int64_avx512.imul_r, lane]
theorem int64_avx512_imul_v (fo : FOps) (self : Reg) (a : Reg) (i : Nat) (hi : i < 8) :
    lane64 (avx512.int64_avx512.imul_v self a) i = (lane64 self i) * (lane64 a i) := by
  simp only [avx512.int64_avx512.imul_v, lane]
theorem int64_avx512_idiv_s (fo : FOps) (self : Reg) (num : BitVec 64) (i : Nat) (hi : i < 8) :
    lane64 (avx512.int64_avx512.idiv_s self num) i = BitVec.sdiv (lane64 self i) (num) := by
  simp only [avx512.int64_avx512.idiv_s, lane64_loadw, Nat.zero_mod, Nat.zero_div, Nat.zero_add]
  refine (scalar_loop64 (fun _ x => BitVec.sdiv x num) 8 (storew junk 0 16 self) i).trans ?_
  simp only [hi, if_true, lane, Nat.zero_mod, Nat.zero_div, Nat.reduceMod, Nat.reduceDiv, Nat.zero_le, Nat.zero_add, Nat.sub_zero]
theorem int64_avx512_idiv_r (fo : FOps) (self : Reg) (regi : Reg) (i : Nat) (hi : i < 8) :
    lane64 (avx512.int64_avx512.idiv_r self regi) i = BitVec.sdiv (lane64 self i) (lane64 regi i) := by
  simp only [avx512.int64_avx512.idiv_r, lane64_loadw, Nat.zero_mod, Nat.zero_div, Nat.zero_add]
  refine (scalar_loop64 (fun k x => BitVec.sdiv x (lane64 (storew junk 0 16 regi) k)) 8 (storew junk 0 16 self) i).trans ?_
  simp only [hi, if_true, lane, Nat.zero_mod, Nat.zero_div, Nat.reduceMod, Nat.reduceDiv, Nat.zero_le, Nat.zero_add, Nat.sub_zero]
theorem int64_avx512_idiv_v (fo : FOps) (self : Reg) (a : Reg) (i : Nat) (hi : i < 8) :
    lane64 (avx512.int64_avx512.idiv_v self a) i = BitVec.sdiv (lane64 self i) (lane64 a i) := by
  simp only [avx512.int64_avx512.idiv_v, lane64_loadw, Nat.zero_mod, Nat.zero_div, Nat.zero_add]
  refine (scalar_loop64 (fun k x => BitVec.sdiv x (lane64 (storew junk 0 16 a) k)) 8 (storew junk 0 16 self) i).trans ?_
  simp only [hi, if_true, lane, Nat.zero_mod, Nat.zero_div, Nat.reduceMod, Nat.reduceDiv, Nat.zero_le, Nat.zero_add, Nat.sub_zero]
theorem int64_avx512_reverse (fo : FOps) (self : Reg) (i : Nat) (hi : i < 8) :
    lane64 (avx512.int64_avx512.reverse self) i = lane64 self (7 - i) := by
  simp only [avx512.int64_avx512.reverse, avx512.mm512_reverse_epi64, lane]
  interval_cases i <;> rfl
theorem int64_avx512_sum (self : Reg) :
    avx512.int64_avx512.sum self = [lane64 self 0, lane64 self 1, lane64 self 2, lane64 self 3, lane64 self 4, lane64 self 5, lane64 self 6, lane64 self 7].foldl (· + ·) 0 := by
  simp only [avx512.int64_avx512.sum, lane, reduce_add_epi64, List.range_succ, List.range_zero, List.foldl]
theorem int64_avx512_add_vv (fo : FOps) (a : Reg) (b : Reg) (i : Nat) (hi : i < 8) :
    lane64 (avx512.int64_avx512.add_vv a b) i = (lane64 a i) + (lane64 b i) := by
  simp only [avx512.int64_avx512.add_vv, lane]
theorem int64_avx512_add_vs (fo : FOps) (a : Reg) (b : BitVec 64) (i : Nat) (hi : i < 8) :
    lane64 (avx512.int64_avx512.add_vs a b) i = (lane64 a i) + (b) := by
  simp only [avx512.int64_avx512.add_vs, lane]
theorem int64_avx512_add_sv (fo : FOps) (a : BitVec 64) (b : Reg) (i : Nat) (hi : i < 8) :
    lane64 (avx512.int64_avx512.add_sv a b) i = (a) + (lane64 b i) := by
  simp only [avx512.int64_avx512.add_sv, lane]
theorem int64_avx512_pos (fo : FOps) (b : Reg) (i : Nat) (hi : i < 8) :
    lane64 (avx512.int64_avx512.pos b) i = lane64 b i := by
  simp only [avx512.int64_avx512.pos]
theorem int64_avx512_sub_vv (fo : FOps) (a : Reg) (b : Reg) (i : Nat) (hi : i < 8) :
    lane64 (avx512.int64_avx512.sub_vv a b) i = (lane64 a i) - (lane64 b i) := by
  simp only [avx512.int64_avx512.sub_vv, lane]
theorem int64_avx512_sub_vs (fo : FOps) (a : Reg) (b : BitVec 64) (i : Nat) (hi : i < 8) :
    lane64 (avx512.int64_avx512.sub_vs a b) i = (lane64 a i) - (b) := by
  simp only [avx512.int64_avx512.sub_vs, lane]
theorem int64_avx512_sub_sv (fo : FOps) (a : BitVec 64) (b : Reg) (i : Nat) (hi : i < 8) :
    lane64 (avx512.int64_avx512.sub_sv a b) i = (a) - (lane64 b i) := by
  simp only [avx512.int64_avx512.sub_sv, lane]
theorem int64_avx512_neg (fo : FOps) (b : Reg) (i : Nat) (hi : i < 8) :
    lane64 (avx512.int64_avx512.neg b) i = - (lane64 b i) := by
  simp only [avx512.int64_avx512.neg, lane, BitVec.zero_sub]
theorem int64_avx512_mul_vv (fo : FOps) (a : Reg) (b : Reg) (i : Nat) (hi : i < 8) :
    lane64 (avx512.int64_avx512.mul_vv a b) i = (lane64 a i) * (lane64 b i) := by
  simp only [avx512.int64_avx512.mul_vv, lane]
theorem int64_avx512_mul_vs (fo : FOps) (a : Reg) (b : BitVec 64) (i : Nat) (hi : i < 8) :
    lane64 (avx512.int64_avx512.mul_vs a b) i = (lane64 a i) * (b) := by
  simp only [avx512.int64_avx512.mul_vs, lane]
theorem int64_avx512_mul_sv (fo : FOps) (a : BitVec 64) (b : Reg) (i : Nat) (hi : i < 8) :
    lane64 (avx512.int64_avx512.mul_sv a b) i = (a) * (lane64 b i) := by
  simp only [avx512.int64_avx512.mul_sv, lane]
theorem int64_avx512_div_vv (fo : FOps) (a : Reg) (b : Reg) (i : Nat) (hi : i < 8) :
    lane64 (avx512.int64_avx512.div_vv a b) i = BitVec.sdiv (lane64 a i) (lane64 b i) := by
  simp only [avx512.int64_avx512.div_vv, lane64_loadw, Nat.zero_mod, Nat.zero_div, Nat.zero_add]
  refine (scalar_loop64 (fun k _ => BitVec.sdiv (lane64 (storew junk 0 16 a) k) (lane64 (storew junk 0 16 b) k)) 8 (storew junk 0 16 setzero) i).trans ?_
  simp only [hi, if_true, lane, Nat.zero_mod, Nat.zero_div, Nat.reduceMod, Nat.reduceDiv, Nat.zero_le, Nat.zero_add, Nat.sub_zero]
theorem int64_avx512_div_vs (fo : FOps) (a : Reg) (b : BitVec 64) (i : Nat) (hi : i < 8) :
    lane64 (avx512.int64_avx512.div_vs a b) i = BitVec.sdiv (lane64 a i) (b) := by
  simp only [avx512.int64_avx512.div_vs, lane64_loadw, Nat.zero_mod, Nat.zero_div, Nat.zero_add]
  refine (scalar_loop64 (fun k _ => BitVec.sdiv (lane64 (storew junk 0 16 a) k) b) 8 (storew junk 0 16 setzero) i).trans ?_
  simp only [hi, if_true, lane, Nat.zero_mod, Nat.zero_div, Nat.reduceMod, Nat.reduceDiv, Nat.zero_le, Nat.zero_add, Nat.sub_zero]
theorem int64_avx512_div_sv (fo : FOps) (a : BitVec 64) (b : Reg) (i : Nat) (hi : i < 8) :
    lane64 (avx512.int64_avx512.div_sv a b) i = BitVec.sdiv (a) (lane64 b i) := by
  simp only [avx512.int64_avx512.div_sv, lane64_loadw, Nat.zero_mod, Nat.zero_div, Nat.zero_add]
  refine (scalar_loop64 (fun k _ => BitVec.sdiv a (lane64 (storew junk 0 16 b) k)) 8 (storew junk 0 16 setzero) i).trans ?_
  simp only [hi, if_true, lane, Nat.zero_mod, Nat.zero_div, Nat.reduceMod, Nat.reduceDiv, Nat.zero_le, Nat.zero_add, Nat.sub_zero]
theorem int64_avx_ctor (fo : FOps) (i : Nat) (hi : i < 4) :
    lane64 (avx512.int64_avx.ctor) i = 0#64 := by
  simp only [avx512.int64_avx.ctor, lane]
theorem int64_avx_ctor_s (fo : FOps) (num : BitVec 64) (i : Nat) (hi : i < 4) :
    lane64 (avx512.int64_avx.ctor_s num) i = num := by
  simp only [avx512.int64_avx.ctor_s, lane]
theorem int64_avx_ctor_r (fo : FOps) (regi : Reg) (i : Nat) (hi : i < 4) :
    lane64 (avx512.int64_avx.ctor_r regi) i = lane64 regi i := by
  simp only [avx512.int64_avx.ctor_r]
theorem int64_avx_load_pb (fo : FOps) (self : Reg) (data : Reg) (Aligned : Bool) (i : Nat) (hi : i < 4) :
    lane64 (avx512.int64_avx.load_pb self data Aligned) i = lane64 data i := by
  simp only [avx512.int64_avx.load_pb, lane, Nat.zero_mod, Nat.zero_div, Nat.zero_add]
theorem int64_avx_store_pb (fo : FOps) (self : Reg) (data : Reg) (Aligned : Bool) (i : Nat) :
    (avx512.int64_avx.store_pb self data Aligned) i = (if i < 8 then self i else data i) := by
  simp only [avx512.int64_avx.store_pb, lane, Nat.zero_le, Nat.zero_add, Nat.sub_zero]
theorem int64_avx_aligned_load_p (fo : FOps) (self : Reg) (data : Reg) (i : Nat) (hi : i < 4) :
    lane64 (avx512.int64_avx.aligned_load_p self data) i = lane64 data i := by
  simp only [avx512.int64_avx.aligned_load_p, lane, Nat.zero_mod, Nat.zero_div, Nat.zero_add]
theorem int64_avx_aligned_store_p (fo : FOps) (self : Reg) (data : Reg) (i : Nat) :
    (avx512.int64_avx.aligned_store_p self data) i = (if i < 8 then self i else data i) := by
  simp only [avx512.int64_avx.aligned_store_p, lane, Nat.zero_le, Nat.zero_add, Nat.sub_zero]
theorem int64_avx_mask_load_pmb (fo : FOps) (self : Reg) (a : Reg) (mask : Nat) (Aligned : Bool) (i : Nat) (hi : i < 4) :
    lane64 (avx512.int64_avx.mask_load_pmb self a mask Aligned) i = (if (mask >>> i) % 2 = 1 then lane64 a i else lane64 self i) := by
  simp only [avx512.int64_avx.mask_load_pmb, lane, Nat.zero_mod, Nat.zero_div, Nat.zero_add]
theorem int64_avx_mask_store_pmb (fo : FOps) (self : Reg) (a : Reg) (mask : Nat) (Aligned : Bool) (i : Nat) :
    (avx512.int64_avx.mask_store_pmb self a mask Aligned) i = (if i < 8 ∧ (mask >>> (i / 2)) % 2 = 1 then self i else a i) := by
  simp only [avx512.int64_avx.mask_store_pmb, lane, Nat.zero_le, Nat.zero_add, Nat.sub_zero]
theorem int64_avx_set_s (fo : FOps) (self : Reg) (num : BitVec 64) (i : Nat) (hi : i < 4) :
    lane64 (avx512.int64_avx.set_s self num) i = num := by
  simp only [avx512.int64_avx.set_s, lane]
theorem int64_avx_set_ssss (fo : FOps) (self : Reg) (num0 : BitVec 64) (num1 : BitVec 64) (num2 : BitVec 64) (num3 : BitVec 64) (i : Nat) (hi : i < 4) :
    lane64 (avx512.int64_avx.set_ssss self num0 num1 num2 num3) i = [num3, num2, num1, num0].getD i 0 := by
  simp only [avx512.int64_avx.set_ssss, lane]
theorem int64_avx_set_sequential_s (fo : FOps) (self : Reg) (num0 : BitVec 64) (i : Nat) (hi : i < 4) :
    lane64 (avx512.int64_avx.set_sequential_s self num0) i = num0 + BitVec.ofNat 64 i := by
  simp only [avx512.int64_avx.set_sequential_s, lane]
  interval_cases i
  · exact (BitVec.add_zero num0).symm
  all_goals rfl
theorem int64_avx_iadd_s (fo : FOps) (self : Reg) (num : BitVec 64) (i : Nat) (hi : i < 4) :
    lane64 (avx512.int64_avx.iadd_s self num) i = (lane64 self i) + (num) := by
  simp (config := {contextual := true}) only [avx512.int64_avx.iadd_s, avx512.mm256_add_epi64x, lane, Nat.reduceMod, Nat.mul_one, Nat.sub_add_cancel, ite_self]
theorem int64_avx_iadd_r (fo : FOps) (self : Reg) (regi : Reg) (i : Nat) (hi : i < 4) :
    lane64 (avx512.int64_avx.iadd_r self regi) i = (lane64 self i) + (lane64 regi i) := by
  simp (config := {contextual := true}) only [avx512.int64_avx.iadd_r, avx512.mm256_add_epi64x, lane, Nat.reduceMod, Nat.mul_one, Nat.sub_add_cancel, ite_self]
theorem int64_avx_iadd_v (fo : FOps) (self : Reg) (a : Reg) (i : Nat) (hi : i < 4) :
    lane64 (avx512.int64_avx.iadd_v self a) i = (lane64 self i) + (lane64 a i) := by
  simp (config := {contextual := true}) only [avx512.int64_avx.iadd_v, avx512.mm256_add_epi64x, lane, Nat.reduceMod, Nat.mul_one, Nat.sub_add_cancel, ite_self]
theorem int64_avx_isub_s (fo : FOps) (self : Reg) (num : BitVec 64) (i : Nat) (hi : i < 4) :
    lane64 (avx512.int64_avx.isub_s self num) i = (lane64 self i) - (num) := by
  simp (config := {contextual := true}) only [avx512.int64_avx.isub_s, avx512.mm256_sub_epi64x, lane, Nat.reduceMod, Nat.mul_one, Nat.sub_add_cancel, ite_self]
theorem int64_avx_isub_r (fo : FOps) (self : Reg) (regi : Reg) (i : Nat) (hi : i < 4) :
    lane64 (avx512.int64_avx.isub_r self regi) i = (lane64 self i) - (lane64 regi i) := by
  simp (config := {contextual := true}) only [avx512.int64_avx.isub_r, avx512.mm256_sub_epi64x, lane, Nat.reduceMod, Nat.mul_one, Nat.sub_add_cancel, ite_self]
theorem int64_avx_isub_v (fo : FOps) (self : Reg) (a : Reg) (i : Nat) (hi : i < 4) :
    lane64 (avx512.int64_avx.isub_v self a) i = (lane64 self i) - (lane64 a i) := by
  simp (config := {contextual := true}) only [avx512.int64_avx.isub_v, avx512.mm256_sub_epi64x, lane, Nat.reduceMod, Nat.mul_one, Nat.sub_add_cancel, ite_self]
theorem int64_avx_imul_s (fo : FOps) (self : Reg) (num : BitVec 64) (i : Nat) (hi : i < 4) :
    lane64 (avx512.int64_avx.imul_s self num) i = (lane64 self i) * (num) := by
  simp only [avx512.int64_avx.imul_s, avx512.mm256_mul_epi64x, avx512.mm_mul_epi64]
  interval_cases i <;> simp only [lane, simprocAttr]
theorem int64_avx_imul_r (fo : FOps) (self : Reg) (regi : Reg) (i : Nat) (hi : i < 4) :
    lane64 (avx512.int64_avx.imul_r self regi) i = (lane64 self i) * (lane64 regi i) := by
  simp only [avx512.int64_avx.imul_r, avx512.mm256_mul_epi64x, avx512.mm_mul_epi64]
  interval_cases i <;> simp only [lane, simprocAttr]
theorem int64_avx_imul_v (fo : FOps) (self : Reg) (a : Reg) (i : Nat) (hi : i < 4) :
    lane64 (avx512.int64_avx.imul_v self a) i = (lane64 self i) * (lane64 a i) := by
  simp only [avx512.int64_avx.imul_v, avx512.mm256_mul_epi64x, avx512.mm_mul_epi64]
  interval_cases i <;> simp only [lane, simprocAttr]
theorem int64_avx_idiv_s (fo : FOps) (self : Reg) (num : BitVec 64) (i : Nat) (hi : i < 4) :
    lane64 (avx512.int64_avx.idiv_s self num) i = BitVec.sdiv (lane64 self i) (num) := by
  simp only [avx512.int64_avx.idiv_s, lane64_loadw, Nat.zero_mod, Nat.zero_div, Nat.zero_add]
  refine (scalar_loop64 (fun _ x => BitVec.sdiv x num) 4 (storew junk 0 8 self) i).trans ?_
  simp only [hi, if_true, lane, Nat.zero_mod, Nat.zero_div, Nat.reduceMod, Nat.reduceDiv, Nat.zero_le, Nat.zero_add, Nat.sub_zero]
theorem int64_avx_idiv_r (fo : FOps) (self : Reg) (regi : Reg) (i : Nat) (hi : i < 4) :
    lane64 (avx512.int64_avx.idiv_r self regi) i = BitVec.sdiv (lane64 self i) (lane64 regi i) := by
  simp only [avx512.int64_avx.idiv_r, lane64_loadw, Nat.zero_mod, Nat.zero_div, Nat.zero_add]
  refine (scalar_loop64 (fun k x => BitVec.sdiv x (lane64 (storew junk 0 8 regi) k)) 4 (storew junk 0 8 self) i).trans ?_
  simp only [hi, if_true, lane, Nat.zero_mod, Nat.zero_div, Nat.reduceMod, Nat.reduceDiv, Nat.zero_le, Nat.zero_add, Nat.sub_zero]
theorem int64_avx_idiv_v (fo : FOps) (self : Reg) (a : Reg) (i : Nat) (hi : i < 4) :
    lane64 (avx512.int64_avx.idiv_v self a) i = BitVec.sdiv (lane64 self i) (lane64 a i) := by
  simp only [avx512.int64_avx.idiv_v, lane64_loadw, Nat.zero_mod, Nat.zero_div, Nat.zero_add]
  refine (scalar_loop64 (fun k x => BitVec.sdiv x (lane64 (storew junk 0 8 a) k)) 4 (storew junk 0 8 self) i).trans ?_
  simp only [hi, if_true, lane, Nat.zero_mod, Nat.zero_div, Nat.reduceMod, Nat.reduceDiv, Nat.zero_le, Nat.zero_add, Nat.sub_zero]
theorem int64_avx_reverse (fo : FOps) (self : Reg) (i : Nat) (hi : i < 4) :
    lane64 (avx512.int64_avx.reverse self) i = lane64 self (3 - i) := by
  simp only [avx512.int64_avx.reverse, avx512.mm256_reverse_epi64, avx512.mm256_reverse_pd, lane]
  interval_cases i <;> rfl
theorem int64_avx_add_vv (fo : FOps) (a : Reg) (b : Reg) (i : Nat) (hi : i < 4) :
    lane64 (avx512.int64_avx.add_vv a b) i = (lane64 a i) + (lane64 b i) := by
  simp (config := {contextual := true}) only [avx512.int64_avx.add_vv, avx512.mm256_add_epi64x, lane, Nat.reduceMod, Nat.mul_one, Nat.sub_add_cancel, ite_self]
theorem int64_avx_add_vs (fo : FOps) (a : Reg) (b : BitVec 64) (i : Nat) (hi : i < 4) :
    lane64 (avx512.int64_avx.add_vs a b) i = (lane64 a i) + (b) := by
  simp (config := {contextual := true}) only [avx512.int64_avx.add_vs, avx512.mm256_add_epi64x, lane, Nat.reduceMod, Nat.mul_one, Nat.sub_add_cancel, ite_self]
theorem int64_avx_add_sv (fo : FOps) (a : BitVec 64) (b : Reg) (i : Nat) (hi : i < 4) :
    lane64 (avx512.int64_avx.add_sv a b) i = (a) + (lane64 b i) := by
  simp (config := {contextual := true}) only [avx512.int64_avx.add_sv, avx512.mm256_add_epi64x, lane, Nat.reduceMod, Nat.mul_one, Nat.sub_add_cancel, ite_self]
theorem int64_avx_pos (fo : FOps) (b : Reg) (i : Nat) (hi : i < 4) :
    lane64 (avx512.int64_avx.pos b) i = lane64 b i := by
  simp only [avx512.int64_avx.pos]
theorem int64_avx_sub_vv (fo : FOps) (a : Reg) (b : Reg) (i : Nat) (hi : i < 4) :
    lane64 (avx512.int64_avx.sub_vv a b) i = (lane64 a i) - (lane64 b i) := by
  simp (config := {contextual := true}) only [avx512.int64_avx.sub_vv, avx512.mm256_sub_epi64x, lane, Nat.reduceMod, Nat.mul_one, Nat.sub_add_cancel, ite_self]
theorem int64_avx_sub_vs (fo : FOps) (a : Reg) (b : BitVec 64) (i : Nat) (hi : i < 4) :
    lane64 (avx512.int64_avx.sub_vs a b) i = (lane64 a i) - (b) := by
  simp (config := {contextual := true}) only [avx512.int64_avx.sub_vs, avx512.mm256_sub_epi64x, lane, Nat.reduceMod, Nat.mul_one, Nat.sub_add_cancel, ite_self]
theorem int64_avx_sub_sv (fo : FOps) (a : BitVec 64) (b : Reg) (i : Nat) (hi : i < 4) :
    lane64 (avx512.int64_avx.sub_sv a b) i = (a) - (lane64 b i) := by
  simp (config := {contextual := true}) only [avx512.int64_avx.sub_sv, avx512.mm256_sub_epi64x, lane, Nat.reduceMod, Nat.mul_one, Nat.sub_add_cancel, ite_self]
theorem int64_avx_neg (fo : FOps) (b : Reg) (i : Nat) (hi : i < 4) :
    lane64 (avx512.int64_avx.neg b) i = - (lane64 b i) := by
  simp (config := {contextual := true}) only [avx512.int64_avx.neg, avx512.mm256_sub_epi64x, lane, Nat.reduceMod, Nat.mul_one, Nat.sub_add_cancel, ite_self, BitVec.zero_sub]
theorem int64_avx_mul_vv (fo : FOps) (a : Reg) (b : Reg) (i : Nat) (hi : i < 4) :
    lane64 (avx512.int64_avx.mul_vv a b) i = (lane64 a i) * (lane64 b i) := by
  simp only [avx512.int64_avx.mul_vv, avx512.mm256_mul_epi64x, avx512.mm_mul_epi64]
  interval_cases i <;> simp only [lane, simprocAttr]
theorem int64_avx_mul_vs (fo : FOps) (a : Reg) (b : BitVec 64) (i : Nat) (hi : i < 4) :
    lane64 (avx512.int64_avx.mul_vs a b) i = (lane64 a i) * (b) := by
  simp only [avx512.int64_avx.mul_vs, avx512.mm256_mul_epi64x, avx512.mm_mul_epi64]
  interval_cases i <;> simp only [lane, simprocAttr]
theorem int64_avx_mul_sv (fo : FOps) (a : BitVec 64) (b : Reg) (i : Nat) (hi : i < 4) :
    lane64 (avx512.int64_avx.mul_sv a b) i = (a) * (lane64 b i) := by
  simp only [avx512.int64_avx.mul_sv, avx512.mm256_mul_epi64x, avx512.mm_mul_epi64]
  interval_cases i <;> simp only [lane, simprocAttr]
theorem int64_avx_div_vv (fo : FOps) (a : Reg) (b : Reg) (i : Nat) (hi : i < 4) :
    lane64 (avx512.int64_avx.div_vv a b) i = BitVec.sdiv (lane64 a i) (lane64 b i) := by
  simp only [avx512.int64_avx.div_vv, lane64_loadw, Nat.zero_mod, Nat.zero_div, Nat.zero_add]
  refine (scalar_loop64 (fun k _ => BitVec.sdiv (lane64 (storew junk 0 8 a) k) (lane64 (storew junk 0 8 b) k)) 4 (storew junk 0 8 setzero) i).trans ?_
  simp only [hi, if_true, lane, Nat.zero_mod, Nat.zero_div, Nat.reduceMod, Nat.reduceDiv, Nat.zero_le, Nat.zero_add, Nat.sub_zero]
theorem int64_avx_div_vs (fo : FOps) (a : Reg) (b : BitVec 64) (i : Nat) (hi : i < 4) :
    lane64 (avx512.int64_avx.div_vs a b) i = BitVec.sdiv (lane64 a i) (b) := by
  simp only [avx512.int64_avx.div_vs, lane64_loadw, Nat.zero_mod, Nat.zero_div, Nat.zero_add]
  refine (scalar_loop64 (fun k _ => BitVec.sdiv (lane64 (storew junk 0 8 a) k) b) 4 (storew junk 0 8 setzero) i).trans ?_
  simp only [hi, if_true, lane, Nat.zero_mod, Nat.zero_div, Nat.reduceMod, Nat.reduceDiv, Nat.zero_le, Nat.zero_add, Nat.sub_zero]
theorem int64_avx_div_sv (fo : FOps) (a : BitVec 64) (b : Reg) (i : Nat) (hi : i < 4) :
    lane64 (avx512.int64_avx.div_sv a b) i = BitVec.sdiv (a) (lane64 b i) := by
  simp only [avx512.int64_avx.div_sv, lane64_loadw, Nat.zero_mod, Nat.zero_div, Nat.zero_add]
  refine (scalar_loop64 (fun k _ => BitVec.sdiv a (lane64 (storew junk 0 8 b) k)) 4 (storew junk 0 8 setzero) i).trans ?_
  simp only [hi, if_true, lane, Nat.zero_mod, Nat.zero_div, Nat.reduceMod, Nat.reduceDiv, Nat.zero_le, Nat.zero_add, Nat.sub_zero]
theorem int64_sse_ctor (fo : FOps) (i : Nat) (hi : i < 2) :
    lane64 (avx512.int64_sse.ctor) i = 0#64 := by
  simp only [avx512.int64_sse.ctor, lane]
theorem int64_sse_ctor_r (fo : FOps) (regi : Reg) (i : Nat) (hi : i < 2) :
    lane64 (avx512.int64_sse.ctor_r regi) i = lane64 regi i := by
  simp only [avx512.int64_sse.ctor_r]
theorem int64_sse_load_pb (fo : FOps) (self : Reg) (data : Reg) (Aligned : Bool) (i : Nat) (hi : i < 2) :
    lane64 (avx512.int64_sse.load_pb self data Aligned) i = lane64 data i := by
  simp only [avx512.int64_sse.load_pb, lane, Nat.zero_mod, Nat.zero_div, Nat.zero_add]
theorem int64_sse_store_pb (fo : FOps) (self : Reg) (data : Reg) (Aligned : Bool) (i : Nat) :
    (avx512.int64_sse.store_pb self data Aligned) i = (if i < 4 then self i else data i) := by
  simp only [avx512.int64_sse.store_pb, lane, Nat.zero_le, Nat.zero_add, Nat.sub_zero]
theorem int64_sse_aligned_load_p (fo : FOps) (self : Reg) (data : Reg) (i : Nat) (hi : i < 2) :
    lane64 (avx512.int64_sse.aligned_load_p self data) i = lane64 data i := by
  simp only [avx512.int64_sse.aligned_load_p, lane, Nat.zero_mod, Nat.zero_div, Nat.zero_add]
theorem int64_sse_aligned_store_p (fo : FOps) (self : Reg) (data : Reg) (i : Nat) :
    (avx512.int64_sse.aligned_store_p self data) i = (if i < 4 then self i else data i) := by
  simp only [avx512.int64_sse.aligned_store_p, lane, Nat.zero_le, Nat.zero_add, Nat.sub_zero]
theorem int64_sse_mask_load_pmb (fo : FOps) (self : Reg) (a : Reg) (mask : Nat) (Aligned : Bool) (i : Nat) (hi : i < 2) :
    lane64 (avx512.int64_sse.mask_load_pmb self a mask Aligned) i = (if (mask >>> i) % 2 = 1 then lane64 a i else lane64 self i) := by
  simp only [avx512.int64_sse.mask_load_pmb, lane, Nat.zero_mod, Nat.zero_div, Nat.zero_add]
theorem int64_sse_mask_store_pmb (fo : FOps) (self : Reg) (a : Reg) (mask : Nat) (Aligned : Bool) (i : Nat) :
    (avx512.int64_sse.mask_store_pmb self a mask Aligned) i = (if i < 4 ∧ (mask >>> (i / 2)) % 2 = 1 then self i else a i) := by
  simp only [avx512.int64_sse.mask_store_pmb, lane, Nat.zero_le, Nat.zero_add, Nat.sub_zero]
theorem int64_sse_set_s (fo : FOps) (self : Reg) (num : BitVec 64) (i : Nat) (hi : i < 2) :
    lane64 (avx512.int64_sse.set_s self num) i = num := by
  simp only [avx512.int64_sse.set_s, lane]
  interval_cases i <;> rfl
theorem int64_sse_set_ss (fo : FOps) (self : Reg) (num0 : BitVec 64) (num1 : BitVec 64) (i : Nat) (hi : i < 2) :
    lane64 (avx512.int64_sse.set_ss self num0 num1) i = [num1, num0].getD i 0 := by
  simp only [avx512.int64_sse.set_ss, lane]
theorem int64_sse_set_sequential_s (fo : FOps) (self : Reg) (num0 : BitVec 64) (i : Nat) (hi : i < 2) :
    lane64 (avx512.int64_sse.set_sequential_s self num0) i = num0 + BitVec.ofNat 64 i := by
  simp only [avx512.int64_sse.set_sequential_s, lane]
  interval_cases i
  · exact (BitVec.add_zero num0).symm
  all_goals rfl
theorem int64_sse_iadd_s (fo : FOps) (self : Reg) (num : BitVec 64) (i : Nat) (hi : i < 2) :
    lane64 (avx512.int64_sse.iadd_s self num) i = (lane64 self i) + (num) := by
  simp only [avx512.int64_sse.iadd_s, lane]
  interval_cases i <;> rfl
theorem int64_sse_iadd_r (fo : FOps) (self : Reg) (regi : Reg) (i : Nat) (hi : i < 2) :
    lane64 (avx512.int64_sse.iadd_r self regi) i = (lane64 self i) + (lane64 regi i) := by
  simp only [avx512.int64_sse.iadd_r, lane]
theorem int64_sse_iadd_v (fo : FOps) (self : Reg) (a : Reg) (i : Nat) (hi : i < 2) :
    lane64 (avx512.int64_sse.iadd_v self a) i = (lane64 self i) + (lane64 a i) := by
  simp only [avx512.int64_sse.iadd_v, lane]
theorem int64_sse_isub_s (fo : FOps) (self : Reg) (num : BitVec 64) (i : Nat) (hi : i < 2) :
    lane64 (avx512.int64_sse.isub_s self num) i = (lane64 self i) - (num) := by
  simp only [avx512.int64_sse.isub_s, lane]
  interval_cases i <;> rfl
theorem int64_sse_isub_r (fo : FOps) (self : Reg) (regi : Reg) (i : Nat) (hi : i < 2) :
    lane64 (avx512.int64_sse.isub_r self regi) i = (lane64 self i) - (lane64 regi i) := by
  simp only [avx512.int64_sse.isub_r, lane]
theorem int64_sse_isub_v (fo : FOps) (self : Reg) (a : Reg) (i : Nat) (hi : i < 2) :
    lane64 (avx512.int64_sse.isub_v self a) i = (lane64 self i) - (lane64 a i) := by
  simp only [avx512.int64_sse.isub_v, lane]
theorem int64_sse_imul_s (fo : FOps) (self : Reg) (num : BitVec 64) (i : Nat) (hi : i < 2) :
    lane64 (avx512.int64_sse.imul_s self num) i = (lane64 self i) * (num) := by
  simp only [avx512.int64_sse.imul_s, avx512.mm_mul_epi64]
  interval_cases i <;> simp only [lane, simprocAttr]
theorem int64_sse_imul_r (fo : FOps) (self : Reg) (regi : Reg) (i : Nat) (hi : i < 2) :
    lane64 (avx512.int64_sse.imul_r self regi) i = (lane64 self i) * (lane64 regi i) := by
  simp only [avx512.int64_sse.imul_r, avx512.mm_mul_epi64]
  interval_cases i <;> simp only [lane, simprocAttr]
theorem int64_sse_imul_v (fo : FOps) (self : Reg) (a : Reg) (i : Nat) (hi : i < 2) :
    lane64 (avx512.int64_sse.imul_v self a) i = (lane64 self i) * (lane64 a i) := by
  simp only [avx512.int64_sse.imul_v, avx512.mm_mul_epi64]
  interval_cases i <;> simp only [lane, simprocAttr]
theorem int64_sse_idiv_s (fo : FOps) (self : Reg) (num : BitVec 64) (i : Nat) (hi : i < 2) :
    lane64 (avx512.int64_sse.idiv_s self num) i = BitVec.sdiv (lane64 self i) (num) := by
  simp only [avx512.int64_sse.idiv_s, lane64_loadw, Nat.zero_mod, Nat.zero_div, Nat.zero_add]
  refine (scalar_loop64 (fun _ x => BitVec.sdiv x num) 2 (storew junk 0 4 self) i).trans ?_
  simp only [hi, if_true, lane, Nat.zero_mod, Nat.zero_div, Nat.reduceMod, Nat.reduceDiv, Nat.zero_le, Nat.zero_add, Nat.sub_zero]
theorem int64_sse_idiv_r (fo : FOps) (self : Reg) (regi : Reg) (i : Nat) (hi : i < 2) :
    lane64 (avx512.int64_sse.idiv_r self regi) i = BitVec.sdiv (lane64 self i) (lane64 regi i) := by
  simp only [avx512.int64_sse.idiv_r, lane64_loadw, Nat.zero_mod, Nat.zero_div, Nat.zero_add]
  refine (scalar_loop64 (fun k x => BitVec.sdiv x (lane64 (storew junk 0 4 regi) k)) 2 (storew junk 0 4 self) i).trans ?_
  simp only [hi, if_true, lane, Nat.zero_mod, Nat.zero_div, Nat.reduceMod, Nat.reduceDiv, Nat.zero_le, Nat.zero_add, Nat.sub_zero]
theorem int64_sse_idiv_v (fo : FOps) (self : Reg) (a : Reg) (i : Nat) (hi : i < 2) :
    lane64 (avx512.int64_sse.idiv_v self a) i = BitVec.sdiv (lane64 self i) (lane64 a i) := by
  simp only [avx512.int64_sse.idiv_v, lane64_loadw, Nat.zero_mod, Nat.zero_div, Nat.zero_add]
  refine (scalar_loop64 (fun k x => BitVec.sdiv x (lane64 (storew junk 0 4 a) k)) 2 (storew junk 0 4 self) i).trans ?_
  simp only [hi, if_true, lane, Nat.zero_mod, Nat.zero_div, Nat.reduceMod, Nat.reduceDiv, Nat.zero_le, Nat.zero_add, Nat.sub_zero]
theorem int64_sse_reverse (fo : FOps) (self : Reg) (i : Nat) (hi : i < 2) :
    lane64 (avx512.int64_sse.reverse self) i = lane64 self (1 - i) := by
  simp only [avx512.int64_sse.reverse, avx512.mm_reverse_epi64, avx512.mm_reverse_pd, lane]
  interval_cases i <;> rfl
theorem int64_sse_add_vv (fo : FOps) (a : Reg) (b : Reg) (i : Nat) (hi : i < 2) :
    lane64 (avx512.int64_sse.add_vv a b) i = (lane64 a i) + (lane64 b i) := by
  simp only [avx512.int64_sse.add_vv, lane]
theorem int64_sse_add_vs (fo : FOps) (a : Reg) (b : BitVec 64) (i : Nat) (hi : i < 2) :
    lane64 (avx512.int64_sse.add_vs a b) i = (lane64 a i) + (b) := by
  simp only [avx512.int64_sse.add_vs, lane]
  interval_cases i <;> rfl
theorem int64_sse_add_sv (fo : FOps) (a : BitVec 64) (b : Reg) (i : Nat) (hi : i < 2) :
    lane64 (avx512.int64_sse.add_sv a b) i = (a) + (lane64 b i) := by
  simp only [avx512.int64_sse.add_sv, lane]
  interval_cases i <;> rfl
theorem int64_sse_pos (fo : FOps) (b : Reg) (i : Nat) (hi : i < 2) :
    lane64 (avx512.int64_sse.pos b) i = lane64 b i := by
  simp only [avx512.int64_sse.pos]
theorem int64_sse_sub_vv (fo : FOps) (a : Reg) (b : Reg) (i : Nat) (hi : i < 2) :
    lane64 (avx512.int64_sse.sub_vv a b) i = (lane64 a i) - (lane64 b i) := by
  simp only [avx512.int64_sse.sub_vv, lane]
theorem int64_sse_sub_vs (fo : FOps) (a : Reg) (b : BitVec 64) (i : Nat) (hi : i < 2) :
    lane64 (avx512.int64_sse.sub_vs a b) i = (lane64 a i) - (b) := by
  simp only [avx512.int64_sse.sub_vs, lane]
  interval_cases i <;> rfl
theorem int64_sse_sub_sv (fo : FOps) (a : BitVec 64) (b : Reg) (i : Nat) (hi : i < 2) :
    lane64 (avx512.int64_sse.sub_sv a b) i = (a) - (lane64 b i) := by
  simp only [avx512.int64_sse.sub_sv, lane]
  interval_cases i <;> rfl
theorem int64_sse_neg (fo : FOps) (b : Reg) (i : Nat) (hi : i < 2) :
    lane64 (avx512.int64_sse.neg b) i = - (lane64 b i) := by
  simp only [avx512.int64_sse.neg, lane, BitVec.zero_sub]
theorem int64_sse_mul_vv (fo : FOps) (a : Reg) (b : Reg) (i : Nat) (hi : i < 2) :
    lane64 (avx512.int64_sse.mul_vv a b) i = (lane64 a i) * (lane64 b i) := by
  simp only [avx512.int64_sse.mul_vv, avx512.mm_mul_epi64]
  interval_cases i <;> simp only [lane, simprocAttr]
theorem int64_sse_mul_vs (fo : FOps) (a : Reg) (b : BitVec 64) (i : Nat) (hi : i < 2) :
    lane64 (avx512.int64_sse.mul_vs a b) i = (lane64 a i) * (b) := by
  simp only [avx512.int64_sse.mul_vs, avx512.mm_mul_epi64]
  interval_cases i <;> simp only [lane, simprocAttr]
theorem int64_sse_mul_sv (fo : FOps) (a : BitVec 64) (b : Reg) (i : Nat) (hi : i < 2) :
    lane64 (avx512.int64_sse.mul_sv a b) i = (a) * (lane64 b i) := by
  simp only [avx512.int64_sse.mul_sv, avx512.mm_mul_epi64]
  interval_cases i <;> simp only [lane, simprocAttr]
theorem int64_sse_div_vv (fo : FOps) (a : Reg) (b : Reg) (i : Nat) (hi : i < 2) :
    lane64 (avx512.int64_sse.div_vv a b) i = BitVec.sdiv (lane64 a i) (lane64 b i) := by
  simp only [avx512.int64_sse.div_vv, lane64_loadw, Nat.zero_mod, Nat.zero_div, Nat.zero_add]
  refine (scalar_loop64 (fun k _ => BitVec.sdiv (lane64 (storew junk 0 4 a) k) (lane64 (storew junk 0 4 b) k)) 2 (storew junk 0 4 setzero) i).trans ?_
  simp only [hi, if_true, lane, Nat.zero_mod, Nat.zero_div, Nat.reduceMod, Nat.reduceDiv, Nat.zero_le, Nat.zero_add, Nat.sub_zero]
theorem int64_sse_div_vs (fo : FOps) (a : Reg) (b : BitVec 64) (i : Nat) (hi : i < 2) :
    lane64 (avx512.int64_sse.div_vs a b) i = BitVec.sdiv (lane64 a i) (b) := by
  simp only [avx512.int64_sse.div_vs, lane64_loadw, Nat.zero_mod, Nat.zero_div, Nat.zero_add]
  refine (scalar_loop64 (fun k _ => BitVec.sdiv (lane64 (storew junk 0 4 a) k) b) 2 (storew junk 0 4 setzero) i).trans ?_
  simp only [hi, if_true, lane, Nat.zero_mod, Nat.zero_div, Nat.reduceMod, Nat.reduceDiv, Nat.zero_le, Nat.zero_add, Nat.sub_zero]
theorem int64_sse_div_sv (fo : FOps) (a : BitVec 64) (b : Reg) (i : Nat) (hi : i < 2) :
    lane64 (avx512.int64_sse.div_sv a b) i = BitVec.sdiv (a) (lane64 b i) := by
  simp only [avx512.int64_sse.div_sv, lane64_loadw, Nat.zero_mod, Nat.zero_div, Nat.zero_add]
  refine (scalar_loop64 (fun k _ => BitVec.sdiv a (lane64 (storew junk 0 4 b) k)) 2 (storew junk 0 4 setzero) i).trans ?_
  simp only [hi, if_true, lane, Nat.zero_mod, Nat.zero_div, Nat.reduceMod, Nat.reduceDiv, Nat.zero_le, Nat.zero_add, Nat.sub_zero]
theorem int64_sse_abs (fo : FOps) (a : Reg) (i : Nat) (hi : i < 2) :
    lane64 (avx512.int64_sse.abs a) i = abs64 (lane64 a i) := by
  simp only [avx512.int64_sse.abs, lane]
theorem cfloat_avx512_ctor (fo : FOps) (hfma : ∀ x y z, fo.fma32 x y z = fo.add32 (fo.mul32 x y) z) (hneg : ∀ x y, fo.add32 x (y ^^^ sign32) = fo.sub32 x y) (i : Nat) (hi : i < 16) :
    ((avx512.cfloat_avx512.ctor).1) i = 0#32 ∧
    ((avx512.cfloat_avx512.ctor).2) i = 0#32 := by
  simp only [avx512.cfloat_avx512.ctor, lane]
theorem cfloat_avx512_ctor_rr (fo : FOps) (reg0 : Reg) (reg1 : Reg) (hfma : ∀ x y z, fo.fma32 x y z = fo.add32 (fo.mul32 x y) z) (hneg : ∀ x y, fo.add32 x (y ^^^ sign32) = fo.sub32 x y) (i : Nat) (hi : i < 16) :
    ((avx512.cfloat_avx512.ctor_rr reg0 reg1).1) i = reg0 i ∧
    ((avx512.cfloat_avx512.ctor_rr reg0 reg1).2) i = reg1 i := by
  simp only [avx512.cfloat_avx512.ctor_rr, lane]
theorem cfloat_avx512_real (fo : FOps) (self : Reg × Reg) (hfma : ∀ x y z, fo.fma32 x y z = fo.add32 (fo.mul32 x y) z) (hneg : ∀ x y, fo.add32 x (y ^^^ sign32) = fo.sub32 x y) (i : Nat) (hi : i < 16) :
    (avx512.cfloat_avx512.real self) i = self.1 i := by
  simp only [avx512.cfloat_avx512.real, lane]
theorem cfloat_avx512_imag (fo : FOps) (self : Reg × Reg) (hfma : ∀ x y z, fo.fma32 x y z = fo.add32 (fo.mul32 x y) z) (hneg : ∀ x y, fo.add32 x (y ^^^ sign32) = fo.sub32 x y) (i : Nat) (hi : i < 16) :
    (avx512.cfloat_avx512.imag self) i = self.2 i := by
  simp only [avx512.cfloat_avx512.imag, lane]
theorem cfloat_avx512_iadd_v (fo : FOps) (self : Reg × Reg) (a : Reg × Reg) (hfma : ∀ x y z, fo.fma32 x y z = fo.add32 (fo.mul32 x y) z) (hneg : ∀ x y, fo.add32 x (y ^^^ sign32) = fo.sub32 x y) (i : Nat) (hi : i < 16) :
    ((avx512.cfloat_avx512.iadd_v fo self a).1) i = fo.add32 (self.1 i) (a.1 i) ∧
    ((avx512.cfloat_avx512.iadd_v fo self a).2) i = fo.add32 (self.2 i) (a.2 i) := by
  simp only [avx512.cfloat_avx512.iadd_v, lane]
theorem cfloat_avx512_isub_v (fo : FOps) (self : Reg × Reg) (a : Reg × Reg) (hfma : ∀ x y z, fo.fma32 x y z = fo.add32 (fo.mul32 x y) z) (hneg : ∀ x y, fo.add32 x (y ^^^ sign32) = fo.sub32 x y) (i : Nat) (hi : i < 16) :
    ((avx512.cfloat_avx512.isub_v fo self a).1) i = fo.sub32 (self.1 i) (a.1 i) ∧
    ((avx512.cfloat_avx512.isub_v fo self a).2) i = fo.sub32 (self.2 i) (a.2 i) := by
  simp only [avx512.cfloat_avx512.isub_v, lane]
theorem cfloat_avx512_imul_v (fo : FOps) (self : Reg × Reg) (a : Reg × Reg) (hfma : ∀ x y z, fo.fma32 x y z = fo.add32 (fo.mul32 x y) z) (hneg : ∀ x y, fo.add32 x (y ^^^ sign32) = fo.sub32 x y) (i : Nat) (hi : i < 16) :
    ((avx512.cfloat_avx512.imul_v fo self a).1) i = fo.sub32 (fo.mul32 (self.1 i) (a.1 i)) (fo.mul32 (self.2 i) (a.2 i)) ∧
    ((avx512.cfloat_avx512.imul_v fo self a).2) i = fo.add32 (fo.mul32 (self.1 i) (a.2 i)) (fo.mul32 (self.2 i) (a.1 i)) := by
  simp only [avx512.cfloat_avx512.imul_v, lane, hfma, hneg]
theorem cfloat_avx512_idiv_v (fo : FOps) (self : Reg × Reg) (a : Reg × Reg) (hfma : ∀ x y z, fo.fma32 x y z = fo.add32 (fo.mul32 x y) z) (hneg : ∀ x y, fo.add32 x (y ^^^ sign32) = fo.sub32 x y) (i : Nat) (hi : i < 16) :
    ((avx512.cfloat_avx512.idiv_v fo self a).1) i = fo.div32 (fo.add32 (fo.mul32 (self.1 i) (a.1 i)) (fo.mul32 (self.2 i) (a.2 i))) (fo.add32 (fo.mul32 (a.1 i) (a.1 i)) (fo.mul32 (a.2 i) (a.2 i))) ∧
    ((avx512.cfloat_avx512.idiv_v fo self a).2) i = fo.div32 (fo.sub32 (fo.mul32 (self.2 i) (a.1 i)) (fo.mul32 (self.1 i) (a.2 i))) (fo.add32 (fo.mul32 (a.1 i) (a.1 i)) (fo.mul32 (a.2 i) (a.2 i))) := by
  simp only [avx512.cfloat_avx512.idiv_v, lane, hfma, hneg]
theorem cfloat_avx512_reverse (fo : FOps) (self : Reg × Reg) (hfma : ∀ x y z, fo.fma32 x y z = fo.add32 (fo.mul32 x y) z) (hneg : ∀ x y, fo.add32 x (y ^^^ sign32) = fo.sub32 x y) (i : Nat) (hi : i < 16) :
    ((avx512.cfloat_avx512.reverse self).1) i = self.1 (15 - i) ∧
    ((avx512.cfloat_avx512.reverse self).2) i = self.2 (15 - i) := by
  simp only [avx512.cfloat_avx512.reverse, avx512.mm512_reverse_ps, lane]
  interval_cases i <;> exact ⟨rfl, rfl⟩
theorem cfloat_avx512_magnitude (fo : FOps) (self : Reg × Reg) (hfma : ∀ x y z, fo.fma32 x y z = fo.add32 (fo.mul32 x y) z) (hneg : ∀ x y, fo.add32 x (y ^^^ sign32) = fo.sub32 x y) (i : Nat) (hi : i < 16) :
    (avx512.cfloat_avx512.magnitude fo self) i = fo.sqrt32 (fo.add32 (fo.mul32 (self.1 i) (self.1 i)) (fo.mul32 (self.2 i) (self.2 i))) := by
  simp only [avx512.cfloat_avx512.magnitude, lane, hfma]
theorem cfloat_avx512_norm (fo : FOps) (self : Reg × Reg) (hfma : ∀ x y z, fo.fma32 x y z = fo.add32 (fo.mul32 x y) z) (hneg : ∀ x y, fo.add32 x (y ^^^ sign32) = fo.sub32 x y) (i : Nat) (hi : i < 16) :
    (avx512.cfloat_avx512.norm fo self) i = fo.add32 (fo.mul32 (self.1 i) (self.1 i)) (fo.mul32 (self.2 i) (self.2 i)) := by
  simp only [avx512.cfloat_avx512.norm, lane, hfma]
theorem cfloat_avx512_add_vv (fo : FOps) (a : Reg × Reg) (b : Reg × Reg) (hfma : ∀ x y z, fo.fma32 x y z = fo.add32 (fo.mul32 x y) z) (hneg : ∀ x y, fo.add32 x (y ^^^ sign32) = fo.sub32 x y) (i : Nat) (hi : i < 16) :
    ((avx512.cfloat_avx512.add_vv fo a b).1) i = fo.add32 (a.1 i) (b.1 i) ∧
    ((avx512.cfloat_avx512.add_vv fo a b).2) i = fo.add32 (a.2 i) (b.2 i) := by
  simp only [avx512.cfloat_avx512.add_vv, lane]
theorem cfloat_avx512_pos (fo : FOps) (b : Reg × Reg) (hfma : ∀ x y z, fo.fma32 x y z = fo.add32 (fo.mul32 x y) z) (hneg : ∀ x y, fo.add32 x (y ^^^ sign32) = fo.sub32 x y) (i : Nat) (hi : i < 16) :
    ((avx512.cfloat_avx512.pos b).1) i = b.1 i ∧
    ((avx512.cfloat_avx512.pos b).2) i = b.2 i := by
  simp only [avx512.cfloat_avx512.pos, lane]
theorem cfloat_avx512_sub_vv (fo : FOps) (a : Reg × Reg) (b : Reg × Reg) (hfma : ∀ x y z, fo.fma32 x y z = fo.add32 (fo.mul32 x y) z) (hneg : ∀ x y, fo.add32 x (y ^^^ sign32) = fo.sub32 x y) (i : Nat) (hi : i < 16) :
    ((avx512.cfloat_avx512.sub_vv fo a b).1) i = fo.sub32 (a.1 i) (b.1 i) ∧
    ((avx512.cfloat_avx512.sub_vv fo a b).2) i = fo.sub32 (a.2 i) (b.2 i) := by
  simp only [avx512.cfloat_avx512.sub_vv, lane]
theorem cfloat_avx512_neg (fo : FOps) (a : Reg × Reg) (hfma : ∀ x y z, fo.fma32 x y z = fo.add32 (fo.mul32 x y) z) (hneg : ∀ x y, fo.add32 x (y ^^^ sign32) = fo.sub32 x y) (i : Nat) (hi : i < 16) :
    ((avx512.cfloat_avx512.neg a).1) i = fneg32 (a.1 i) ∧
    ((avx512.cfloat_avx512.neg a).2) i = fneg32 (a.2 i) := by
  simp only [avx512.cfloat_avx512.neg, avx512.mm512_neg_ps, lane, fneg32, sign32]
theorem cfloat_avx512_mul_vv (fo : FOps) (a : Reg × Reg) (b : Reg × Reg) (hfma : ∀ x y z, fo.fma32 x y z = fo.add32 (fo.mul32 x y) z) (hneg : ∀ x y, fo.add32 x (y ^^^ sign32) = fo.sub32 x y) (i : Nat) (hi : i < 16) :
    ((avx512.cfloat_avx512.mul_vv fo a b).1) i = fo.sub32 (fo.mul32 (a.1 i) (b.1 i)) (fo.mul32 (a.2 i) (b.2 i)) ∧
    ((avx512.cfloat_avx512.mul_vv fo a b).2) i = fo.add32 (fo.mul32 (a.1 i) (b.2 i)) (fo.mul32 (a.2 i) (b.1 i)) := by
  simp only [avx512.cfloat_avx512.mul_vv, lane, hfma, hneg]
theorem cfloat_avx512_div_vv (fo : FOps) (a : Reg × Reg) (b : Reg × Reg) (hfma : ∀ x y z, fo.fma32 x y z = fo.add32 (fo.mul32 x y) z) (hneg : ∀ x y, fo.add32 x (y ^^^ sign32) = fo.sub32 x y) (i : Nat) (hi : i < 16) :
    ((avx512.cfloat_avx512.div_vv fo a b).1) i = fo.div32 (fo.add32 (fo.mul32 (a.1 i) (b.1 i)) (fo.mul32 (a.2 i) (b.2 i))) (fo.add32 (fo.mul32 (b.1 i) (b.1 i)) (fo.mul32 (b.2 i) (b.2 i))) ∧
    ((avx512.cfloat_avx512.div_vv fo a b).2) i = fo.div32 (fo.sub32 (fo.mul32 (a.2 i) (b.1 i)) (fo.mul32 (a.1 i) (b.2 i))) (fo.add32 (fo.mul32 (b.1 i) (b.1 i)) (fo.mul32 (b.2 i) (b.2 i))) := by
  simp only [avx512.cfloat_avx512.div_vv, lane, hfma, hneg]
theorem cfloat_avx512_rcp (fo : FOps) (a : Reg × Reg) (hfma : ∀ x y z, fo.fma32 x y z = fo.add32 (fo.mul32 x y) z) (hneg : ∀ x y, fo.add32 x (y ^^^ sign32) = fo.sub32 x y) (i : Nat) (hi : i < 16) :
    ((avx512.cfloat_avx512.rcp fo a).1) i = fo.div32 (a.1 i) (fo.add32 (fo.mul32 (a.1 i) (a.1 i)) (fo.mul32 (a.2 i) (a.2 i))) ∧
    ((avx512.cfloat_avx512.rcp fo a).2) i = fneg32 (fo.div32 (a.2 i) (fo.add32 (fo.mul32 (a.1 i) (a.1 i)) (fo.mul32 (a.2 i) (a.2 i)))) := by
  simp only [avx512.cfloat_avx512.rcp, avx512.mm512_neg_ps, lane, hfma, fneg32, sign32]
theorem cfloat_avx512_conj (fo : FOps) (a : Reg × Reg) (hfma : ∀ x y z, fo.fma32 x y z = fo.add32 (fo.mul32 x y) z) (hneg : ∀ x y, fo.add32 x (y ^^^ sign32) = fo.sub32 x y) (i : Nat) (hi : i < 16) :
    ((avx512.cfloat_avx512.conj a).1) i = a.1 i ∧
    ((avx512.cfloat_avx512.conj a).2) i = fneg32 (a.2 i) := by
  simp only [avx512.cfloat_avx512.conj, avx512.mm512_neg_ps, lane, fneg32, sign32]
theorem cfloat_avx_ctor (fo : FOps) (hfma : ∀ x y z, fo.fma32 x y z = fo.add32 (fo.mul32 x y) z) (hneg : ∀ x y, fo.add32 x (y ^^^ sign32) = fo.sub32 x y) (i : Nat) (hi : i < 8) :
    ((avx512.cfloat_avx.ctor).1) i = 0#32 ∧
    ((avx512.cfloat_avx.ctor).2) i = 0#32 := by
  simp only [avx512.cfloat_avx.ctor, lane]
theorem cfloat_avx_ctor_rr (fo : FOps) (reg0 : Reg) (reg1 : Reg) (hfma : ∀ x y z, fo.fma32 x y z = fo.add32 (fo.mul32 x y) z) (hneg : ∀ x y, fo.add32 x (y ^^^ sign32) = fo.sub32 x y) (i : Nat) (hi : i < 8) :
    ((avx512.cfloat_avx.ctor_rr reg0 reg1).1) i = reg0 i ∧
    ((avx512.cfloat_avx.ctor_rr reg0 reg1).2) i = reg1 i := by
  simp only [avx512.cfloat_avx.ctor_rr, lane]
theorem cfloat_avx_real (fo : FOps) (self : Reg × Reg) (hfma : ∀ x y z, fo.fma32 x y z = fo.add32 (fo.mul32 x y) z) (hneg : ∀ x y, fo.add32 x (y ^^^ sign32) = fo.sub32 x y) (i : Nat) (hi : i < 8) :
    (avx512.cfloat_avx.real self) i = self.1 i := by
  simp only [avx512.cfloat_avx.real, lane]
theorem cfloat_avx_imag (fo : FOps) (self : Reg × Reg) (hfma : ∀ x y z, fo.fma32 x y z = fo.add32 (fo.mul32 x y) z) (hneg : ∀ x y, fo.add32 x (y ^^^ sign32) = fo.sub32 x y) (i : Nat) (hi : i < 8) :
    (avx512.cfloat_avx.imag self) i = self.2 i := by
  simp only [avx512.cfloat_avx.imag, lane]
theorem cfloat_avx_iadd_v (fo : FOps) (self : Reg × Reg) (a : Reg × Reg) (hfma : ∀ x y z, fo.fma32 x y z = fo.add32 (fo.mul32 x y) z) (hneg : ∀ x y, fo.add32 x (y ^^^ sign32) = fo.sub32 x y) (i : Nat) (hi : i < 8) :
    ((avx512.cfloat_avx.iadd_v fo self a).1) i = fo.add32 (self.1 i) (a.1 i) ∧
    ((avx512.cfloat_avx.iadd_v fo self a).2) i = fo.add32 (self.2 i) (a.2 i) := by
  simp only [avx512.cfloat_avx.iadd_v, lane]
theorem cfloat_avx_isub_v (fo : FOps) (self : Reg × Reg) (a : Reg × Reg) (hfma : ∀ x y z, fo.fma32 x y z = fo.add32 (fo.mul32 x y) z) (hneg : ∀ x y, fo.add32 x (y ^^^ sign32) = fo.sub32 x y) (i : Nat) (hi : i < 8) :
    ((avx512.cfloat_avx.isub_v fo self a).1) i = fo.sub32 (self.1 i) (a.1 i) ∧
    ((avx512.cfloat_avx.isub_v fo self a).2) i = fo.sub32 (self.2 i) (a.2 i) := by
  simp only [avx512.cfloat_avx.isub_v, lane]
theorem cfloat_avx_imul_v (fo : FOps) (self : Reg × Reg) (a : Reg × Reg) (hfma : ∀ x y z, fo.fma32 x y z = fo.add32 (fo.mul32 x y) z) (hneg : ∀ x y, fo.add32 x (y ^^^ sign32) = fo.sub32 x y) (i : Nat) (hi : i < 8) :
    ((avx512.cfloat_avx.imul_v fo self a).1) i = fo.sub32 (fo.mul32 (self.1 i) (a.1 i)) (fo.mul32 (self.2 i) (a.2 i)) ∧
    ((avx512.cfloat_avx.imul_v fo self a).2) i = fo.add32 (fo.mul32 (self.1 i) (a.2 i)) (fo.mul32 (self.2 i) (a.1 i)) := by
  simp only [avx512.cfloat_avx.imul_v, lane, hfma, hneg]
theorem cfloat_avx_idiv_v (fo : FOps) (self : Reg × Reg) (a : Reg × Reg) (hfma : ∀ x y z, fo.fma32 x y z = fo.add32 (fo.mul32 x y) z) (hneg : ∀ x y, fo.add32 x (y ^^^ sign32) = fo.sub32 x y) (i : Nat) (hi : i < 8) :
    ((avx512.cfloat_avx.idiv_v fo self a).1) i = fo.div32 (fo.add32 (fo.mul32 (self.1 i) (a.1 i)) (fo.mul32 (self.2 i) (a.2 i))) (fo.add32 (fo.mul32 (a.1 i) (a.1 i)) (fo.mul32 (a.2 i) (a.2 i))) ∧
    ((avx512.cfloat_avx.idiv_v fo self a).2) i = fo.div32 (fo.sub32 (fo.mul32 (self.2 i) (a.1 i)) (fo.mul32 (self.1 i) (a.2 i))) (fo.add32 (fo.mul32 (a.1 i) (a.1 i)) (fo.mul32 (a.2 i) (a.2 i))) := by
  simp only [avx512.cfloat_avx.idiv_v, lane, hfma, hneg]
theorem cfloat_avx_reverse (fo : FOps) (self : Reg × Reg) (hfma : ∀ x y z, fo.fma32 x y z = fo.add32 (fo.mul32 x y) z) (hneg : ∀ x y, fo.add32 x (y ^^^ sign32) = fo.sub32 x y) (i : Nat) (hi : i < 8) :
    ((avx512.cfloat_avx.reverse self).1) i = self.1 (7 - i) ∧
    ((avx512.cfloat_avx.reverse self).2) i = self.2 (7 - i) := by
  simp only [avx512.cfloat_avx.reverse, avx512.mm256_reverse_ps, lane]
  interval_cases i <;> exact ⟨rfl, rfl⟩
theorem cfloat_avx_magnitude (fo : FOps) (self : Reg × Reg) (hfma : ∀ x y z, fo.fma32 x y z = fo.add32 (fo.mul32 x y) z) (hneg : ∀ x y, fo.add32 x (y ^^^ sign32) = fo.sub32 x y) (i : Nat) (hi : i < 8) :
    (avx512.cfloat_avx.magnitude fo self) i = fo.sqrt32 (fo.add32 (fo.mul32 (self.1 i) (self.1 i)) (fo.mul32 (self.2 i) (self.2 i))) := by
  simp only [avx512.cfloat_avx.magnitude, lane, hfma]
theorem cfloat_avx_norm (fo : FOps) (self : Reg × Reg) (hfma : ∀ x y z, fo.fma32 x y z = fo.add32 (fo.mul32 x y) z) (hneg : ∀ x y, fo.add32 x (y ^^^ sign32) = fo.sub32 x y) (i : Nat) (hi : i < 8) :
    (avx512.cfloat_avx.norm fo self) i = fo.add32 (fo.mul32 (self.1 i) (self.1 i)) (fo.mul32 (self.2 i) (self.2 i)) := by
  simp only [avx512.cfloat_avx.norm, lane, hfma]
theorem cfloat_avx_add_vv (fo : FOps) (a : Reg × Reg) (b : Reg × Reg) (hfma : ∀ x y z, fo.fma32 x y z = fo.add32 (fo.mul32 x y) z) (hneg : ∀ x y, fo.add32 x (y ^^^ sign32) = fo.sub32 x y) (i : Nat) (hi : i < 8) :
    ((avx512.cfloat_avx.add_vv fo a b).1) i = fo.add32 (a.1 i) (b.1 i) ∧
    ((avx512.cfloat_avx.add_vv fo a b).2) i = fo.add32 (a.2 i) (b.2 i) := by
  simp only [avx512.cfloat_avx.add_vv, lane]
theorem cfloat_avx_pos (fo : FOps) (b : Reg × Reg) (hfma : ∀ x y z, fo.fma32 x y z = fo.add32 (fo.mul32 x y) z) (hneg : ∀ x y, fo.add32 x (y ^^^ sign32) = fo.sub32 x y) (i : Nat) (hi : i < 8) :
    ((avx512.cfloat_avx.pos b).1) i = b.1 i ∧
    ((avx512.cfloat_avx.pos b).2) i = b.2 i := by
  simp only [avx512.cfloat_avx.pos, lane]
theorem cfloat_avx_sub_vv (fo : FOps) (a : Reg × Reg) (b : Reg × Reg) (hfma : ∀ x y z, fo.fma32 x y z = fo.add32 (fo.mul32 x y) z) (hneg : ∀ x y, fo.add32 x (y ^^^ sign32) = fo.sub32 x y) (i : Nat) (hi : i < 8) :
    ((avx512.cfloat_avx.sub_vv fo a b).1) i = fo.sub32 (a.1 i) (b.1 i) ∧
    ((avx512.cfloat_avx.sub_vv fo a b).2) i = fo.sub32 (a.2 i) (b.2 i) := by
  simp only [avx512.cfloat_avx.sub_vv, lane]
theorem cfloat_avx_neg (fo : FOps) (a : Reg × Reg) (hfma : ∀ x y z, fo.fma32 x y z = fo.add32 (fo.mul32 x y) z) (hneg : ∀ x y, fo.add32 x (y ^^^ sign32) = fo.sub32 x y) (i : Nat) (hi : i < 8) :
    ((avx512.cfloat_avx.neg a).1) i = fneg32 (a.1 i) ∧
    ((avx512.cfloat_avx.neg a).2) i = fneg32 (a.2 i) := by
  simp only [avx512.cfloat_avx.neg, avx512.mm256_neg_ps, lane, fneg32, sign32]
theorem cfloat_avx_mul_vv (fo : FOps) (a : Reg × Reg) (b : Reg × Reg) (hfma : ∀ x y z, fo.fma32 x y z = fo.add32 (fo.mul32 x y) z) (hneg : ∀ x y, fo.add32 x (y ^^^ sign32) = fo.sub32 x y) (i : Nat) (hi : i < 8) :
    ((avx512.cfloat_avx.mul_vv fo a b).1) i = fo.sub32 (fo.mul32 (a.1 i) (b.1 i)) (fo.mul32 (a.2 i) (b.2 i)) ∧
    ((avx512.cfloat_avx.mul_vv fo a b).2) i = fo.add32 (fo.mul32 (a.1 i) (b.2 i)) (fo.mul32 (a.2 i) (b.1 i)) := by
  simp only [avx512.cfloat_avx.mul_vv, lane, hfma, hneg]
theorem cfloat_avx_div_vv (fo : FOps) (a : Reg × Reg) (b : Reg × Reg) (hfma : ∀ x y z, fo.fma32 x y z = fo.add32 (fo.mul32 x y) z) (hneg : ∀ x y, fo.add32 x (y ^^^ sign32) = fo.sub32 x y) (i : Nat) (hi : i < 8) :
    ((avx512.cfloat_avx.div_vv fo a b).1) i = fo.div32 (fo.add32 (fo.mul32 (a.1 i) (b.1 i)) (fo.mul32 (a.2 i) (b.2 i))) (fo.add32 (fo.mul32 (b.1 i) (b.1 i)) (fo.mul32 (b.2 i) (b.2 i))) ∧
    ((avx512.cfloat_avx.div_vv fo a b).2) i = fo.div32 (fo.sub32 (fo.mul32 (a.2 i) (b.1 i)) (fo.mul32 (a.1 i) (b.2 i))) (fo.add32 (fo.mul32 (b.1 i) (b.1 i)) (fo.mul32 (b.2 i) (b.2 i))) := by
  simp only [avx512.cfloat_avx.div_vv, lane, hfma, hneg]
theorem cfloat_avx_rcp (fo : FOps) (a : Reg × Reg) (hfma : ∀ x y z, fo.fma32 x y z = fo.add32 (fo.mul32 x y) z) (hneg : ∀ x y, fo.add32 x (y ^^^ sign32) = fo.sub32 x y) (i : Nat) (hi : i < 8) :
    ((avx512.cfloat_avx.rcp fo a).1) i = fo.div32 (a.1 i) (fo.add32 (fo.mul32 (a.1 i) (a.1 i)) (fo.mul32 (a.2 i) (a.2 i))) ∧
    ((avx512.cfloat_avx.rcp fo a).2) i = fneg32 (fo.div32 (a.2 i) (fo.add32 (fo.mul32 (a.1 i) (a.1 i)) (fo.mul32 (a.2 i) (a.2 i)))) := by
  simp only [avx512.cfloat_avx.rcp, avx512.mm256_neg_ps, lane, hfma, fneg32, sign32]
theorem cfloat_avx_conj (fo : FOps) (a : Reg × Reg) (hfma : ∀ x y z, fo.fma32 x y z = fo.add32 (fo.mul32 x y) z) (hneg : ∀ x y, fo.add32 x (y ^^^ sign32) = fo.sub32 x y) (i : Nat) (hi : i < 8) :
    ((avx512.cfloat_avx.conj a).1) i = a.1 i ∧
    ((avx512.cfloat_avx.conj a).2) i = fneg32 (a.2 i) := by
  simp only [avx512.cfloat_avx.conj, avx512.mm256_neg_ps, lane, fneg32, sign32]
theorem cfloat_sse_ctor (fo : FOps) (hfma : ∀ x y z, fo.fma32 x y z = fo.add32 (fo.mul32 x y) z) (hneg : ∀ x y, fo.add32 x (y ^^^ sign32) = fo.sub32 x y) (i : Nat) (hi : i < 4) :
    ((avx512.cfloat_sse.ctor).1) i = 0#32 ∧
    ((avx512.cfloat_sse.ctor).2) i = 0#32 := by
  simp only [avx512.cfloat_sse.ctor, lane]
theorem cfloat_sse_ctor_rr (fo : FOps) (reg0 : Reg) (reg1 : Reg) (hfma : ∀ x y z, fo.fma32 x y z = fo.add32 (fo.mul32 x y) z) (hneg : ∀ x y, fo.add32 x (y ^^^ sign32) = fo.sub32 x y) (i : Nat) (hi : i < 4) :
    ((avx512.cfloat_sse.ctor_rr reg0 reg1).1) i = reg0 i ∧
    ((avx512.cfloat_sse.ctor_rr reg0 reg1).2) i = reg1 i := by
  simp only [avx512.cfloat_sse.ctor_rr, lane]
theorem cfloat_sse_real (fo : FOps) (self : Reg × Reg) (hfma : ∀ x y z, fo.fma32 x y z = fo.add32 (fo.mul32 x y) z) (hneg : ∀ x y, fo.add32 x (y ^^^ sign32) = fo.sub32 x y) (i : Nat) (hi : i < 4) :
    (avx512.cfloat_sse.real self) i = self.1 i := by
  simp only [avx512.cfloat_sse.real, lane]
theorem cfloat_sse_imag (fo : FOps) (self : Reg × Reg) (hfma : ∀ x y z, fo.fma32 x y z = fo.add32 (fo.mul32 x y) z) (hneg : ∀ x y, fo.add32 x (y ^^^ sign32) = fo.sub32 x y) (i : Nat) (hi : i < 4) :
    (avx512.cfloat_sse.imag self) i = self.2 i := by
  simp only [avx512.cfloat_sse.imag, lane]
theorem cfloat_sse_iadd_v (fo : FOps) (self : Reg × Reg) (a : Reg × Reg) (hfma : ∀ x y z, fo.fma32 x y z = fo.add32 (fo.mul32 x y) z) (hneg : ∀ x y, fo.add32 x (y ^^^ sign32) = fo.sub32 x y) (i : Nat) (hi : i < 4) :
    ((avx512.cfloat_sse.iadd_v fo self a).1) i = fo.add32 (self.1 i) (a.1 i) ∧
    ((avx512.cfloat_sse.iadd_v fo self a).2) i = fo.add32 (self.2 i) (a.2 i) := by
  simp only [avx512.cfloat_sse.iadd_v, lane]
theorem cfloat_sse_isub_v (fo : FOps) (self : Reg × Reg) (a : Reg × Reg) (hfma : ∀ x y z, fo.fma32 x y z = fo.add32 (fo.mul32 x y) z) (hneg : ∀ x y, fo.add32 x (y ^^^ sign32) = fo.sub32 x y) (i : Nat) (hi : i < 4) :
    ((avx512.cfloat_sse.isub_v fo self a).1) i = fo.sub32 (self.1 i) (a.1 i) ∧
    ((avx512.cfloat_sse.isub_v fo self a).2) i = fo.sub32 (self.2 i) (a.2 i) := by
  simp only [avx512.cfloat_sse.isub_v, lane]
theorem cfloat_sse_imul_v (fo : FOps) (self : Reg × Reg) (a : Reg × Reg) (hfma : ∀ x y z, fo.fma32 x y z = fo.add32 (fo.mul32 x y) z) (hneg : ∀ x y, fo.add32 x (y ^^^ sign32) = fo.sub32 x y) (i : Nat) (hi : i < 4) :
    ((avx512.cfloat_sse.imul_v fo self a).1) i = fo.sub32 (fo.mul32 (self.1 i) (a.1 i)) (fo.mul32 (self.2 i) (a.2 i)) ∧
    ((avx512.cfloat_sse.imul_v fo self a).2) i = fo.add32 (fo.mul32 (self.1 i) (a.2 i)) (fo.mul32 (self.2 i) (a.1 i)) := by
  simp only [avx512.cfloat_sse.imul_v, lane, hfma, hneg]
theorem cfloat_sse_idiv_v (fo : FOps) (self : Reg × Reg) (a : Reg × Reg) (hfma : ∀ x y z, fo.fma32 x y z = fo.add32 (fo.mul32 x y) z) (hneg : ∀ x y, fo.add32 x (y ^^^ sign32) = fo.sub32 x y) (i : Nat) (hi : i < 4) :
    ((avx512.cfloat_sse.idiv_v fo self a).1) i = fo.div32 (fo.add32 (fo.mul32 (self.1 i) (a.1 i)) (fo.mul32 (self.2 i) (a.2 i))) (fo.add32 (fo.mul32 (a.1 i) (a.1 i)) (fo.mul32 (a.2 i) (a.2 i))) ∧
    ((avx512.cfloat_sse.idiv_v fo self a).2) i = fo.div32 (fo.sub32 (fo.mul32 (self.2 i) (a.1 i)) (fo.mul32 (self.1 i) (a.2 i))) (fo.add32 (fo.mul32 (a.1 i) (a.1 i)) (fo.mul32 (a.2 i) (a.2 i))) := by
  simp only [avx512.cfloat_sse.idiv_v, lane, hfma, hneg]
theorem cfloat_sse_reverse (fo : FOps) (self : Reg × Reg) (hfma : ∀ x y z, fo.fma32 x y z = fo.add32 (fo.mul32 x y) z) (hneg : ∀ x y, fo.add32 x (y ^^^ sign32) = fo.sub32 x y) (i : Nat) (hi : i < 4) :
    ((avx512.cfloat_sse.reverse self).1) i = self.1 (3 - i) ∧
    ((avx512.cfloat_sse.reverse self).2) i = self.2 (3 - i) := by
  simp only [avx512.cfloat_sse.reverse, avx512.mm_reverse_ps, lane]
  interval_cases i <;> exact ⟨rfl, rfl⟩
theorem cfloat_sse_magnitude (fo : FOps) (self : Reg × Reg) (hfma : ∀ x y z, fo.fma32 x y z = fo.add32 (fo.mul32 x y) z) (hneg : ∀ x y, fo.add32 x (y ^^^ sign32) = fo.sub32 x y) (i : Nat) (hi : i < 4) :
    (avx512.cfloat_sse.magnitude fo self) i = fo.sqrt32 (fo.add32 (fo.mul32 (self.1 i) (self.1 i)) (fo.mul32 (self.2 i) (self.2 i))) := by
  simp only [avx512.cfloat_sse.magnitude, lane, hfma]
theorem cfloat_sse_norm (fo : FOps) (self : Reg × Reg) (hfma : ∀ x y z, fo.fma32 x y z = fo.add32 (fo.mul32 x y) z) (hneg : ∀ x y, fo.add32 x (y ^^^ sign32) = fo.sub32 x y) (i : Nat) (hi : i < 4) :
    (avx512.cfloat_sse.norm fo self) i = fo.add32 (fo.mul32 (self.1 i) (self.1 i)) (fo.mul32 (self.2 i) (self.2 i)) := by
  simp only [avx512.cfloat_sse.norm, lane, hfma]
theorem cfloat_sse_add_vv (fo : FOps) (a : Reg × Reg) (b : Reg × Reg) (hfma : ∀ x y z, fo.fma32 x y z = fo.add32 (fo.mul32 x y) z) (hneg : ∀ x y, fo.add32 x (y ^^^ sign32) = fo.sub32 x y) (i : Nat) (hi : i < 4) :
    ((avx512.cfloat_sse.add_vv fo a b).1) i = fo.add32 (a.1 i) (b.1 i) ∧
    ((avx512.cfloat_sse.add_vv fo a b).2) i = fo.add32 (a.2 i) (b.2 i) := by
  simp only [avx512.cfloat_sse.add_vv, lane]
theorem cfloat_sse_pos (fo : FOps) (b : Reg × Reg) (hfma : ∀ x y z, fo.fma32 x y z = fo.add32 (fo.mul32 x y) z) (hneg : ∀ x y, fo.add32 x (y ^^^ sign32) = fo.sub32 x y) (i : Nat) (hi : i < 4) :
    ((avx512.cfloat_sse.pos b).1) i = b.1 i ∧
    ((avx512.cfloat_sse.pos b).2) i = b.2 i := by
  simp only [avx512.cfloat_sse.pos, lane]
theorem cfloat_sse_sub_vv (fo : FOps) (a : Reg × Reg) (b : Reg × Reg) (hfma : ∀ x y z, fo.fma32 x y z = fo.add32 (fo.mul32 x y) z) (hneg : ∀ x y, fo.add32 x (y ^^^ sign32) = fo.sub32 x y) (i : Nat) (hi : i < 4) :
    ((avx512.cfloat_sse.sub_vv fo a b).1) i = fo.sub32 (a.1 i) (b.1 i) ∧
    ((avx512.cfloat_sse.sub_vv fo a b).2) i = fo.sub32 (a.2 i) (b.2 i) := by
  simp only [avx512.cfloat_sse.sub_vv, lane]
theorem cfloat_sse_neg (fo : FOps) (a : Reg × Reg) (hfma : ∀ x y z, fo.fma32 x y z = fo.add32 (fo.mul32 x y) z) (hneg : ∀ x y, fo.add32 x (y ^^^ sign32) = fo.sub32 x y) (i : Nat) (hi : i < 4) :
    ((avx512.cfloat_sse.neg a).1) i = fneg32 (a.1 i) ∧
    ((avx512.cfloat_sse.neg a).2) i = fneg32 (a.2 i) := by
  simp only [avx512.cfloat_sse.neg, avx512.mm_neg_ps, lane, fneg32, sign32]
theorem cfloat_sse_mul_vv (fo : FOps) (a : Reg × Reg) (b : Reg × Reg) (hfma : ∀ x y z, fo.fma32 x y z = fo.add32 (fo.mul32 x y) z) (hneg : ∀ x y, fo.add32 x (y ^^^ sign32) = fo.sub32 x y) (i : Nat) (hi : i < 4) :
    ((avx512.cfloat_sse.mul_vv fo a b).1) i = fo.sub32 (fo.mul32 (a.1 i) (b.1 i)) (fo.mul32 (a.2 i) (b.2 i)) ∧
    ((avx512.cfloat_sse.mul_vv fo a b).2) i = fo.add32 (fo.mul32 (a.1 i) (b.2 i)) (fo.mul32 (a.2 i) (b.1 i)) := by
  simp only [avx512.cfloat_sse.mul_vv, lane, hfma, hneg]
theorem cfloat_sse_div_vv (fo : FOps) (a : Reg × Reg) (b : Reg × Reg) (hfma : ∀ x y z, fo.fma32 x y z = fo.add32 (fo.mul32 x y) z) (hneg : ∀ x y, fo.add32 x (y ^^^ sign32) = fo.sub32 x y) (i : Nat) (hi : i < 4) :
    ((avx512.cfloat_sse.div_vv fo a b).1) i = fo.div32 (fo.add32 (fo.mul32 (a.1 i) (b.1 i)) (fo.mul32 (a.2 i) (b.2 i))) (fo.add32 (fo.mul32 (b.1 i) (b.1 i)) (fo.mul32 (b.2 i) (b.2 i))) ∧
    ((avx512.cfloat_sse.div_vv fo a b).2) i = fo.div32 (fo.sub32 (fo.mul32 (a.2 i) (b.1 i)) (fo.mul32 (a.1 i) (b.2 i))) (fo.add32 (fo.mul32 (b.1 i) (b.1 i)) (fo.mul32 (b.2 i) (b.2 i))) := by
  simp only [avx512.cfloat_sse.div_vv, lane, hfma, hneg]
theorem cfloat_sse_rcp (fo : FOps) (a : Reg × Reg) (hfma : ∀ x y z, fo.fma32 x y z = fo.add32 (fo.mul32 x y) z) (hneg : ∀ x y, fo.add32 x (y ^^^ sign32) = fo.sub32 x y) (i : Nat) (hi : i < 4) :
    ((avx512.cfloat_sse.rcp fo a).1) i = fo.div32 (a.1 i) (fo.add32 (fo.mul32 (a.1 i) (a.1 i)) (fo.mul32 (a.2 i) (a.2 i))) ∧
    ((avx512.cfloat_sse.rcp fo a).2) i = fneg32 (fo.div32 (a.2 i) (fo.add32 (fo.mul32 (a.1 i) (a.1 i)) (fo.mul32 (a.2 i) (a.2 i)))) := by
  simp only [avx512.cfloat_sse.rcp, avx512.mm_neg_ps, lane, hfma, fneg32, sign32]
theorem cfloat_sse_conj (fo : FOps) (a : Reg × Reg) (hfma : ∀ x y z, fo.fma32 x y z = fo.add32 (fo.mul32 x y) z) (hneg : ∀ x y, fo.add32 x (y ^^^ sign32) = fo.sub32 x y) (i : Nat) (hi : i < 4) :
    ((avx512.cfloat_sse.conj a).1) i = a.1 i ∧
    ((avx512.cfloat_sse.conj a).2) i = fneg32 (a.2 i) := by
  simp only [avx512.cfloat_sse.conj, avx512.mm_neg_ps, lane, fneg32, sign32]
theorem cdouble_avx512_ctor (fo : FOps) (hfma : ∀ x y z, fo.fma64 x y z = fo.add64 (fo.mul64 x y) z) (hneg : ∀ x y, fo.add64 x (y ^^^ sign64) = fo.sub64 x y) (i : Nat) (hi : i < 8) :
    lane64 ((avx512.cdouble_avx512.ctor).1) i = 0#64 ∧
    lane64 ((avx512.cdouble_avx512.ctor).2) i = 0#64 := by
  simp only [avx512.cdouble_avx512.ctor, lane]
theorem cdouble_avx512_ctor_rr (fo : FOps) (reg0 : Reg) (reg1 : Reg) (hfma : ∀ x y z, fo.fma64 x y z = fo.add64 (fo.mul64 x y) z) (hneg : ∀ x y, fo.add64 x (y ^^^ sign64) = fo.sub64 x y) (i : Nat) (hi : i < 8) :
    lane64 ((avx512.cdouble_avx512.ctor_rr reg0 reg1).1) i = lane64 (reg0) i ∧
    lane64 ((avx512.cdouble_avx512.ctor_rr reg0 reg1).2) i = lane64 (reg1) i := by
  simp only [avx512.cdouble_avx512.ctor_rr, lane]
theorem cdouble_avx512_real (fo : FOps) (self : Reg × Reg) (hfma : ∀ x y z, fo.fma64 x y z = fo.add64 (fo.mul64 x y) z) (hneg : ∀ x y, fo.add64 x (y ^^^ sign64) = fo.sub64 x y) (i : Nat) (hi : i < 8) :
    lane64 (avx512.cdouble_avx512.real self) i = lane64 (self.1) i := by
  simp only [avx512.cdouble_avx512.real, lane]
theorem cdouble_avx512_imag (fo : FOps) (self : Reg × Reg) (hfma : ∀ x y z, fo.fma64 x y z = fo.add64 (fo.mul64 x y) z) (hneg : ∀ x y, fo.add64 x (y ^^^ sign64) = fo.sub64 x y) (i : Nat) (hi : i < 8) :
    lane64 (avx512.cdouble_avx512.imag self) i = lane64 (self.2) i := by
  simp only [avx512.cdouble_avx512.imag, lane]
theorem cdouble_avx512_iadd_v (fo : FOps) (self : Reg × Reg) (a : Reg × Reg) (hfma : ∀ x y z, fo.fma64 x y z = fo.add64 (fo.mul64 x y) z) (hneg : ∀ x y, fo.add64 x (y ^^^ sign64) = fo.sub64 x y) (i : Nat) (hi : i < 8) :
    lane64 ((avx512.cdouble_avx512.iadd_v fo self a).1) i = fo.add64 (lane64 (self.1) i) (lane64 (a.1) i) ∧
    lane64 ((avx512.cdouble_avx512.iadd_v fo self a).2) i = fo.add64 (lane64 (self.2) i) (lane64 (a.2) i) := by
  simp only [avx512.cdouble_avx512.iadd_v, lane]
theorem cdouble_avx512_isub_v (fo : FOps) (self : Reg × Reg) (a : Reg × Reg) (hfma : ∀ x y z, fo.fma64 x y z = fo.add64 (fo.mul64 x y) z) (hneg : ∀ x y, fo.add64 x (y ^^^ sign64) = fo.sub64 x y) (i : Nat) (hi : i < 8) :
    lane64 ((avx512.cdouble_avx512.isub_v fo self a).1) i = fo.sub64 (lane64 (self.1) i) (lane64 (a.1) i) ∧
    lane64 ((avx512.cdouble_avx512.isub_v fo self a).2) i = fo.sub64 (lane64 (self.2) i) (lane64 (a.2) i) := by
  simp only [avx512.cdouble_avx512.isub_v, lane]
theorem cdouble_avx512_imul_v (fo : FOps) (self : Reg × Reg) (a : Reg × Reg) (hfma : ∀ x y z, fo.fma64 x y z = fo.add64 (fo.mul64 x y) z) (hneg : ∀ x y, fo.add64 x (y ^^^ sign64) = fo.sub64 x y) (i : Nat) (hi : i < 8) :
    lane64 ((avx512.cdouble_avx512.imul_v fo self a).1) i = fo.sub64 (fo.mul64 (lane64 (self.1) i) (lane64 (a.1) i)) (fo.mul64 (lane64 (self.2) i) (lane64 (a.2) i)) ∧
    lane64 ((avx512.cdouble_avx512.imul_v fo self a).2) i = fo.add64 (fo.mul64 (lane64 (self.1) i) (lane64 (a.2) i)) (fo.mul64 (lane64 (self.2) i) (lane64 (a.1) i)) := by
  simp only [avx512.cdouble_avx512.imul_v, lane, hfma, hneg]
theorem cdouble_avx512_idiv_v (fo : FOps) (self : Reg × Reg) (a : Reg × Reg) (hfma : ∀ x y z, fo.fma64 x y z = fo.add64 (fo.mul64 x y) z) (hneg : ∀ x y, fo.add64 x (y ^^^ sign64) = fo.sub64 x y) (i : Nat) (hi : i < 8) :
    lane64 ((avx512.cdouble_avx512.idiv_v fo self a).1) i = fo.div64 (fo.add64 (fo.mul64 (lane64 (self.1) i) (lane64 (a.1) i)) (fo.mul64 (lane64 (self.2) i) (lane64 (a.2) i))) (fo.add64 (fo.mul64 (lane64 (a.1) i) (lane64 (a.1) i)) (fo.mul64 (lane64 (a.2) i) (lane64 (a.2) i))) ∧
    lane64 ((avx512.cdouble_avx512.idiv_v fo self a).2) i = fo.div64 (fo.sub64 (fo.mul64 (lane64 (self.2) i) (lane64 (a.1) i)) (fo.mul64 (lane64 (self.1) i) (lane64 (a.2) i))) (fo.add64 (fo.mul64 (lane64 (a.1) i) (lane64 (a.1) i)) (fo.mul64 (lane64 (a.2) i) (lane64 (a.2) i))) := by
  simp only [avx512.cdouble_avx512.idiv_v, lane, hfma, hneg]
theorem cdouble_avx512_reverse (fo : FOps) (self : Reg × Reg) (hfma : ∀ x y z, fo.fma64 x y z = fo.add64 (fo.mul64 x y) z) (hneg : ∀ x y, fo.add64 x (y ^^^ sign64) = fo.sub64 x y) (i : Nat) (hi : i < 8) :
    lane64 ((avx512.cdouble_avx512.reverse self).1) i = lane64 (self.1) (7 - i) ∧
    lane64 ((avx512.cdouble_avx512.reverse self).2) i = lane64 (self.2) (7 - i) := by
  simp only [avx512.cdouble_avx512.reverse, avx512.mm512_reverse_pd, lane]
  interval_cases i <;> exact ⟨rfl, rfl⟩
theorem cdouble_avx512_magnitude (fo : FOps) (self : Reg × Reg) (hfma : ∀ x y z, fo.fma64 x y z = fo.add64 (fo.mul64 x y) z) (hneg : ∀ x y, fo.add64 x (y ^^^ sign64) = fo.sub64 x y) (i : Nat) (hi : i < 8) :
    lane64 (avx512.cdouble_avx512.magnitude fo self) i = fo.sqrt64 (fo.add64 (fo.mul64 (lane64 (self.1) i) (lane64 (self.1) i)) (fo.mul64 (lane64 (self.2) i) (lane64 (self.2) i))) := by
  simp only [avx512.cdouble_avx512.magnitude, lane, hfma]
theorem cdouble_avx512_norm (fo : FOps) (self : Reg × Reg) (hfma : ∀ x y z, fo.fma64 x y z = fo.add64 (fo.mul64 x y) z) (hneg : ∀ x y, fo.add64 x (y ^^^ sign64) = fo.sub64 x y) (i : Nat) (hi : i < 8) :
    lane64 (avx512.cdouble_avx512.norm fo self) i = fo.add64 (fo.mul64 (lane64 (self.1) i) (lane64 (self.1) i)) (fo.mul64 (lane64 (self.2) i) (lane64 (self.2) i)) := by
  simp only [avx512.cdouble_avx512.norm, lane, hfma]
theorem cdouble_avx512_add_vv (fo : FOps) (a : Reg × Reg) (b : Reg × Reg) (hfma : ∀ x y z, fo.fma64 x y z = fo.add64 (fo.mul64 x y) z) (hneg : ∀ x y, fo.add64 x (y ^^^ sign64) = fo.sub64 x y) (i : Nat) (hi : i < 8) :
    lane64 ((avx512.cdouble_avx512.add_vv fo a b).1) i = fo.add64 (lane64 (a.1) i) (lane64 (b.1) i) ∧
    lane64 ((avx512.cdouble_avx512.add_vv fo a b).2) i = fo.add64 (lane64 (a.2) i) (lane64 (b.2) i) := by
  simp only [avx512.cdouble_avx512.add_vv, lane]
theorem cdouble_avx512_pos (fo : FOps) (b : Reg × Reg) (hfma : ∀ x y z, fo.fma64 x y z = fo.add64 (fo.mul64 x y) z) (hneg : ∀ x y, fo.add64 x (y ^^^ sign64) = fo.sub64 x y) (i : Nat) (hi : i < 8) :
    lane64 ((avx512.cdouble_avx512.pos b).1) i = lane64 (b.1) i ∧
    lane64 ((avx512.cdouble_avx512.pos b).2) i = lane64 (b.2) i := by
  simp only [avx512.cdouble_avx512.pos, lane]
theorem cdouble_avx512_sub_vv (fo : FOps) (a : Reg × Reg) (b : Reg × Reg) (hfma : ∀ x y z, fo.fma64 x y z = fo.add64 (fo.mul64 x y) z) (hneg : ∀ x y, fo.add64 x (y ^^^ sign64) = fo.sub64 x y) (i : Nat) (hi : i < 8) :
    lane64 ((avx512.cdouble_avx512.sub_vv fo a b).1) i = fo.sub64 (lane64 (a.1) i) (lane64 (b.1) i) ∧
    lane64 ((avx512.cdouble_avx512.sub_vv fo a b).2) i = fo.sub64 (lane64 (a.2) i) (lane64 (b.2) i) := by
  simp only [avx512.cdouble_avx512.sub_vv, lane]
theorem cdouble_avx512_neg (fo : FOps) (a : Reg × Reg) (hfma : ∀ x y z, fo.fma64 x y z = fo.add64 (fo.mul64 x y) z) (hneg : ∀ x y, fo.add64 x (y ^^^ sign64) = fo.sub64 x y) (i : Nat) (hi : i < 8) :
    lane64 ((avx512.cdouble_avx512.neg a).1) i = fneg64 (lane64 (a.1) i) ∧
    lane64 ((avx512.cdouble_avx512.neg a).2) i = fneg64 (lane64 (a.2) i) := by
  simp only [avx512.cdouble_avx512.neg, avx512.mm512_neg_pd, lane, fneg64, sign64]
theorem cdouble_avx512_mul_vv (fo : FOps) (a : Reg × Reg) (b : Reg × Reg) (hfma : ∀ x y z, fo.fma64 x y z = fo.add64 (fo.mul64 x y) z) (hneg : ∀ x y, fo.add64 x (y ^^^ sign64) = fo.sub64 x y) (i : Nat) (hi : i < 8) :
    lane64 ((avx512.cdouble_avx512.mul_vv fo a b).1) i = fo.sub64 (fo.mul64 (lane64 (a.1) i) (lane64 (b.1) i)) (fo.mul64 (lane64 (a.2) i) (lane64 (b.2) i)) ∧
    lane64 ((avx512.cdouble_avx512.mul_vv fo a b).2) i = fo.add64 (fo.mul64 (lane64 (a.1) i) (lane64 (b.2) i)) (fo.mul64 (lane64 (a.2) i) (lane64 (b.1) i)) := by
  simp only [avx512.cdouble_avx512.mul_vv, lane, hfma, hneg]
theorem cdouble_avx512_div_vv (fo : FOps) (a : Reg × Reg) (b : Reg × Reg) (hfma : ∀ x y z, fo.fma64 x y z = fo.add64 (fo.mul64 x y) z) (hneg : ∀ x y, fo.add64 x (y ^^^ sign64) = fo.sub64 x y) (i : Nat) (hi : i < 8) :
    lane64 ((avx512.cdouble_avx512.div_vv fo a b).1) i = fo.div64 (fo.add64 (fo.mul64 (lane64 (a.1) i) (lane64 (b.1) i)) (fo.mul64 (lane64 (a.2) i) (lane64 (b.2) i))) (fo.add64 (fo.mul64 (lane64 (b.1) i) (lane64 (b.1) i)) (fo.mul64 (lane64 (b.2) i) (lane64 (b.2) i))) ∧
    lane64 ((avx512.cdouble_avx512.div_vv fo a b).2) i = fo.div64 (fo.sub64 (fo.mul64 (lane64 (a.2) i) (lane64 (b.1) i)) (fo.mul64 (lane64 (a.1) i) (lane64 (b.2) i))) (fo.add64 (fo.mul64 (lane64 (b.1) i) (lane64 (b.1) i)) (fo.mul64 (lane64 (b.2) i) (lane64 (b.2) i))) := by
  simp only [avx512.cdouble_avx512.div_vv, lane, hfma, hneg]
theorem cdouble_avx512_rcp (fo : FOps) (a : Reg × Reg) (hfma : ∀ x y z, fo.fma64 x y z = fo.add64 (fo.mul64 x y) z) (hneg : ∀ x y, fo.add64 x (y ^^^ sign64) = fo.sub64 x y) (i : Nat) (hi : i < 8) :
    lane64 ((avx512.cdouble_avx512.rcp fo a).1) i = fo.div64 (lane64 (a.1) i) (fo.add64 (fo.mul64 (lane64 (a.1) i) (lane64 (a.1) i)) (fo.mul64 (lane64 (a.2) i) (lane64 (a.2) i))) ∧
    lane64 ((avx512.cdouble_avx512.rcp fo a).2) i = fneg64 (fo.div64 (lane64 (a.2) i) (fo.add64 (fo.mul64 (lane64 (a.1) i) (lane64 (a.1) i)) (fo.mul64 (lane64 (a.2) i) (lane64 (a.2) i)))) := by
  simp only [avx512.cdouble_avx512.rcp, avx512.mm512_neg_pd, lane, hfma, fneg64, sign64]
theorem cdouble_avx512_conj (fo : FOps) (a : Reg × Reg) (hfma : ∀ x y z, fo.fma64 x y z = fo.add64 (fo.mul64 x y) z) (hneg : ∀ x y, fo.add64 x (y ^^^ sign64) = fo.sub64 x y) (i : Nat) (hi : i < 8) :
    lane64 ((avx512.cdouble_avx512.conj a).1) i = lane64 (a.1) i ∧
    lane64 ((avx512.cdouble_avx512.conj a).2) i = fneg64 (lane64 (a.2) i) := by
  simp only [avx512.cdouble_avx512.conj, avx512.mm512_neg_pd, lane, fneg64, sign64]
theorem cdouble_avx_ctor (fo : FOps) (hfma : ∀ x y z, fo.fma64 x y z = fo.add64 (fo.mul64 x y) z) (hneg : ∀ x y, fo.add64 x (y ^^^ sign64) = fo.sub64 x y) (i : Nat) (hi : i < 4) :
    lane64 ((avx512.cdouble_avx.ctor).1) i = 0#64 ∧
    lane64 ((avx512.cdouble_avx.ctor).2) i = 0#64 := by
  simp only [avx512.cdouble_avx.ctor, lane]
theorem cdouble_avx_ctor_rr (fo : FOps) (reg0 : Reg) (reg1 : Reg) (hfma : ∀ x y z, fo.fma64 x y z = fo.add64 (fo.mul64 x y) z) (hneg : ∀ x y, fo.add64 x (y ^^^ sign64) = fo.sub64 x y) (i : Nat) (hi : i < 4) :
    lane64 ((avx512.cdouble_avx.ctor_rr reg0 reg1).1) i = lane64 (reg0) i ∧
    lane64 ((avx512.cdouble_avx.ctor_rr reg0 reg1).2) i = lane64 (reg1) i := by
  simp only [avx512.cdouble_avx.ctor_rr, lane]
theorem cdouble_avx_real (fo : FOps) (self : Reg × Reg) (hfma : ∀ x y z, fo.fma64 x y z = fo.add64 (fo.mul64 x y) z) (hneg : ∀ x y, fo.add64 x (y ^^^ sign64) = fo.sub64 x y) (i : Nat) (hi : i < 4) :
    lane64 (avx512.cdouble_avx.real self) i = lane64 (self.1) i := by
  simp only [avx512.cdouble_avx.real, lane]
theorem cdouble_avx_imag (fo : FOps) (self : Reg × Reg) (hfma : ∀ x y z, fo.fma64 x y z = fo.add64 (fo.mul64 x y) z) (hneg : ∀ x y, fo.add64 x (y ^^^ sign64) = fo.sub64 x y) (i : Nat) (hi : i < 4) :
    lane64 (avx512.cdouble_avx.imag self) i = lane64 (self.2) i := by
  simp only [avx512.cdouble_avx.imag, lane]
theorem cdouble_avx_iadd_v (fo : FOps) (self : Reg × Reg) (a : Reg × Reg) (hfma : ∀ x y z, fo.fma64 x y z = fo.add64 (fo.mul64 x y) z) (hneg : ∀ x y, fo.add64 x (y ^^^ sign64) = fo.sub64 x y) (i : Nat) (hi : i < 4) :
    lane64 ((avx512.cdouble_avx.iadd_v fo self a).1) i = fo.add64 (lane64 (self.1) i) (lane64 (a.1) i) ∧
    lane64 ((avx512.cdouble_avx.iadd_v fo self a).2) i = fo.add64 (lane64 (self.2) i) (lane64 (a.2) i) := by
  simp only [avx512.cdouble_avx.iadd_v, lane]
theorem cdouble_avx_isub_v (fo : FOps) (self : Reg × Reg) (a : Reg × Reg) (hfma : ∀ x y z, fo.fma64 x y z = fo.add64 (fo.mul64 x y) z) (hneg : ∀ x y, fo.add64 x (y ^^^ sign64) = fo.sub64 x y) (i : Nat) (hi : i < 4) :
    lane64 ((avx512.cdouble_avx.isub_v fo self a).1) i = fo.sub64 (lane64 (self.1) i) (lane64 (a.1) i) ∧
    lane64 ((avx512.cdouble_avx.isub_v fo self a).2) i = fo.sub64 (lane64 (self.2) i) (lane64 (a.2) i) := by
  simp only [avx512.cdouble_avx.isub_v, lane]
theorem cdouble_avx_imul_v (fo : FOps) (self : Reg × Reg) (a : Reg × Reg) (hfma : ∀ x y z, fo.fma64 x y z = fo.add64 (fo.mul64 x y) z) (hneg : ∀ x y, fo.add64 x (y ^^^ sign64) = fo.sub64 x y) (i : Nat) (hi : i < 4) :
    lane64 ((avx512.cdouble_avx.imul_v fo self a).1) i = fo.sub64 (fo.mul64 (lane64 (self.1) i) (lane64 (a.1) i)) (fo.mul64 (lane64 (self.2) i) (lane64 (a.2) i)) ∧
    lane64 ((avx512.cdouble_avx.imul_v fo self a).2) i = fo.add64 (fo.mul64 (lane64 (self.1) i) (lane64 (a.2) i)) (fo.mul64 (lane64 (self.2) i) (lane64 (a.1) i)) := by
  simp only [avx512.cdouble_avx.imul_v, lane, hfma, hneg]
theorem cdouble_avx_idiv_v (fo : FOps) (self : Reg × Reg) (a : Reg × Reg) (hfma : ∀ x y z, fo.fma64 x y z = fo.add64 (fo.mul64 x y) z) (hneg : ∀ x y, fo.add64 x (y ^^^ sign64) = fo.sub64 x y) (i : Nat) (hi : i < 4) :
    lane64 ((avx512.cdouble_avx.idiv_v fo self a).1) i = fo.div64 (fo.add64 (fo.mul64 (lane64 (self.1) i) (lane64 (a.1) i)) (fo.mul64 (lane64 (self.2) i) (lane64 (a.2) i))) (fo.add64 (fo.mul64 (lane64 (a.1) i) (lane64 (a.1) i)) (fo.mul64 (lane64 (a.2) i) (lane64 (a.2) i))) ∧
    lane64 ((avx512.cdouble_avx.idiv_v fo self a).2) i = fo.div64 (fo.sub64 (fo.mul64 (lane64 (self.2) i) (lane64 (a.1) i)) (fo.mul64 (lane64 (self.1) i) (lane64 (a.2) i))) (fo.add64 (fo.mul64 (lane64 (a.1) i) (lane64 (a.1) i)) (fo.mul64 (lane64 (a.2) i) (lane64 (a.2) i))) := by
  simp only [avx512.cdouble_avx.idiv_v, lane, hfma, hneg]
theorem cdouble_avx_reverse (fo : FOps) (self : Reg × Reg) (hfma : ∀ x y z, fo.fma64 x y z = fo.add64 (fo.mul64 x y) z) (hneg : ∀ x y, fo.add64 x (y ^^^ sign64) = fo.sub64 x y) (i : Nat) (hi : i < 4) :
    lane64 ((avx512.cdouble_avx.reverse self).1) i = lane64 (self.1) (3 - i) ∧
    lane64 ((avx512.cdouble_avx.reverse self).2) i = lane64 (self.2) (3 - i) := by
  simp only [avx512.cdouble_avx.reverse, avx512.mm256_reverse_pd, lane]
  interval_cases i <;> exact ⟨rfl, rfl⟩
theorem cdouble_avx_magnitude (fo : FOps) (self : Reg × Reg) (hfma : ∀ x y z, fo.fma64 x y z = fo.add64 (fo.mul64 x y) z) (hneg : ∀ x y, fo.add64 x (y ^^^ sign64) = fo.sub64 x y) (i : Nat) (hi : i < 4) :
    lane64 (avx512.cdouble_avx.magnitude fo self) i = fo.sqrt64 (fo.add64 (fo.mul64 (lane64 (self.1) i) (lane64 (self.1) i)) (fo.mul64 (lane64 (self.2) i) (lane64 (self.2) i))) := by
  simp only [avx512.cdouble_avx.magnitude, lane, hfma]
theorem cdouble_avx_norm (fo : FOps) (self : Reg × Reg) (hfma : ∀ x y z, fo.fma64 x y z = fo.add64 (fo.mul64 x y) z) (hneg : ∀ x y, fo.add64 x (y ^^^ sign64) = fo.sub64 x y) (i : Nat) (hi : i < 4) :
    lane64 (avx512.cdouble_avx.norm fo self) i = fo.add64 (fo.mul64 (lane64 (self.1) i) (lane64 (self.1) i)) (fo.mul64 (lane64 (self.2) i) (lane64 (self.2) i)) := by
  simp only [avx512.cdouble_avx.norm, lane, hfma]
theorem cdouble_avx_add_vv (fo : FOps) (a : Reg × Reg) (b : Reg × Reg) (hfma : ∀ x y z, fo.fma64 x y z = fo.add64 (fo.mul64 x y) z) (hneg : ∀ x y, fo.add64 x (y ^^^ sign64) = fo.sub64 x y) (i : Nat) (hi : i < 4) :
    lane64 ((avx512.cdouble_avx.add_vv fo a b).1) i = fo.add64 (lane64 (a.1) i) (lane64 (b.1) i) ∧
    lane64 ((avx512.cdouble_avx.add_vv fo a b).2) i = fo.add64 (lane64 (a.2) i) (lane64 (b.2) i) := by
  simp only [avx512.cdouble_avx.add_vv, lane]
theorem cdouble_avx_pos (fo : FOps) (b : Reg × Reg) (hfma : ∀ x y z, fo.fma64 x y z = fo.add64 (fo.mul64 x y) z) (hneg : ∀ x y, fo.add64 x (y ^^^ sign64) = fo.sub64 x y) (i : Nat) (hi : i < 4) :
    lane64 ((avx512.cdouble_avx.pos b).1) i = lane64 (b.1) i ∧
    lane64 ((avx512.cdouble_avx.pos b).2) i = lane64 (b.2) i := by
  simp only [avx512.cdouble_avx.pos, lane]
theorem cdouble_avx_sub_vv (fo : FOps) (a : Reg × Reg) (b : Reg × Reg) (hfma : ∀ x y z, fo.fma64 x y z = fo.add64 (fo.mul64 x y) z) (hneg : ∀ x y, fo.add64 x (y ^^^ sign64) = fo.sub64 x y) (i : Nat) (hi : i < 4) :
    lane64 ((avx512.cdouble_avx.sub_vv fo a b).1) i = fo.sub64 (lane64 (a.1) i) (lane64 (b.1) i) ∧
    lane64 ((avx512.cdouble_avx.sub_vv fo a b).2) i = fo.sub64 (lane64 (a.2) i) (lane64 (b.2) i) := by
  simp only [avx512.cdouble_avx.sub_vv, lane]
theorem cdouble_avx_neg (fo : FOps) (a : Reg × Reg) (hfma : ∀ x y z, fo.fma64 x y z = fo.add64 (fo.mul64 x y) z) (hneg : ∀ x y, fo.add64 x (y ^^^ sign64) = fo.sub64 x y) (i : Nat) (hi : i < 4) :
    lane64 ((avx512.cdouble_avx.neg a).1) i = fneg64 (lane64 (a.1) i) ∧
    lane64 ((avx512.cdouble_avx.neg a).2) i = fneg64 (lane64 (a.2) i) := by
  simp only [avx512.cdouble_avx.neg, avx512.mm256_neg_pd, lane, fneg64, sign64]
theorem cdouble_avx_mul_vv (fo : FOps) (a : Reg × Reg) (b : Reg × Reg) (hfma : ∀ x y z, fo.fma64 x y z = fo.add64 (fo.mul64 x y) z) (hneg : ∀ x y, fo.add64 x (y ^^^ sign64) = fo.sub64 x y) (i : Nat) (hi : i < 4) :
    lane64 ((avx512.cdouble_avx.mul_vv fo a b).1) i = fo.sub64 (fo.mul64 (lane64 (a.1) i) (lane64 (b.1) i)) (fo.mul64 (lane64 (a.2) i) (lane64 (b.2) i)) ∧
    lane64 ((avx512.cdouble_avx.mul_vv fo a b).2) i = fo.add64 (fo.mul64 (lane64 (a.1) i) (lane64 (b.2) i)) (fo.mul64 (lane64 (a.2) i) (lane64 (b.1) i)) := by
  simp only [avx512.cdouble_avx.mul_vv, lane, hfma, hneg]
theorem cdouble_avx_div_vv (fo : FOps) (a : Reg × Reg) (b : Reg × Reg) (hfma : ∀ x y z, fo.fma64 x y z = fo.add64 (fo.mul64 x y) z) (hneg : ∀ x y, fo.add64 x (y ^^^ sign64) = fo.sub64 x y) (i : Nat) (hi : i < 4) :
    lane64 ((avx512.cdouble_avx.div_vv fo a b).1) i = fo.div64 (fo.add64 (fo.mul64 (lane64 (a.1) i) (lane64 (b.1) i)) (fo.mul64 (lane64 (a.2) i) (lane64 (b.2) i))) (fo.add64 (fo.mul64 (lane64 (b.1) i) (lane64 (b.1) i)) (fo.mul64 (lane64 (b.2) i) (lane64 (b.2) i))) ∧
    lane64 ((avx512.cdouble_avx.div_vv fo a b).2) i = fo.div64 (fo.sub64 (fo.mul64 (lane64 (a.2) i) (lane64 (b.1) i)) (fo.mul64 (lane64 (a.1) i) (lane64 (b.2) i))) (fo.add64 (fo.mul64 (lane64 (b.1) i) (lane64 (b.1) i)) (fo.mul64 (lane64 (b.2) i) (lane64 (b.2) i))) := by
  simp only [avx512.cdouble_avx.div_vv, lane, hfma, hneg]
theorem cdouble_avx_rcp (fo : FOps) (a : Reg × Reg) (hfma : ∀ x y z, fo.fma64 x y z = fo.add64 (fo.mul64 x y) z) (hneg : ∀ x y, fo.add64 x (y ^^^ sign64) = fo.sub64 x y) (i : Nat) (hi : i < 4) :
    lane64 ((avx512.cdouble_avx.rcp fo a).1) i = fo.div64 (lane64 (a.1) i) (fo.add64 (fo.mul64 (lane64 (a.1) i) (lane64 (a.1) i)) (fo.mul64 (lane64 (a.2) i) (lane64 (a.2) i))) ∧
    lane64 ((avx512.cdouble_avx.rcp fo a).2) i = fneg64 (fo.div64 (lane64 (a.2) i) (fo.add64 (fo.mul64 (lane64 (a.1) i) (lane64 (a.1) i)) (fo.mul64 (lane64 (a.2) i) (lane64 (a.2) i)))) := by
  simp only [avx512.cdouble_avx.rcp, avx512.mm256_neg_pd, lane, hfma, fneg64, sign64]
theorem cdouble_avx_conj (fo : FOps) (a : Reg × Reg) (hfma : ∀ x y z, fo.fma64 x y z = fo.add64 (fo.mul64 x y) z) (hneg : ∀ x y, fo.add64 x (y ^^^ sign64) = fo.sub64 x y) (i : Nat) (hi : i < 4) :
    lane64 ((avx512.cdouble_avx.conj a).1) i = lane64 (a.1) i ∧
    lane64 ((avx512.cdouble_avx.conj a).2) i = fneg64 (lane64 (a.2) i) := by
  simp only [avx512.cdouble_avx.conj, avx512.mm256_neg_pd, lane, fneg64, sign64]
theorem cdouble_sse_ctor (fo : FOps) (hfma : ∀ x y z, fo.fma64 x y z = fo.add64 (fo.mul64 x y) z) (hneg : ∀ x y, fo.add64 x (y ^^^ sign64) = fo.sub64 x y) (i : Nat) (hi : i < 2) :
    lane64 ((avx512.cdouble_sse.ctor).1) i = 0#64 ∧
    lane64 ((avx512.cdouble_sse.ctor).2) i = 0#64 := by
  simp only [avx512.cdouble_sse.ctor, lane]
theorem cdouble_sse_ctor_rr (fo : FOps) (reg0 : Reg) (reg1 : Reg) (hfma : ∀ x y z, fo.fma64 x y z = fo.add64 (fo.mul64 x y) z) (hneg : ∀ x y, fo.add64 x (y ^^^ sign64) = fo.sub64 x y) (i : Nat) (hi : i < 2) :
    lane64 ((avx512.cdouble_sse.ctor_rr reg0 reg1).1) i = lane64 (reg0) i ∧
    lane64 ((avx512.cdouble_sse.ctor_rr reg0 reg1).2) i = lane64 (reg1) i := by
  simp only [avx512.cdouble_sse.ctor_rr, lane]
theorem cdouble_sse_real (fo : FOps) (self : Reg × Reg) (hfma : ∀ x y z, fo.fma64 x y z = fo.add64 (fo.mul64 x y) z) (hneg : ∀ x y, fo.add64 x (y ^^^ sign64) = fo.sub64 x y) (i : Nat) (hi : i < 2) :
    lane64 (avx512.cdouble_sse.real self) i = lane64 (self.1) i := by
  simp only [avx512.cdouble_sse.real, lane]
theorem cdouble_sse_imag (fo : FOps) (self : Reg × Reg) (hfma : ∀ x y z, fo.fma64 x y z = fo.add64 (fo.mul64 x y) z) (hneg : ∀ x y, fo.add64 x (y ^^^ sign64) = fo.sub64 x y) (i : Nat) (hi : i < 2) :
    lane64 (avx512.cdouble_sse.imag self) i = lane64 (self.2) i := by
  simp only [avx512.cdouble_sse.imag, lane]
theorem cdouble_sse_iadd_v (fo : FOps) (self : Reg × Reg) (a : Reg × Reg) (hfma : ∀ x y z, fo.fma64 x y z = fo.add64 (fo.mul64 x y) z) (hneg : ∀ x y, fo.add64 x (y ^^^ sign64) = fo.sub64 x y) (i : Nat) (hi : i < 2) :
    lane64 ((avx512.cdouble_sse.iadd_v fo self a).1) i = fo.add64 (lane64 (self.1) i) (lane64 (a.1) i) ∧
    lane64 ((avx512.cdouble_sse.iadd_v fo self a).2) i = fo.add64 (lane64 (self.2) i) (lane64 (a.2) i) := by
  simp only [avx512.cdouble_sse.iadd_v, lane]
theorem cdouble_sse_isub_v (fo : FOps) (self : Reg × Reg) (a : Reg × Reg) (hfma : ∀ x y z, fo.fma64 x y z = fo.add64 (fo.mul64 x y) z) (hneg : ∀ x y, fo.add64 x (y ^^^ sign64) = fo.sub64 x y) (i : Nat) (hi : i < 2) :
    lane64 ((avx512.cdouble_sse.isub_v fo self a).1) i = fo.sub64 (lane64 (self.1) i) (lane64 (a.1) i) ∧
    lane64 ((avx512.cdouble_sse.isub_v fo self a).2) i = fo.sub64 (lane64 (self.2) i) (lane64 (a.2) i) := by
  simp only [avx512.cdouble_sse.isub_v, lane]
theorem cdouble_sse_imul_v (fo : FOps) (self : Reg × Reg) (a : Reg × Reg) (hfma : ∀ x y z, fo.fma64 x y z = fo.add64 (fo.mul64 x y) z) (hneg : ∀ x y, fo.add64 x (y ^^^ sign64) = fo.sub64 x y) (i : Nat) (hi : i < 2) :
    lane64 ((avx512.cdouble_sse.imul_v fo self a).1) i = fo.sub64 (fo.mul64 (lane64 (self.1) i) (lane64 (a.1) i)) (fo.mul64 (lane64 (self.2) i) (lane64 (a.2) i)) ∧
    lane64 ((avx512.cdouble_sse.imul_v fo self a).2) i = fo.add64 (fo.mul64 (lane64 (self.1) i) (lane64 (a.2) i)) (fo.mul64 (lane64 (self.2) i) (lane64 (a.1) i)) := by
  simp only [avx512.cdouble_sse.imul_v, lane, hfma, hneg]
theorem cdouble_sse_idiv_v (fo : FOps) (self : Reg × Reg) (a : Reg × Reg) (hfma : ∀ x y z, fo.fma64 x y z = fo.add64 (fo.mul64 x y) z) (hneg : ∀ x y, fo.add64 x (y ^^^ sign64) = fo.sub64 x y) (i : Nat) (hi : i < 2) :
    lane64 ((avx512.cdouble_sse.idiv_v fo self a).1) i = fo.div64 (fo.add64 (fo.mul64 (lane64 (self.1) i) (lane64 (a.1) i)) (fo.mul64 (lane64 (self.2) i) (lane64 (a.2) i))) (fo.add64 (fo.mul64 (lane64 (a.1) i) (lane64 (a.1) i)) (fo.mul64 (lane64 (a.2) i) (lane64 (a.2) i))) ∧
    lane64 ((avx512.cdouble_sse.idiv_v fo self a).2) i = fo.div64 (fo.sub64 (fo.mul64 (lane64 (self.2) i) (lane64 (a.1) i)) (fo.mul64 (lane64 (self.1) i) (lane64 (a.2) i))) (fo.add64 (fo.mul64 (lane64 (a.1) i) (lane64 (a.1) i)) (fo.mul64 (lane64 (a.2) i) (lane64 (a.2) i))) := by
  simp only [avx512.cdouble_sse.idiv_v, lane, hfma, hneg]
theorem cdouble_sse_reverse (fo : FOps) (self : Reg × Reg) (hfma : ∀ x y z, fo.fma64 x y z = fo.add64 (fo.mul64 x y) z) (hneg : ∀ x y, fo.add64 x (y ^^^ sign64) = fo.sub64 x y) (i : Nat) (hi : i < 2) :
    lane64 ((avx512.cdouble_sse.reverse self).1) i = lane64 (self.1) (1 - i) ∧
    lane64 ((avx512.cdouble_sse.reverse self).2) i = lane64 (self.2) (1 - i) := by
  simp only [avx512.cdouble_sse.reverse, avx512.mm_reverse_pd, lane]
  interval_cases i <;> exact ⟨rfl, rfl⟩
theorem cdouble_sse_magnitude (fo : FOps) (self : Reg × Reg) (hfma : ∀ x y z, fo.fma64 x y z = fo.add64 (fo.mul64 x y) z) (hneg : ∀ x y, fo.add64 x (y ^^^ sign64) = fo.sub64 x y) (i : Nat) (hi : i < 2) :
    lane64 (avx512.cdouble_sse.magnitude fo self) i = fo.sqrt64 (fo.add64 (fo.mul64 (lane64 (self.1) i) (lane64 (self.1) i)) (fo.mul64 (lane64 (self.2) i) (lane64 (self.2) i))) := by
  simp only [avx512.cdouble_sse.magnitude, lane, hfma]
theorem cdouble_sse_norm (fo : FOps) (self : Reg × Reg) (hfma : ∀ x y z, fo.fma64 x y z = fo.add64 (fo.mul64 x y) z) (hneg : ∀ x y, fo.add64 x (y ^^^ sign64) = fo.sub64 x y) (i : Nat) (hi : i < 2) :
    lane64 (avx512.cdouble_sse.norm fo self) i = fo.add64 (fo.mul64 (lane64 (self.1) i) (lane64 (self.1) i)) (fo.mul64 (lane64 (self.2) i) (lane64 (self.2) i)) := by
  simp only [avx512.cdouble_sse.norm, lane, hfma]
theorem cdouble_sse_add_vv (fo : FOps) (a : Reg × Reg) (b : Reg × Reg) (hfma : ∀ x y z, fo.fma64 x y z = fo.add64 (fo.mul64 x y) z) (hneg : ∀ x y, fo.add64 x (y ^^^ sign64) = fo.sub64 x y) (i : Nat) (hi : i < 2) :
    lane64 ((avx512.cdouble_sse.add_vv fo a b).1) i = fo.add64 (lane64 (a.1) i) (lane64 (b.1) i) ∧
    lane64 ((avx512.cdouble_sse.add_vv fo a b).2) i = fo.add64 (lane64 (a.2) i) (lane64 (b.2) i) := by
  simp only [avx512.cdouble_sse.add_vv, lane]
theorem cdouble_sse_pos (fo : FOps) (b : Reg × Reg) (hfma : ∀ x y z, fo.fma64 x y z = fo.add64 (fo.mul64 x y) z) (hneg : ∀ x y, fo.add64 x (y ^^^ sign64) = fo.sub64 x y) (i : Nat) (hi : i < 2) :
    lane64 ((avx512.cdouble_sse.pos b).1) i = lane64 (b.1) i ∧
    lane64 ((avx512.cdouble_sse.pos b).2) i = lane64 (b.2) i := by
  simp only [avx512.cdouble_sse.pos, lane]
theorem cdouble_sse_sub_vv (fo : FOps) (a : Reg × Reg) (b : Reg × Reg) (hfma : ∀ x y z, fo.fma64 x y z = fo.add64 (fo.mul64 x y) z) (hneg : ∀ x y, fo.add64 x (y ^^^ sign64) = fo.sub64 x y) (i : Nat) (hi : i < 2) :
    lane64 ((avx512.cdouble_sse.sub_vv fo a b).1) i = fo.sub64 (lane64 (a.1) i) (lane64 (b.1) i) ∧
    lane64 ((avx512.cdouble_sse.sub_vv fo a b).2) i = fo.sub64 (lane64 (a.2) i) (lane64 (b.2) i) := by
  simp only [avx512.cdouble_sse.sub_vv, lane]
theorem cdouble_sse_neg (fo : FOps) (a : Reg × Reg) (hfma : ∀ x y z, fo.fma64 x y z = fo.add64 (fo.mul64 x y) z) (hneg : ∀ x y, fo.add64 x (y ^^^ sign64) = fo.sub64 x y) (i : Nat) (hi : i < 2) :
    lane64 ((avx512.cdouble_sse.neg a).1) i = fneg64 (lane64 (a.1) i) ∧
    lane64 ((avx512.cdouble_sse.neg a).2) i = fneg64 (lane64 (a.2) i) := by
  simp only [avx512.cdouble_sse.neg, avx512.mm_neg_pd, lane, fneg64, sign64]
theorem cdouble_sse_mul_vv (fo : FOps) (a : Reg × Reg) (b : Reg × Reg) (hfma : ∀ x y z, fo.fma64 x y z = fo.add64 (fo.mul64 x y) z) (hneg : ∀ x y, fo.add64 x (y ^^^ sign64) = fo.sub64 x y) (i : Nat) (hi : i < 2) :
    lane64 ((avx512.cdouble_sse.mul_vv fo a b).1) i = fo.sub64 (fo.mul64 (lane64 (a.1) i) (lane64 (b.1) i)) (fo.mul64 (lane64 (a.2) i) (lane64 (b.2) i)) ∧
    lane64 ((avx512.cdouble_sse.mul_vv fo a b).2) i = fo.add64 (fo.mul64 (lane64 (a.1) i) (lane64 (b.2) i)) (fo.mul64 (lane64 (a.2) i) (lane64 (b.1) i)) := by
  simp only [avx512.cdouble_sse.mul_vv, lane, hfma, hneg]
theorem cdouble_sse_div_vv (fo : FOps) (a : Reg × Reg) (b : Reg × Reg) (hfma : ∀ x y z, fo.fma64 x y z = fo.add64 (fo.mul64 x y) z) (hneg : ∀ x y, fo.add64 x (y ^^^ sign64) = fo.sub64 x y) (i : Nat) (hi : i < 2) :
    lane64 ((avx512.cdouble_sse.div_vv fo a b).1) i = fo.div64 (fo.add64 (fo.mul64 (lane64 (a.1) i) (lane64 (b.1) i)) (fo.mul64 (lane64 (a.2) i) (lane64 (b.2) i))) (fo.add64 (fo.mul64 (lane64 (b.1) i) (lane64 (b.1) i)) (fo.mul64 (lane64 (b.2) i) (lane64 (b.2) i))) ∧
    lane64 ((avx512.cdouble_sse.div_vv fo a b).2) i = fo.div64 (fo.sub64 (fo.mul64 (lane64 (a.2) i) (lane64 (b.1) i)) (fo.mul64 (lane64 (a.1) i) (lane64 (b.2) i))) (fo.add64 (fo.mul64 (lane64 (b.1) i) (lane64 (b.1) i)) (fo.mul64 (lane64 (b.2) i) (lane64 (b.2) i))) := by
  simp only [avx512.cdouble_sse.div_vv, lane, hfma, hneg]
theorem cdouble_sse_rcp (fo : FOps) (a : Reg × Reg) (hfma : ∀ x y z, fo.fma64 x y z = fo.add64 (fo.mul64 x y) z) (hneg : ∀ x y, fo.add64 x (y ^^^ sign64) = fo.sub64 x y) (i : Nat) (hi : i < 2) :
    lane64 ((avx512.cdouble_sse.rcp fo a).1) i = fo.div64 (lane64 (a.1) i) (fo.add64 (fo.mul64 (lane64 (a.1) i) (lane64 (a.1) i)) (fo.mul64 (lane64 (a.2) i) (lane64 (a.2) i))) ∧
    lane64 ((avx512.cdouble_sse.rcp fo a).2) i = fneg64 (fo.div64 (lane64 (a.2) i) (fo.add64 (fo.mul64 (lane64 (a.1) i) (lane64 (a.1) i)) (fo.mul64 (lane64 (a.2) i) (lane64 (a.2) i)))) := by
  simp only [avx512.cdouble_sse.rcp, avx512.mm_neg_pd, lane, hfma, fneg64, sign64]
theorem cdouble_sse_conj (fo : FOps) (a : Reg × Reg) (hfma : ∀ x y z, fo.fma64 x y z = fo.add64 (fo.mul64 x y) z) (hneg : ∀ x y, fo.add64 x (y ^^^ sign64) = fo.sub64 x y) (i : Nat) (hi : i < 2) :
    lane64 ((avx512.cdouble_sse.conj a).1) i = lane64 (a.1) i ∧
    lane64 ((avx512.cdouble_sse.conj a).2) i = fneg64 (lane64 (a.2) i) := by
  simp only [avx512.cdouble_sse.conj, avx512.mm_neg_pd, lane, fneg64, sign64]
theorem float_sse_fmadd (fo : FOps) (a : Reg) (b : Reg) (c : Reg) (i : Nat) (hi : i < 4) :
    (avx512.float_sse.fmadd fo a b c) i = fo.fma32 (a i) (b i) (c i) := by
  simp only [avx512.float_sse.fmadd, lane]
theorem float_avx_fmadd (fo : FOps) (a : Reg) (b : Reg) (c : Reg) (i : Nat) (hi : i < 8) :
    (avx512.float_avx.fmadd fo a b c) i = fo.fma32 (a i) (b i) (c i) := by
  simp only [avx512.float_avx.fmadd, lane]
theorem float_avx512_fmadd (fo : FOps) (a : Reg) (b : Reg) (c : Reg) (i : Nat) (hi : i < 16) :
    (avx512.float_avx512.fmadd fo a b c) i = fo.fma32 (a i) (b i) (c i) := by
  simp only [avx512.float_avx512.fmadd, lane]
theorem double_sse_fmadd (fo : FOps) (a : Reg) (b : Reg) (c : Reg) (i : Nat) (hi : i < 2) :
    lane64 (avx512.double_sse.fmadd fo a b c) i = fo.fma64 (lane64 a i) (lane64 b i) (lane64 c i) := by
  simp only [avx512.double_sse.fmadd, lane]
theorem double_avx_fmadd (fo : FOps) (a : Reg) (b : Reg) (c : Reg) (i : Nat) (hi : i < 4) :
    lane64 (avx512.double_avx.fmadd fo a b c) i = fo.fma64 (lane64 a i) (lane64 b i) (lane64 c i) := by
  simp only [avx512.double_avx.fmadd, lane]
theorem double_avx512_fmadd (fo : FOps) (a : Reg) (b : Reg) (c : Reg) (i : Nat) (hi : i < 8) :
    lane64 (avx512.double_avx512.fmadd fo a b c) i = fo.fma64 (lane64 a i) (lane64 b i) (lane64 c i) := by
  simp only [avx512.double_avx512.fmadd, lane]
theorem float_sse_fmsub (fo : FOps) (a : Reg) (b : Reg) (c : Reg) (i : Nat) (hi : i < 4) :
    (avx512.float_sse.fmsub fo a b c) i = fo.fma32 (a i) (b i) (fneg32 (c i)) := by
  simp only [avx512.float_sse.fmsub, lane, fneg32]
theorem float_avx_fmsub (fo : FOps) (a : Reg) (b : Reg) (c : Reg) (i : Nat) (hi : i < 8) :
    (avx512.float_avx.fmsub fo a b c) i = fo.fma32 (a i) (b i) (fneg32 (c i)) := by
  simp only [avx512.float_avx.fmsub, lane, fneg32]
theorem float_avx512_fmsub (fo : FOps) (a : Reg) (b : Reg) (c : Reg) (i : Nat) (hi : i < 16) :
    (avx512.float_avx512.fmsub fo a b c) i = fo.fma32 (a i) (b i) (fneg32 (c i)) := by
  simp only [avx512.float_avx512.fmsub, lane, fneg32]
theorem double_sse_fmsub (fo : FOps) (a : Reg) (b : Reg) (c : Reg) (i : Nat) (hi : i < 2) :
    lane64 (avx512.double_sse.fmsub fo a b c) i = fo.fma64 (lane64 a i) (lane64 b i) (fneg64 (lane64 c i)) := by
  simp only [avx512.double_sse.fmsub, lane, fneg64]
theorem double_avx_fmsub (fo : FOps) (a : Reg) (b : Reg) (c : Reg) (i : Nat) (hi : i < 4) :
    lane64 (avx512.double_avx.fmsub fo a b c) i = fo.fma64 (lane64 a i) (lane64 b i) (fneg64 (lane64 c i)) := by
  simp only [avx512.double_avx.fmsub, lane, fneg64]
theorem double_avx512_fmsub (fo : FOps) (a : Reg) (b : Reg) (c : Reg) (i : Nat) (hi : i < 8) :
    lane64 (avx512.double_avx512.fmsub fo a b c) i = fo.fma64 (lane64 a i) (lane64 b i) (fneg64 (lane64 c i)) := by
  simp only [avx512.double_avx512.fmsub, lane, fneg64]
theorem float_sse_fnmadd (fo : FOps) (a : Reg) (b : Reg) (c : Reg) (i : Nat) (hi : i < 4) :
    (avx512.float_sse.fnmadd fo a b c) i = fo.fma32 (fneg32 (a i)) (b i) (c i) := by
  simp only [avx512.float_sse.fnmadd, lane, fneg32]
theorem float_avx_fnmadd (fo : FOps) (a : Reg) (b : Reg) (c : Reg) (i : Nat) (hi : i < 8) :
    (avx512.float_avx.fnmadd fo a b c) i = fo.fma32 (fneg32 (a i)) (b i) (c i) := by
  simp only [avx512.float_avx.fnmadd, lane, fneg32]
theorem float_avx512_fnmadd (fo : FOps) (a : Reg) (b : Reg) (c : Reg) (i : Nat) (hi : i < 16) :
    (avx512.float_avx512.fnmadd fo a b c) i = fo.fma32 (fneg32 (a i)) (b i) (c i) := by
  simp only [avx512.float_avx512.fnmadd, lane, fneg32]
theorem double_sse_fnmadd (fo : FOps) (a : Reg) (b : Reg) (c : Reg) (i : Nat) (hi : i < 2) :
    lane64 (avx512.double_sse.fnmadd fo a b c) i = fo.fma64 (fneg64 (lane64 a i)) (lane64 b i) (lane64 c i) := by
  simp only [avx512.double_sse.fnmadd, lane, fneg64]
theorem double_avx_fnmadd (fo : FOps) (a : Reg) (b : Reg) (c : Reg) (i : Nat) (hi : i < 4) :
    lane64 (avx512.double_avx.fnmadd fo a b c) i = fo.fma64 (fneg64 (lane64 a i)) (lane64 b i) (lane64 c i) := by
  simp only [avx512.double_avx.fnmadd, lane, fneg64]
theorem double_avx512_fnmadd (fo : FOps) (a : Reg) (b : Reg) (c : Reg) (i : Nat) (hi : i < 8) :
    lane64 (avx512.double_avx512.fnmadd fo a b c) i = fo.fma64 (fneg64 (lane64 a i)) (lane64 b i) (lane64 c i) := by
  simp only [avx512.double_avx512.fnmadd, lane, fneg64]
theorem int32_sse_min_vv (fo : FOps) (a : Reg) (b : Reg) (i : Nat) (hi : i < 4) :
    (avx512.int32_sse.min_vv a b) i = smin32 (a i) (b i) := by
  simp only [avx512.int32_sse.min_vv, lane]
theorem int64_sse_min_vv (fo : FOps) (a : Reg) (b : Reg) (i : Nat) (hi : i < 2) :
    lane64 (avx512.int64_sse.min_vv a b) i = smin64 (lane64 a i) (lane64 b i) := by
  simp only [avx512.int64_sse.min_vv, lane]
theorem float_sse_min_vv (fo : FOps) (a : Reg) (b : Reg) (i : Nat) (hi : i < 4) :
    (avx512.float_sse.min_vv fo a b) i = fo.min32 (a i) (b i) := by
  simp only [avx512.float_sse.min_vv, lane]
theorem double_sse_min_vv (fo : FOps) (a : Reg) (b : Reg) (i : Nat) (hi : i < 2) :
    lane64 (avx512.double_sse.min_vv fo a b) i = fo.min64 (lane64 a i) (lane64 b i) := by
  simp only [avx512.double_sse.min_vv, lane]
theorem int32_avx_min_vv (fo : FOps) (a : Reg) (b : Reg) (i : Nat) (hi : i < 8) :
    (avx512.int32_avx.min_vv a b) i = smin32 (a i) (b i) := by
  simp only [avx512.int32_avx.min_vv, lane]
theorem int64_avx_min_vv (fo : FOps) (a : Reg) (b : Reg) (i : Nat) (hi : i < 4) :
    lane64 (avx512.int64_avx.min_vv a b) i = smin64 (lane64 a i) (lane64 b i) := by
  simp only [avx512.int64_avx.min_vv, lane]
theorem float_avx_min_vv (fo : FOps) (a : Reg) (b : Reg) (i : Nat) (hi : i < 8) :
    (avx512.float_avx.min_vv fo a b) i = fo.min32 (a i) (b i) := by
  simp only [avx512.float_avx.min_vv, lane]
theorem double_avx_min_vv (fo : FOps) (a : Reg) (b : Reg) (i : Nat) (hi : i < 4) :
    lane64 (avx512.double_avx.min_vv fo a b) i = fo.min64 (lane64 a i) (lane64 b i) := by
  simp only [avx512.double_avx.min_vv, lane]
theorem int32_avx512_min_vv (fo : FOps) (a : Reg) (b : Reg) (i : Nat) (hi : i < 16) :
    (avx512.int32_avx512.min_vv a b) i = smin32 (a i) (b i) := by
  simp only [avx512.int32_avx512.min_vv, lane]
theorem int64_avx512_min_vv (fo : FOps) (a : Reg) (b : Reg) (i : Nat) (hi : i < 8) :
    lane64 (avx512.int64_avx512.min_vv a b) i = smin64 (lane64 a i) (lane64 b i) := by
  simp only [avx512.int64_avx512.min_vv, lane]
theorem float_avx512_min_vv (fo : FOps) (a : Reg) (b : Reg) (i : Nat) (hi : i < 16) :
    (avx512.float_avx512.min_vv fo a b) i = fo.min32 (a i) (b i) := by
  simp only [avx512.float_avx512.min_vv, lane]
theorem double_avx512_min_vv (fo : FOps) (a : Reg) (b : Reg) (i : Nat) (hi : i < 8) :
    lane64 (avx512.double_avx512.min_vv fo a b) i = fo.min64 (lane64 a i) (lane64 b i) := by
  simp only [avx512.double_avx512.min_vv, lane]
theorem int32_sse_max_vv (fo : FOps) (a : Reg) (b : Reg) (i : Nat) (hi : i < 4) :
    (avx512.int32_sse.max_vv a b) i = smax32 (a i) (b i) := by
  simp only [avx512.int32_sse.max_vv, lane]
theorem int64_sse_max_vv (fo : FOps) (a : Reg) (b : Reg) (i : Nat) (hi : i < 2) :
    lane64 (avx512.int64_sse.max_vv a b) i = smax64 (lane64 a i) (lane64 b i) := by
  simp only [avx512.int64_sse.max_vv, lane]
theorem float_sse_max_vv (fo : FOps) (a : Reg) (b : Reg) (i : Nat) (hi : i < 4) :
    (avx512.float_sse.max_vv fo a b) i = fo.max32 (a i) (b i) := by
  simp only [avx512.float_sse.max_vv, lane]
theorem double_sse_max_vv (fo : FOps) (a : Reg) (b : Reg) (i : Nat) (hi : i < 2) :
    lane64 (avx512.double_sse.max_vv fo a b) i = fo.max64 (lane64 a i) (lane64 b i) := by
  simp only [avx512.double_sse.max_vv, lane]
theorem int32_avx_max_vv (fo : FOps) (a : Reg) (b : Reg) (i : Nat) (hi : i < 8) :
    (avx512.int32_avx.max_vv a b) i = smax32 (a i) (b i) := by
  simp only [avx512.int32_avx.max_vv, lane]
theorem int64_avx_max_vv (fo : FOps) (a : Reg) (b : Reg) (i : Nat) (hi : i < 4) :
    lane64 (avx512.int64_avx.max_vv a b) i = smax64 (lane64 a i) (lane64 b i) := by
  simp only [avx512.int64_avx.max_vv, lane]
theorem float_avx_max_vv (fo : FOps) (a : Reg) (b : Reg) (i : Nat) (hi : i < 8) :
    (avx512.float_avx.max_vv fo a b) i = fo.max32 (a i) (b i) := by
  simp only [avx512.float_avx.max_vv, lane]
theorem double_avx_max_vv (fo : FOps) (a : Reg) (b : Reg) (i : Nat) (hi : i < 4) :
    lane64 (avx512.double_avx.max_vv fo a b) i = fo.max64 (lane64 a i) (lane64 b i) := by
  simp only [avx512.double_avx.max_vv, lane]
theorem int32_avx512_max_vv (fo : FOps) (a : Reg) (b : Reg) (i : Nat) (hi : i < 16) :
    (avx512.int32_avx512.max_vv a b) i = smax32 (a i) (b i) := by
  simp only [avx512.int32_avx512.max_vv, lane]
theorem int64_avx512_max_vv (fo : FOps) (a : Reg) (b : Reg) (i : Nat) (hi : i < 8) :
    lane64 (avx512.int64_avx512.max_vv a b) i = smax64 (lane64 a i) (lane64 b i) := by
  simp only [avx512.int64_avx512.max_vv, lane]
theorem float_avx512_max_vv (fo : FOps) (a : Reg) (b : Reg) (i : Nat) (hi : i < 16) :
    (avx512.float_avx512.max_vv fo a b) i = fo.max32 (a i) (b i) := by
  simp only [avx512.float_avx512.max_vv, lane]
theorem double_avx512_max_vv (fo : FOps) (a : Reg) (b : Reg) (i : Nat) (hi : i < 8) :
    lane64 (avx512.double_avx512.max_vv fo a b) i = fo.max64 (lane64 a i) (lane64 b i) := by
  simp only [avx512.double_avx512.max_vv, lane]

end Fastor.C08Ops.avx512
