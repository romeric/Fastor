import FastorModel.Model.Footprint
import FastorModel.Model.Kern3
import FastorModel.Proofs.FootprintInside
import FastorModel.Props.C01
import FastorModel.Props.C02
import FastorModel.Props.C03
import FastorModel.Props.C05
import FastorModel.Props.C06
import FastorModel.Props.C14
import FastorModel.Props.C04
import FastorModel.Props.C16
import FastorModel.Props.C19
import FastorModel.Props.C20
import FastorModel.Model.Inverse
import FastorModel.Props.C17
/-
# C07 — No operation touches memory outside its operands, for any shape or alignment

Property (properties.jsonl): every library operation reads only bytes belonging to its input tensors and writes
only bytes belonging to its output, for every shape (in particular sizes that are not multiples of the vector
width), and performs alignment-requiring accesses only on storage the library itself aligned.  Wrapping an
arbitrary, possibly unaligned external buffer and operating on it never faults and never reads or writes beyond the
wrapped extent; with runtime checks enabled an out-of-range index raises an error instead of accessing memory.  No
tensor operation that completes normally (other than conversion to std::vector and text output) allocates.

What is a theorem here and what is not.
* (a) **Footprints of the kernel models**: for the models of `_matmul`, `_tmatmul`, expression assignment and
  einsum (the ones tied to the code by the trace correspondences of C01 / C17 / C02 / C03: same store order, same
  read-set digests), every write offset is `< M*N` / `< n` (`*_writes_in_result`) and every operand offset read is
  inside the operand (`matmul_reads_in_operands`, `tmatmul_reads_in_operands`,
  `assign_reads_in_operands`, `einsum_reads_in_operands`) — for matmul / tmatmul this covers EVERY store event, final or
  intermediate (`matmul_reads_in_operands`, `matmul_read_sets_in_operands`: the sets whose digests the driver prints).
* (b) **Partial load / store helpers** (`Footprint.load3`, `store3`, `maskLoop`, `maskAvx`, `arrayToMask`,
  `memberMask`, `remainderMask`): exactly the enabled lanes are touched, in every `#if` branch; the two mask idioms
  agree; the remainder mask of the kernels enables exactly the first `N - N1` lanes, so a masked access at column
  `N1` of any row stays inside the row.  The non-AVX-512 fallbacks of the member `mask_load` / `mask_store` touch exactly the enabled lanes as well
  (`member_mask_fallback_lanes`; before the repair of the zeroing `mask_store` this was false — history in the design doc).
* (c) **Aligned flag**: an access carries the aligned flag only when `is_aligned()` is true, which only owning
  `Tensor` storage of a SIMD element type reports (never `TensorMap`, never a view, never with
  `FASTOR_DONT_ALIGN` / `FASTOR_DONT_VECTORISE`), at an element offset that is a multiple of the width `V`, which in
  bytes divides `FASTOR_MEMORY_ALIGNMENT_VALUE` (C06.vsize_dvd_alignment) — so the address is a multiple of the
  vector size (`aligned_access_address`).
* (d) **Bounds checks**: `flatIndex true` returns the error branch whenever some index is out of range after the
  negative wrap, and otherwise an offset inside the extent (`bounds_check_sound`, `bounds_check_complete`).
* NOT theorems — observed by K7 of `./check C07` (guard pages at every misalignment, canaries, allocation counter,
  sanitizer builds): "never faults", "never allocates", and the footprints of the float/double intrinsic
  specialisations (2x2…8x8 matmul, 3x3 transpose, norm, determinant, inverse …), which have no Lean model.
-/
namespace Fastor.C07
open Fastor Fastor.Footprint

/-! ## (b) partial load / store helpers -/

/-- every `#if` branch of the 3-lane loads touches exactly lanes 0, 1, 2 -/
theorem load3_eq (b : Branch) : load3 b = [0, 1, 2] := by cases b <;> decide
theorem store3_eq (b : Branch) : store3 b = [0, 1, 2] := by cases b <;> decide

theorem load3_lanes (b : Branch) (l : Nat) : l ∈ load3 b ↔ l < 3 := by
  rw [load3_eq]; simp only [List.mem_cons, List.mem_nil_iff, or_false]; omega

theorem store3_lanes (b : Branch) (l : Nat) : l ∈ store3 b ↔ l < 3 := by
  rw [store3_eq]; simp only [List.mem_cons, List.mem_nil_iff, or_false]; omega

/-- the scalar fallback of `maskload` / `maskstore`: lane `l` is touched iff `maska[V-1-l] == -1` -/
theorem maskLoop_mem (V : Nat) (m : List Int) (l : Nat) :
    l ∈ maskLoop V m ↔ l < V ∧ m.getD (V - 1 - l) 0 = -1 := by
  unfold maskLoop
  simp only [List.mem_filterMap, List.mem_range]
  constructor
  · rintro ⟨i, hi, h⟩
    split at h
    · rename_i hm
      obtain rfl := Option.some.inj h
      exact ⟨by omega, by rwa [(by omega : V - 1 - (V - i - 1) = i)]⟩
    · cases h
  · rintro ⟨hl, hm⟩
    exact ⟨V - 1 - l, by omega, by rw [if_pos hm, (by omega : V - (V - 1 - l) - 1 = l)]⟩

/-- the AVX intrinsic specialisations touch lane `l` iff the sign bit of `maska[V-1-l]` is set -/
theorem maskAvx_mem (V : Nat) (m : List Int) (hlen : m.length = V) (l : Nat) :
    l ∈ maskAvx V m ↔ l < V ∧ m.getD (V - 1 - l) 0 < 0 := by
  unfold maskAvx avxMaskLanes setLane
  simp only [List.mem_filter, List.mem_range, decide_eq_true_eq, hlen]

/-- for mask arrays holding only `0` and `-1` (all the kernels build) the loop and the intrinsics agree -/
theorem maskAvx_eq_maskLoop (V : Nat) (m : List Int) (hlen : m.length = V)
    (h01 : ∀ i, m.getD i 0 = 0 ∨ m.getD i 0 = -1) (l : Nat) :
    l ∈ maskAvx V m ↔ l ∈ maskLoop V m := by
  rw [maskAvx_mem V m hlen, maskLoop_mem]
  have := h01 (V - 1 - l)
  omega

/-- AVX-512 member `mask_load` / `mask_store`: lane `l` iff bit `l` -/
theorem memberMask_mem (V mask l : Nat) : l ∈ memberMask V mask ↔ l < V ∧ mask.testBit l = true := by
  simp [memberMask, kmaskLanes]

theorem getD_map_range {α : Type} (f : Nat → α) {n i : Nat} (hi : i < n) (d : α) :
    ((List.range n).map f).getD i d = f i := by
  rw [List.getD_eq_getElem?_getD, List.getElem?_map, List.getElem?_range hi]
  rfl

/-- `mask_to_array` followed by the reversed loop: lane `l` iff bit `l` — the non-AVX-512 fallbacks of the member
    `mask_load` and (since the repair that removed the zeroing of disabled lanes) `mask_store` touch exactly the
    enabled lanes, like the AVX-512 branch -/
theorem member_mask_fallback_lanes (V mask l : Nat) :
    (l ∈ memberMaskLoadFallback V mask ↔ l < V ∧ mask.testBit l = true) ∧
    (l ∈ memberMaskStoreFallback V mask ↔ l < V ∧ mask.testBit l = true) := by
  have key : l ∈ maskLoop V (maskToArray V mask) ↔ l < V ∧ mask.testBit l = true := by
    rw [maskLoop_mem]
    refine and_congr_right fun hl => ?_
    rw [maskToArray, getD_map_range _ (by omega), (by omega : V - (V - 1 - l) - 1 = l)]
    cases mask.testBit l <;> simp
  exact ⟨key, key⟩

theorem member_mask_fallback_eq_kmask (V mask l : Nat) :
    l ∈ memberMaskStoreFallback V mask ↔ l ∈ memberMask V mask := by
  rw [(member_mask_fallback_lanes V mask l).2, memberMask_mem]

/-- bit `l` of a mask accumulated by `c |= 1 << g(i)` over the `i` with `P i` -/
theorem testBit_foldl_or (P : Nat → Prop) [DecidablePred P] (g : Nat → Nat) (is : List Nat) (c l : Nat) :
    (is.foldl (fun c i => if P i then c ||| (1 <<< g i) else c) c).testBit l
      = (c.testBit l || is.any fun i => decide (P i) && decide (g i = l)) := by
  induction is generalizing c with
  | nil => simp
  | cons i is ih =>
    rw [List.foldl_cons, ih, List.any_cons]
    by_cases hP : P i
    · simp [hP, Nat.testBit_or, Nat.one_shiftLeft, Nat.testBit_two_pow, Bool.or_assoc]
    · simp [hP]

/-- **`array_to_mask` agrees with the reversed array convention**: bit `l` of the k-mask is set iff
    `maska[N-1-l] == -1` -/
theorem arrayToMask_testBit (N : Nat) (b : List Int) (l : Nat) (hl : l < N) :
    (arrayToMask N b).testBit l = decide (b.getD (N - 1 - l) 0 = -1) := by
  unfold arrayToMask
  rw [testBit_foldl_or, Nat.zero_testBit, Bool.false_or, Bool.eq_iff_iff, List.any_eq_true]
  simp only [List.mem_range, Bool.and_eq_true, decide_eq_true_eq]
  constructor
  · rintro ⟨i, hi, hb, rfl⟩
    rwa [(by omega : N - 1 - (N - i - 1) = i)]
  · intro h
    exact ⟨N - 1 - l, by omega, h, by omega⟩

theorem kmask_eq_maskLoop (V : Nat) (m : List Int) (l : Nat) :
    l ∈ memberMask V (arrayToMask V m) ↔ l ∈ maskLoop V m := by
  rw [memberMask_mem, maskLoop_mem]
  refine and_congr_right fun h1 => ?_
  rw [arrayToMask_testBit V m l h1, decide_eq_true_iff]

/-- the remainder mask of the masked kernels enables exactly the first `w = N - N1` lanes -/
theorem remainderMask_lanes (V w : Nat) (hw : w ≤ V) (l : Nat) :
    l ∈ maskLoop V (remainderMask V w) ↔ l < w := by
  rw [maskLoop_mem]
  constructor
  · rintro ⟨hl, h⟩
    rw [remainderMask, getD_map_range _ (by omega)] at h
    split at h <;> omega
  · intro hl
    refine ⟨by omega, ?_⟩
    rw [remainderMask, getD_map_range _ (by omega), if_neg (by omega)]

/-- **masked tail stays inside the row**: a masked access at column `N1 = N / V * V` of row `r < M`
    touches offsets `r*N + N1 + l` with `l < N - N1` only — all below `(r+1)*N ≤ M*N` -/
theorem masked_tail_in_extent (M N V r l : Nat) (hr : r < M)
    (hl : l ∈ maskLoop V (remainderMask V (N - N / V * V))) (hV : 0 < V) :
    r * N + N / V * V + l < M * N := by
  have hw : N - N / V * V ≤ V := by
    have := Nat.lt_div_mul_add (a := N) hV
    omega
  have h := (remainderMask_lanes V _ hw l).1 hl
  have h1 : (r + 1) * N ≤ M * N := Nat.mul_le_mul_right N hr
  rw [Nat.add_mul] at h1
  omega

/-! ## (d) bounds checks -/

/-- "in range after the negative wrap" (Python convention): `0 ≤ i < d` or `-d ≤ i < 0` -/
def InRange (d : Nat) (i : Int) : Prop := (0 ≤ i ∧ i < d) ∨ (i < 0 ∧ 0 ≤ (d : Int) + i)

def norm (d : Nat) (i : Int) : Nat := if i < 0 then ((d : Int) + i).toNat else i.toNat

/-- the `size_t` arithmetic of `idx < 0 ? M + idx : idx` followed by `i < M` decides exactly `InRange`, and
    yields the normalised position (extents below 2^63, `int` indices) -/
theorem wrapIdx_lt_iff (d : Nat) (i : Int) (hd : d < 2 ^ 63) (hi : -(2 ^ 31 : Int) ≤ i ∧ i < 2 ^ 31) :
    (wrapIdx d i < d ↔ InRange d i) ∧ (InRange d i → wrapIdx d i = norm d i) := by
  unfold wrapIdx InRange norm
  by_cases hneg : i < 0
  · rw [if_pos hneg, if_pos hneg]
    have h64 : (i % (2 ^ 64 : Int)).toNat = (i + 2 ^ 64).toNat := by omega
    rw [h64]
    generalize ht : (i + 2 ^ 64).toNat = t
    have htv : (t : Int) = i + 2 ^ 64 := by omega
    refine ⟨⟨fun h => Or.inr ⟨hneg, ?_⟩, ?_⟩, ?_⟩
    · omega
    · rintro (⟨h1, _⟩ | ⟨_, h2⟩)
      · omega
      · omega
    · rintro (⟨h1, _⟩ | ⟨_, h2⟩)
      · omega
      · omega
  · rw [if_neg hneg, if_neg hneg]
    refine ⟨⟨fun h => Or.inl ⟨by omega, by omega⟩, ?_⟩, fun _ => rfl⟩
    rintro (⟨_, h2⟩ | ⟨h1, _⟩)
    · omega
    · omega

theorem foldl_mul (l : List Nat) (a : Nat) : l.foldl (· * ·) a = a * l.foldl (· * ·) 1 := by
  induction l generalizing a with
  | nil => simp
  | cons x xs ih => rw [List.foldl_cons, List.foldl_cons, ih (a * x), ih (1 * x), Nat.one_mul, Nat.mul_assoc]

theorem rowMajor_lt (dims is : List Nat) (hlen : is.length = dims.length)
    (h : ∀ k, k < dims.length → is.getD k 0 < dims.getD k 0) : rowMajor dims is < dims.foldl (· * ·) 1 := by
  induction dims generalizing is with
  | nil => simp [rowMajor]
  | cons d ds ih =>
    cases is with
    | nil => simp at hlen
    | cons i is =>
      have hi : i < d := h 0 (Nat.succ_pos _)
      have hrest := ih is (Nat.succ.inj hlen) fun k hk => h (k + 1) (Nat.succ_lt_succ hk)
      rw [rowMajor, List.foldl_cons, Nat.one_mul, foldl_mul ds d]
      exact pos_lt hi hrest

theorem all_lt_iff (is dims : List Nat) (hlen : is.length = dims.length) :
    (List.zipWith (fun i d => decide (i < d)) is dims).all id = true ↔
      ∀ k, k < dims.length → is.getD k 0 < dims.getD k 0 := by
  induction dims generalizing is with
  | nil => simp
  | cons d ds ih =>
    cases is with
    | nil => simp at hlen
    | cons i is =>
      simp only [List.zipWith_cons_cons, List.all_cons, Bool.and_eq_true, id, decide_eq_true_eq,
        ih is (Nat.succ.inj hlen), List.length_cons, Nat.forall_lt_succ_left, List.getD_cons_zero,
        List.getD_cons_succ]

/-- **the test of `get_flat_index` passes iff every index is in range after the negative wrap**
    (extents below 2^63, `int` indices) -/
theorem check_iff (dims : List Nat) (idx : List Int) (hlen : idx.length = dims.length)
    (hd : ∀ k, k < dims.length → dims.getD k 0 < 2 ^ 63)
    (hi : ∀ k, k < dims.length → -(2 ^ 31 : Int) ≤ idx.getD k 0 ∧ idx.getD k 0 < 2 ^ 31) :
    (∀ k, k < dims.length → (List.zipWith wrapIdx dims idx).getD k 0 < dims.getD k 0) ↔
      ∀ k, k < dims.length → InRange (dims.getD k 0) (idx.getD k 0) := by
  refine forall₂_congr fun k hk => ?_
  have hw : (List.zipWith wrapIdx dims idx).getD k 0 = wrapIdx (dims.getD k 0) (idx.getD k 0) := by
    simp [List.getD_eq_getElem?_getD, hk, hlen ▸ hk]
  rw [hw, (wrapIdx_lt_iff _ _ (hd k hk) (hi k hk)).1]

/-- **bounds check, soundness**: with checks on, if some index is out of range (after the negative wrap) the
    error branch is taken — no offset is produced, so no element is accessed -/
theorem bounds_check_sound (dims : List Nat) (idx : List Int) (hlen : idx.length = dims.length)
    (hd : ∀ k, k < dims.length → dims.getD k 0 < 2 ^ 63)
    (hi : ∀ k, k < dims.length → -(2 ^ 31 : Int) ≤ idx.getD k 0 ∧ idx.getD k 0 < 2 ^ 31)
    (k : Nat) (hk : k < dims.length) (hbad : ¬ InRange (dims.getD k 0) (idx.getD k 0)) :
    flatIndex true dims idx = .err := by
  unfold flatIndex
  rw [if_pos]
  rw [Bool.true_and, Bool.not_eq_true', ← Bool.not_eq_true, all_lt_iff _ _ (by simp [hlen]),
    check_iff dims idx hlen hd hi]
  exact fun h => hbad (h k hk)

/-- **bounds check, completeness + in-extent**: when every index is in range the check passes and the offset is
    the row-major offset of the normalised indices, which lies inside the tensor -/
theorem bounds_check_complete (chk : Bool) (dims : List Nat) (idx : List Int) (hlen : idx.length = dims.length)
    (hne : dims ≠ [])
    (hd : ∀ k, k < dims.length → dims.getD k 0 < 2 ^ 63)
    (hi : ∀ k, k < dims.length → -(2 ^ 31 : Int) ≤ idx.getD k 0 ∧ idx.getD k 0 < 2 ^ 31)
    (hin : ∀ k, k < dims.length → InRange (dims.getD k 0) (idx.getD k 0)) :
    ∃ f, flatIndex chk dims idx = .ok f ∧ f < dims.foldl (· * ·) 1 ∧
      f = rowMajor dims (List.zipWith wrapIdx dims idx) := by
  have hlen' : (List.zipWith wrapIdx dims idx).length = dims.length := by simp [hlen]
  have hall := (check_iff dims idx hlen hd hi).2 hin
  refine ⟨_, ?_, rowMajor_lt dims _ hlen' hall, rfl⟩
  unfold flatIndex
  rw [if_neg]
  rw [(all_lt_iff _ _ hlen').2 hall]
  simp

/-- `get_mem_index` with checks: error iff the flat index is negative or `≥ size()` -/
theorem memIndex_sound (size : Nat) (i : Int) (hi : -(2 ^ 63 : Int) ≤ i ∧ i < 2 ^ 63) (hs : size < 2 ^ 63) :
    (memIndex true size i = .err ↔ (i < 0 ∨ (size : Int) ≤ i)) ∧
    (∀ f, memIndex true size i = .ok f → f < size ∧ (f : Int) = i) := by
  unfold memIndex
  simp only [Bool.true_and]
  by_cases h0 : 0 ≤ i
  · have hu : (i % (2 ^ 64 : Int)).toNat = i.toNat := by omega
    rw [hu]
    by_cases h1 : i.toNat < size
    · simp [h0, h1]; omega
    · simp [h0, h1]; omega
  · simp [h0]; omega

/-- non-vacuity: a 3x4 tensor, index (-1, 3) is in range and denotes offset 11; (-4, 3) is rejected -/
example : flatIndex true [3, 4] [-1, 3] = .ok 11 ∧ flatIndex true [3, 4] [-4, 3] = .err ∧
    flatIndex true [3, 4] [2, 4] = .err := by decide

/-! ## (c) the aligned flag -/

/-- only owning tensors of a SIMD element type, in a build that aligns and vectorises, report `is_aligned()` -/
theorem isAligned_only_owned (b : Build) (simd : Bool) (st : Storage) (h : isAligned b simd st = true) :
    st = .tensor ∧ b.dontAlign = false ∧ b.dontVectorise = false ∧ simd = true := by
  cases st <;> simp [isAligned] at h ⊢
  exact ⟨h.1.1, h.1.2, h.2⟩

/-- `TensorMap` (wrapped external buffers) and views never carry the flag -/
theorem isAligned_map_false (b : Build) (simd : Bool) :
    isAligned b simd .tensorMap = false ∧ isAligned b simd .view = false ∧ isAligned b simd .fixedView = false ∧
    isAligned b simd .filterView = false := by simp [isAligned]

/-- a vector iteration of the `ROUND_DOWN` loop starts at a multiple of `V` and its `V` lanes lie below `n` -/
theorem vec_iter {n V i : Nat} (hV : 0 < V) (hi : i ∈ forRange 0 (n / V * V) V) : V ∣ i ∧ i + V ≤ n := by
  have h1 := add_le_of_mem_forRange (div_mul_dvd n V) hi
  have h2 := Nat.div_mul_le_self n V
  obtain ⟨t, rfl, _⟩ := (mem_forRange hV).1 hi
  exact ⟨⟨t, by rw [Nat.zero_add, Nat.mul_comm]⟩, by omega⟩

/-- the accesses of a vector loop with flag `flag` followed by a scalar tail: inside the `n` elements, and flagged only
    in the vector loop, at multiples of `V` -/
theorem vecTail_access {n V : Nat} (hV : 0 < V) {flag w : Bool} {a : Access}
    (ha : a ∈ (forRange 0 (n / V * V) V).map (fun i => (⟨i, V, flag, w⟩ : Access)) ++
      (forRange (forExit 0 (n / V * V) V) n 1).map (fun i => ⟨i, 1, false, w⟩)) :
    a.off + a.lanes ≤ n ∧ (a.aligned = true → flag = true ∧ V ∣ a.off) := by
  rcases List.mem_append.1 ha with h | h
  · obtain ⟨i, hi, rfl⟩ := List.mem_map.1 h
    exact ⟨(vec_iter hV hi).2, fun hf => ⟨hf, (vec_iter hV hi).1⟩⟩
  · obtain ⟨i, hi, rfl⟩ := List.mem_map.1 h
    obtain ⟨t, _, hlt⟩ := (mem_forRange Nat.one_pos).1 hi
    exact ⟨hlt, nofun⟩

theorem reverse_access {n V : Nat} (hV : 0 < V) {flag : Bool} {a : Access} (ha : a ∈ reverseAccesses n V flag) :
    a.off + a.lanes ≤ n ∧ (a.aligned = true → flag = true ∧ V ∣ a.off) := by
  obtain ⟨i, hi, h⟩ := List.mem_flatMap.1 ha
  obtain ⟨hdvd, hle⟩ := vec_iter hV hi
  simp only [List.mem_cons, List.not_mem_nil, or_false] at h
  rcases h with rfl | rfl
  · exact ⟨by show n - i - V + V ≤ n; omega, nofun⟩
  · exact ⟨hle, fun hf => ⟨hf, hdvd⟩⟩

/-- **aligned accesses only on owning storage, at multiples of the width, inside the extent** — the assignment
    loops, the compound-assignment / reduction loads and `reverse()` -/
theorem aligned_only_on_owned (b : Build) (simd : Bool) (st : Storage) (n V : Nat) (hV : 0 < V) (a : Access)
    (ha : a ∈ assignStores n V (isAligned b simd st) ++ flaggedLoads n V (isAligned b simd st) ++
            leafLoads n V ++ reverseAccesses n V (isAligned b simd st))
    (hal : a.aligned = true) :
    st = .tensor ∧ b.dontAlign = false ∧ b.dontVectorise = false ∧ V ∣ a.off ∧ a.off + a.lanes ≤ n := by
  -- the flag every one of these loops passes on is `is_aligned()` of the tensor, or `false` (leaf loads)
  obtain ⟨flag, hflag, hle, h⟩ : ∃ flag, (flag = true → isAligned b simd st = true) ∧ a.off + a.lanes ≤ n ∧
      (a.aligned = true → flag = true ∧ V ∣ a.off) := by
    simp only [List.mem_append] at ha
    rcases ha with ((ha | ha) | ha) | ha
    · exact ⟨_, id, vecTail_access hV ha⟩
    · exact ⟨_, id, vecTail_access hV ha⟩
    · exact ⟨false, nofun, vecTail_access hV ha⟩
    · exact ⟨_, id, reverse_access hV ha⟩
  obtain ⟨hf, hdvd⟩ := h hal
  obtain ⟨h1, h2, h3, _⟩ := isAligned_only_owned b simd st (hflag hf)
  exact ⟨h1, h2, h3, hdvd, hle⟩

theorem flagged_accesses_in_extent (n V : Nat) (hV : 0 < V) (flag : Bool) (a : Access)
    (ha : a ∈ assignStores n V flag ++ flaggedLoads n V flag ++ reverseAccesses n V flag) :
    a.off + a.lanes ≤ n := by
  simp only [List.mem_append] at ha
  rcases ha with (ha | ha) | ha
  · exact (vecTail_access hV ha).1
  · exact (vecTail_access hV ha).1
  · exact (reverse_access hV ha).1

/-- **the address of an aligned access is a multiple of the vector size**: base aligned to the alignment value
    `A`, vector bytes `V*sz` dividing `A` (C06.vsize_dvd_alignment), element offset a multiple of `V` -/
theorem aligned_access_address (base A V sz off : Nat) (hbase : A ∣ base) (hfit : V * sz ∣ A) (hoff : V ∣ off) :
    V * sz ∣ base + off * sz := by
  obtain ⟨q, rfl⟩ := hoff
  exact Nat.dvd_add (Nat.dvd_trans hfit hbase) ⟨q, Nat.mul_right_comm V q sz⟩

/-- `aligned_access_address` with the configuration ladder put in: for every compiler predefine set, element size 4 or 8 and
    extent, a store of the width chosen by the library at a multiple of that width from tensor storage is aligned -/
theorem aligned_access_address_ladder (p : Predef) (sz N base off : Nat) (hsz : C06.PrimSize sz)
    (hbase : p.alignment ∣ base) (hoff : p.toCfg.vsize sz N ∣ off) :
    p.toCfg.vsize sz N * sz ∣ base + off * sz :=
  aligned_access_address base p.alignment _ sz off hbase (C06.vsize_dvd_alignment p sz N hsz) hoff

/-- non-vacuity: an owning float tensor of 11 elements at width 4 issues aligned stores at 0 and 4 (and no other) -/
example : (assignStores 11 4 (isAligned ⟨false, false⟩ true .tensor)).filter (·.aligned)
    = [⟨0, 4, true, true⟩, ⟨4, 4, true, true⟩] := by decide
example : (assignStores 11 4 (isAligned ⟨false, false⟩ true .tensorMap)).filter (·.aligned) = [] := by decide

/-! ## (a) footprints of the kernel models -/

variable {R : Type} [CommSemiring R]

/-- **matmul writes stay inside the result** (restated from C01.matmul_exact: every position `≥ M*N` keeps its
    initial contents, whatever they were) -/
theorem matmul_writes_in_result (cfg : Cfg) (sz M K N : Nat) (hsz : sz = 4 ∨ sz = 8 ∨ sz = 16) (hN : N < 2 ^ 64)
    (hob : ∀ x, cfg.outerBlock = some x → 0 < x) (hib : ∀ x, cfg.innerBlock = some x → 0 < x)
    (a b c₀ : Nat → R) (p : Nat) (hp : M * N ≤ p) :
    applyWrites (kernelWrites N (Matmul.val a b K N) (Matmul.kernel cfg sz M K N).2.2) c₀ p = c₀ p :=
  (C01.matmul_exact cfg sz M K N hsz hN hob hib a b c₀).2 p hp

/-- the operand offsets a matmul store event reads (the inner functions of `Matmul.readsA` / `readsB`, whose
    sorted digests the driver prints as RDA / RDB and the harness measures on the real `_matmul`) -/
def eventReadsA (K : Nat) (e : St) : List Nat := (List.range e.kk).map fun k => e.r * K + k
def eventReadsB (N : Nat) (e : St) : List Nat := (List.range e.kk).map fun k => k * N + e.c
theorem readsA_eq (K : Nat) (segs : List Seg) :
    Matmul.readsA K segs = segs.flatMap fun s => s.events.flatMap (eventReadsA K) := rfl
theorem readsB_eq (N : Nat) (segs : List Seg) :
    Matmul.readsB N segs = segs.flatMap fun s => s.events.flatMap (eventReadsB N) := rfl
/-- the same for the triangular kernels: `k` runs over the clipped range `[k0, kk)` -/
def teventReadsA (K : Nat) (e : St) : List Nat := (List.range' e.k0 (e.kk - e.k0)).map fun k => e.r * K + k
def teventReadsB (N : Nat) (e : St) : List Nat := (List.range' e.k0 (e.kk - e.k0)).map fun k => k * N + e.c
theorem treadsA_eq (K : Nat) (segs : List Seg) :
    Tmatmul.readsA K segs = segs.flatMap fun s => s.events.flatMap (teventReadsA K) := rfl
theorem treadsB_eq (N : Nat) (segs : List Seg) :
    Tmatmul.readsB N segs = segs.flatMap fun s => s.events.flatMap (teventReadsB N) := rfl

theorem kernel_preOK (cfg : Cfg) (sz M K N : Nat) :
    Matmul.AllSegs (Matmul.PreOK K) (Matmul.kernel cfg sz M K N).2.2 := by
  unfold Matmul.kernel
  cases Matmul.dispatch cfg false true sz M K N with
  | matvec => exact Matmul.allSegs_matvec M _
  | smallN => exact Matmul.allSegs_smallN _ M N _
  | base => exact Matmul.allSegs_base M N _ _
  | baseMasked => exact Matmul.allSegs_baseMasked _ M N _ _
  | tiny => exact Matmul.allSegs_tiny M N _
  | nonPrimitive => exact Matmul.allSegs_nonPrimitive M N
  | spec => exact Matmul.allSegs_nonPrimitive M N

/-- **matmul reads stay inside the operands — every store event**, final or intermediate (partial sums of the
    `M % 4` remainder blocks and of `_matvecmul`, spilled lanes of the small-N kernels): for all shapes,
    configurations, block sizes, every operand offset the model reads is `< M*K` resp. `< K*N`. -/
theorem matmul_reads_in_operands (cfg : Cfg) (sz M K N : Nat) (hsz : sz = 4 ∨ sz = 8 ∨ sz = 16)
    (hN : N < 2 ^ 64) (hob : ∀ x, cfg.outerBlock = some x → 0 < x) (hib : ∀ x, cfg.innerBlock = some x → 0 < x)
    (s : Seg) (hs : s ∈ (Matmul.kernel cfg sz M K N).2.2) (e : St) (he : e ∈ s.events) :
    (∀ x ∈ eventReadsA K e, x < M * K) ∧ (∀ x ∈ eventReadsB N e, x < K * N) := by
  have h := Matmul.event_in_grid (C01.kernel_fills cfg sz M K N hsz hN hob hib) (fun e h => Nat.le_of_eq h.2.1)
    (kernel_preOK cfg sz M K N) hs he
  constructor <;> intro x hx <;> obtain ⟨k, hk, rfl⟩ := List.mem_map.1 hx
  · exact (Matmul.reads_in_operands h (List.mem_range.1 hk)).1
  · exact (Matmul.reads_in_operands h (List.mem_range.1 hk)).2

theorem forall_mem_reads {f : St → List Nat} {Q : Nat → Prop} {segs : List Seg}
    (h : ∀ s ∈ segs, ∀ e ∈ s.events, ∀ x ∈ f e, Q x) : ∀ x ∈ segs.flatMap fun s => s.events.flatMap f, Q x := by
  intro x hx
  obtain ⟨s, hs, hx⟩ := List.mem_flatMap.1 hx
  obtain ⟨e, he, hx⟩ := List.mem_flatMap.1 hx
  exact h s hs e he x hx

/-- the statement about the sets the driver prints (RDA / RDB): every element of `Matmul.readsA` / `readsB` of the
    selected kernel is inside the operand -/
theorem matmul_read_sets_in_operands (cfg : Cfg) (sz M K N : Nat) (hsz : sz = 4 ∨ sz = 8 ∨ sz = 16)
    (hN : N < 2 ^ 64) (hob : ∀ x, cfg.outerBlock = some x → 0 < x) (hib : ∀ x, cfg.innerBlock = some x → 0 < x) :
    (∀ x ∈ Matmul.readsA K (Matmul.kernel cfg sz M K N).2.2, x < M * K) ∧
    (∀ x ∈ Matmul.readsB N (Matmul.kernel cfg sz M K N).2.2, x < K * N) :=
  readsA_eq .. ▸ readsB_eq .. ▸
  ⟨forall_mem_reads fun s hs e he => (matmul_reads_in_operands cfg sz M K N hsz hN hob hib s hs e he).1,
    forall_mem_reads fun s hs e he => (matmul_reads_in_operands cfg sz M K N hsz hN hob hib s hs e he).2⟩

/-- **tmatmul writes stay inside the result** (from C17.tmatmul_exact) -/
theorem tmatmul_writes_in_result (cfg : Cfg) (lt rt : Tmatmul.UpLo) (sz M K N : Nat) (hsz : sz = 4 ∨ sz = 8 ∨ sz = 16)
    (hob : ∀ x, cfg.outerBlock = some x → 0 < x) (hib : ∀ x, cfg.innerBlock = some x → 0 < x)
    (a b c₀ : Nat → R) (ha : Tmatmul.TriA lt K a) (hb : Tmatmul.TriB rt N b) (p : Nat) (hp : M * N ≤ p) :
    applyWrites (kernelWrites N (Tmatmul.tval a b K N) (Tmatmul.tkernel cfg lt rt sz M K N).2.2) c₀ p = c₀ p :=
  (C17.tmatmul_exact cfg lt rt sz M K N hsz hob hib a b c₀ ha hb).2 p hp

theorem tkernel_preOK (cfg : Cfg) (lt rt : Tmatmul.UpLo) (sz M K N : Nat) :
    Matmul.AllSegs (Matmul.PreOK K) (Tmatmul.tkernel cfg lt rt sz M K N).2.2 := by
  unfold Tmatmul.tkernel
  cases Tmatmul.tdispatch cfg true sz N with
  | base => exact Tmatmul.allSegs_tbase lt rt M N _ _
  | baseMasked => exact Tmatmul.allSegs_tbaseMasked lt rt _ M N _ _
  | nonPrimitive => exact Tmatmul.allSegs_tnonPrimitive lt rt M N

/-- **tmatmul reads stay inside the operands — every store event**: the clipped `k` range `[k0, kk)` of every
    final event lies in `[0, K)`, and the intermediate events (partial sums of the unclipped remainder rows) re-read
    a prefix; so every offset `a[r*K+k]`, `b[k*N+c]` the model reads is inside its operand -/
theorem tmatmul_reads_in_operands (cfg : Cfg) (lt rt : Tmatmul.UpLo) (sz M K N : Nat)
    (hsz : sz = 4 ∨ sz = 8 ∨ sz = 16)
    (hob : ∀ x, cfg.outerBlock = some x → 0 < x) (hib : ∀ x, cfg.innerBlock = some x → 0 < x)
    (s : Seg) (hs : s ∈ (Tmatmul.tkernel cfg lt rt sz M K N).2.2) (e : St) (he : e ∈ s.events) :
    (∀ x ∈ teventReadsA K e, x < M * K) ∧ (∀ x ∈ teventReadsB N e, x < K * N) := by
  have h := Matmul.event_in_grid (C17.tkernel_fills cfg lt rt sz M K N hsz hob hib) (fun e h => h.1)
    (tkernel_preOK cfg lt rt sz M K N) hs he
  constructor <;> intro x hx <;> obtain ⟨k, hk, rfl⟩ := List.mem_map.1 hx <;>
    have hk := List.mem_range'_1.1 hk
  · exact (Matmul.reads_in_operands h (by omega)).1
  · exact (Matmul.reads_in_operands h (by omega)).2

theorem tmatmul_read_sets_in_operands (cfg : Cfg) (lt rt : Tmatmul.UpLo) (sz M K N : Nat)
    (hsz : sz = 4 ∨ sz = 8 ∨ sz = 16)
    (hob : ∀ x, cfg.outerBlock = some x → 0 < x) (hib : ∀ x, cfg.innerBlock = some x → 0 < x) :
    (∀ x ∈ Tmatmul.readsA K (Tmatmul.tkernel cfg lt rt sz M K N).2.2, x < M * K) ∧
    (∀ x ∈ Tmatmul.readsB N (Tmatmul.tkernel cfg lt rt sz M K N).2.2, x < K * N) :=
  treadsA_eq .. ▸ treadsB_eq .. ▸
  ⟨forall_mem_reads fun s hs e he => (tmatmul_reads_in_operands cfg lt rt sz M K N hsz hob hib s hs e he).1,
    forall_mem_reads fun s hs e he => (tmatmul_reads_in_operands cfg lt rt sz M K N hsz hob hib s hs e he).2⟩

/-- non-vacuity: a shape whose kernel has intermediate events (7 rows: a 3-row remainder block storing partial sums) -/
example : ((Matmul.kernel ⟨.sse, false, false, none, none⟩ 4 7 3 9).2.2.flatMap (·.pre)).length > 0 := by decide

/-- **expression assignment reads stay inside the operands**: the vector body reads `i … i+V-1` for `i` a multiple
    of `V` below `n / V * V`, the scalar tail reads `i < n` — every position `< n`, for every `n` and `V > 0` -/
theorem assign_reads_in_operands (n V : Nat) (hV : 0 < V) (p : Nat) (hp : p ∈ assignReadPositions n V) : p < n := by
  unfold assignReadPositions at hp
  rcases List.mem_append.1 hp with h | h
  · obtain ⟨i, hi, h2⟩ := List.mem_flatMap.1 h
    obtain ⟨l, hl, rfl⟩ := List.mem_map.1 h2
    have := (vec_iter hV hi).2
    have := List.mem_range.1 hl
    omega
  · obtain ⟨t, _, hlt⟩ := (mem_forRange Nat.one_pos).1 h
    exact hlt

/-- conversely every operand position `< n` is read (nothing is skipped by the remainder logic) -/
theorem assign_reads_cover (n V : Nat) (hV : 0 < V) (p : Nat) (hp : p < n) : p ∈ assignReadPositions n V := by
  unfold assignReadPositions
  by_cases h : p < n / V * V
  · obtain ⟨i, hi, h1, h2⟩ := (forRange_cover (div_mul_dvd n V) p).2 ⟨Nat.zero_le _, h⟩
    exact List.mem_append_left _ (List.mem_flatMap.2
      ⟨i, hi, List.mem_map.2 ⟨p - i, List.mem_range.2 (by omega), Nat.add_sub_cancel' h1⟩⟩)
  · rw [forExit_div_mul hV]
    exact List.mem_append_right _ ((mem_forRange Nat.one_pos).2 ⟨p - n / V * V, by omega, hp⟩)

/-- **einsum reads stay inside the operands** (restated from C03.operand_offsets_in_range) -/
theorem einsum_reads_in_operands (p : Einsum.Pair) (hI : p.I.length = p.dI.length) (hJ : p.J.length = p.dJ.length)
    (hcons : Einsum.Consistent p.cat p.catDims) (σ : List Nat) (hσ : σ ∈ Einsum.assignments p.loopDims 1) :
    Einsum.flatAt p.dI (Einsum.posIn p.cat p.I) σ < Einsum.prod p.dI ∧
    Einsum.flatAt p.dJ (Einsum.posIn p.cat p.J) σ < Einsum.prod p.dJ :=
  let h := C03.operand_offsets_in_range p hI hJ hcons σ hσ
  ⟨h.2.2.1, h.2.2.2⟩

/-- non-vacuity: 11 elements at width 4 — the read positions are exactly 0..10 -/
example : assignReadPositions 11 4 = [0, 1, 2, 3, 4, 5, 6, 7, 8, 9, 10] := by decide


/-! ## footprints of the view-write model (C05, Model/ViewWrite.lean) -/

open Fastor.ViewWrite in
/-- **1-D views write inside the parent tensor and read inside the right-hand side**: when the view selects
    elements of a tensor of `n` elements (`k*step + first < n` for `k < ext` — what FASTOR_BOUNDS_CHECK asserts), every
    lane of every iteration (vector body, strided read-modify-write route, scalar tail; every power-of-two width,
    both settings of FASTOR_USE_VECTORISED_EXPR_ASSIGN) stores at a position `< n` and takes a right-hand-side
    element `< ext` -/
theorem view1d_footprint (e : Nat) (he : e ≤ 64) (vea : Bool) (a : Ax) (hn : a.ext < 2 ^ 64) (n : Nat)
    (hin : ∀ k < a.ext, k * a.step + a.first < n) (l : Nat × Nat)
    (hl : l ∈ lanesOf (linIters (2 ^ e) vea a)) : l.1 < n ∧ l.2 < a.ext := by
  unfold linIters at hl
  rw [seg_lanes e he vea .rmw 0 0 a hn] at hl
  obtain ⟨k, hk, rfl⟩ := List.mem_map.1 hl
  have hk' := List.mem_range.1 hk
  exact ⟨by have := hin k hk'; simpa using this, by simpa using hk'⟩

open Fastor.ViewWrite in
/-- **2-D views**: rows `step0*i + first0 < M`, columns `k*step1 + first1 < N` ⇒ every store is below `M*N` and every
    right-hand-side element read is below `ext0*ext1` -/
theorem view2d_footprint (e : Nat) (he : e ≤ 64) (vea : Bool) (M N : Nat) (a0 a1 : Ax) (hn : a1.ext < 2 ^ 64)
    (hrow : ∀ i < a0.ext, a0.step * i + a0.first < M) (hcol : ∀ k < a1.ext, k * a1.step + a1.first < N)
    (l : Nat × Nat) (hl : l ∈ lanesOf (rowIters (2 ^ e) vea N a0 a1)) :
    l.1 < M * N ∧ l.2 < a0.ext * a1.ext := by
  rw [C05.row_lanes e he vea N a0 a1 hn] at hl
  obtain ⟨i, hi, hl⟩ := List.mem_flatMap.1 hl
  obtain ⟨k, hk, rfl⟩ := List.mem_map.1 hl
  have hi' := List.mem_range.1 hi
  have hk' := List.mem_range.1 hk
  exact ⟨pos_lt (hrow i hi') (hcol k hk'), pos_lt hi' hk'⟩

/-- non-vacuity: `A(seq(1,6,2))` on 7 elements, and a 2x3 block with column step 2 of a 3x7 matrix -/
example : ∀ k < (⟨1, 2, 3⟩ : ViewWrite.Ax).ext, k * (⟨1, 2, 3⟩ : ViewWrite.Ax).step + (⟨1, 2, 3⟩ : ViewWrite.Ax).first < 7 := by decide
example : (∀ i < (⟨1, 1, 2⟩ : ViewWrite.Ax).ext, (⟨1, 1, 2⟩ : ViewWrite.Ax).step * i + (⟨1, 1, 2⟩ : ViewWrite.Ax).first < 3) ∧
    (∀ k < (⟨1, 2, 3⟩ : ViewWrite.Ax).ext, k * (⟨1, 2, 3⟩ : ViewWrite.Ax).step + (⟨1, 2, 3⟩ : ViewWrite.Ax).first < 7) := by decide


/-! ## footprints of the fixed-size intrinsic kernels (Model/Kern3.lean) -/

section K3
open Fastor.Kern3

def exactly (L : List Nat) (n : Nat) : Bool := L.all (· < n) && (List.range n).all (· ∈ L)

theorem exactly_iff (L : List Nat) (n : Nat) : exactly L n = true ↔ ∀ p, p ∈ L ↔ p < n := by
  unfold exactly
  simp only [Bool.and_eq_true, List.all_eq_true, decide_eq_true_eq, List.mem_range]
  exact ⟨fun h p => ⟨h.1 p, h.2 p⟩, fun h => ⟨fun p hp => (h p).1 hp, fun p hp => (h p).2 hp⟩⟩

/-- the three `#if` branches of the 3-lane helpers touch the same lanes (`load3_eq`, `store3_eq`), so a kernel built
    from them is the same list of accesses in every branch -/
theorem ld3_branch (br : Branch) : ld3 br = ld3 .sse := by
  funext o off; rw [ld3, ld3, load3_eq, load3_eq]
theorem st3_branch (br : Branch) : st3 br = st3 .sse := by
  funext off; rw [st3, st3, store3_eq, store3_eq]

/-- **`_transpose<float,3,3>`** (every `#if` branch of the helpers, SSE and AVX2 paths): reads exactly `a[0..8]`,
    writes exactly `out[0..8]` -/
theorem transpose33_footprint (br : Branch) (avx2 : Bool) :
    (∀ p, p ∈ offsets (transpose33 br avx2) 0 false ↔ p < 9) ∧
    (∀ p, p ∈ offsets (transpose33 br avx2) 2 true ↔ p < 9) := by
  unfold transpose33
  rw [ld3_branch, st3_branch]
  refine ⟨(exactly_iff _ _).1 ?_, (exactly_iff _ _).1 ?_⟩ <;> cases avx2 <;> decide

/-- the code before the repair read `a[9..]`… and wrote `out[9]` (history; this is F10) -/
theorem transpose33_before_counterexample :
    9 ∈ offsets transpose33_before 0 false ∧ 9 ∈ offsets transpose33_before 2 true := by decide

/-- **`_matmul<T,3,3,3>`**: reads exactly `a[0..8]`, `b[0..8]`, writes exactly `out[0..8]`; the 4-lane stores at
    stride 3 spill one lane into the next row, and the store that owns a cell is the last one to write it -/
theorem matmul333_footprint (br : Branch) :
    (∀ p, p ∈ offsets (matmul333 br) 0 false ↔ p < 9) ∧ (∀ p, p ∈ offsets (matmul333 br) 1 false ↔ p < 9) ∧
    (∀ p, p ∈ offsets (matmul333 br) 2 true ↔ p < 9) ∧ (∀ p, p < 9 → lastWriter (matmul333 br) p = some (p / 3)) := by
  unfold matmul333
  rw [ld3_branch, st3_branch]
  refine ⟨(exactly_iff _ _).1 ?_, (exactly_iff _ _).1 ?_, (exactly_iff _ _).1 ?_, ?_⟩ <;> decide

theorem matvec331_footprint (br : Branch) :
    (∀ p, p ∈ offsets (matvec331 br) 0 false ↔ p < 9) ∧ (∀ p, p ∈ offsets (matvec331 br) 1 false ↔ p < 3) ∧
    (∀ p, p ∈ offsets (matvec331 br) 2 true ↔ p < 3) := by
  unfold matvec331
  rw [ld3_branch]
  refine ⟨(exactly_iff _ _).1 ?_, (exactly_iff _ _).1 ?_, (exactly_iff _ _).1 ?_⟩ <;> decide

/-- `_norm<·,9>`, `_trace<·,3,3>` (reads the diagonal only, or the whole matrix in the float kernel),
    `_det<·,3,3>`, `_doublecontract<·,3,3>`: all reads inside the 9 elements -/
theorem small_kernels_footprint :
    (∀ p, p ∈ offsets norm9f 0 false ↔ p < 9) ∧ (∀ p, p ∈ offsets norm9d 0 false ↔ p < 9) ∧
    (∀ p, p ∈ offsets trace33f 0 false ↔ p < 9) ∧ (∀ p ∈ offsets trace33d 0 false, p < 9) ∧
    (∀ p, p ∈ offsets det33 0 false ↔ p < 9) ∧
    (∀ p, p ∈ offsets dc33f 0 false ↔ p < 9) ∧ (∀ p, p ∈ offsets dc33f 1 false ↔ p < 9) ∧
    (∀ p, p ∈ offsets dc33d 0 false ↔ p < 9) ∧ (∀ p, p ∈ offsets dc33d 1 false ↔ p < 9) := by
  refine ⟨(exactly_iff _ _).1 ?_, (exactly_iff _ _).1 ?_, (exactly_iff _ _).1 ?_, ?_, (exactly_iff _ _).1 ?_,
    (exactly_iff _ _).1 ?_, (exactly_iff _ _).1 ?_, (exactly_iff _ _).1 ?_, (exactly_iff _ _).1 ?_⟩ <;> decide


/-- the whole-vector kernels (2x2, 4x4) and the double 3x3 transpose in its three widths: exactly their operands -/
theorem whole_vector_kernels_footprint :
    (∀ vw, vw = 2 ∨ vw = 4 ∨ vw = 8 → (∀ p, p ∈ offsets (transpose33d vw) 0 false ↔ p < 9) ∧
      (∀ p, p ∈ offsets (transpose33d vw) 2 true ↔ p < 9)) ∧
    (∀ p, p ∈ offsets unary4f 0 false ↔ p < 4) ∧ (∀ p, p ∈ offsets unary4f 2 true ↔ p < 4) ∧
    (∀ p, p ∈ offsets unary4d 0 false ↔ p < 4) ∧ (∀ p, p ∈ offsets unary4d 2 true ↔ p < 4) ∧
    (∀ b, (∀ p, p ∈ offsets (transpose44f b) 0 false ↔ p < 16) ∧ (∀ p, p ∈ offsets (transpose44f b) 2 true ↔ p < 16)) ∧
    (∀ p, p ∈ offsets matmul222f 0 false ↔ p < 4) ∧ (∀ p, p ∈ offsets matmul222f 1 false ↔ p < 4) ∧
    (∀ p, p ∈ offsets matmul222f 2 true ↔ p < 4) ∧
    (∀ p, p ∈ offsets matmul444f 0 false ↔ p < 16) ∧ (∀ p, p ∈ offsets matmul444f 1 false ↔ p < 16) ∧
    (∀ p, p ∈ offsets matmul444f 2 true ↔ p < 16) := by
  refine ⟨?_, (exactly_iff _ _).1 (by decide), (exactly_iff _ _).1 (by decide), (exactly_iff _ _).1 (by decide),
    (exactly_iff _ _).1 (by decide), ?_, (exactly_iff _ _).1 (by decide), (exactly_iff _ _).1 (by decide),
    (exactly_iff _ _).1 (by decide), (exactly_iff _ _).1 (by decide), (exactly_iff _ _).1 (by decide),
    (exactly_iff _ _).1 (by decide)⟩
  · rintro vw (rfl | rfl | rfl) <;> exact ⟨(exactly_iff _ _).1 (by decide), (exactly_iff _ _).1 (by decide)⟩
  · intro b; cases b <;> exact ⟨(exactly_iff _ _).1 (by decide), (exactly_iff _ _).1 (by decide)⟩

/-- **`_dyadic<T,3,3>`, `_dyadic<float,2,2>`** (after the repair): reads exactly the 3 (2) elements of each operand, writes
    exactly `out[0..8]` (`out[0..3]`); the code before the repair wrote `out[9]` and read `b[3]` -/
theorem dyadic_footprint (br : Branch) :
    (∀ p, p ∈ offsets (dyadic33f br) 0 false ↔ p < 3) ∧ (∀ p, p ∈ offsets (dyadic33f br) 1 false ↔ p < 3) ∧
    (∀ p, p ∈ offsets (dyadic33f br) 2 true ↔ p < 9) ∧
    (∀ p, p ∈ offsets (dyadic33d br) 0 false ↔ p < 3) ∧ (∀ p, p ∈ offsets (dyadic33d br) 1 false ↔ p < 3) ∧
    (∀ p, p ∈ offsets (dyadic33d br) 2 true ↔ p < 9) ∧
    (∀ p, p ∈ offsets dyadic22f 0 false ↔ p < 2) ∧ (∀ p, p ∈ offsets dyadic22f 2 true ↔ p < 4) ∧
    (9 ∈ offsets dyadic33f_before 2 true ∧ 3 ∈ offsets dyadic33f_before 1 false) := by
  unfold dyadic33f dyadic33d
  rw [ld3_branch, st3_branch]
  refine ⟨(exactly_iff _ _).1 ?_, (exactly_iff _ _).1 ?_, (exactly_iff _ _).1 ?_, (exactly_iff _ _).1 ?_,
    (exactly_iff _ _).1 ?_, (exactly_iff _ _).1 ?_, (exactly_iff _ _).1 ?_, (exactly_iff _ _).1 ?_, ?_⟩ <;> decide

theorem offsets_append (A B : List KAcc) (o : Nat) (w : Bool) :
    offsets (A ++ B) o w = offsets A o w ++ offsets B o w := by
  simp [offsets, List.filter_append, List.flatMap_append]

theorem offsets_flatMap {ι : Type} (L : List ι) (f : ι → List KAcc) (o : Nat) (w : Bool) :
    offsets (L.flatMap f) o w = L.flatMap fun x => offsets (f x) o w := by
  induction L with
  | nil => rfl
  | cons x xs ih => simp only [List.flatMap_cons, offsets_append, ih]

/-- **`_matmul<T,3,K,3>` for every `K`**: reads exactly `a[0..3K-1]` and `b[0..3K-1]`, writes exactly `out[0..8]` -/
theorem matmul3K3_footprint (br : Branch) (K : Nat) :
    (∀ p, p ∈ offsets (matmul3K3 br K) 0 false ↔ p < 3 * K) ∧
    (∀ p, p ∈ offsets (matmul3K3 br K) 1 false ↔ p < 3 * K) ∧
    (∀ p, p ∈ offsets (matmul3K3 br K) 2 true ↔ p < 9) := by
  -- per `k` step: three broadcasts of `a`, one 3-lane load of `b`, no store; then the three row stores
  have hb : ∀ i, offsets [ld3 br 1 (3 * i), el 0 i, el 0 (K + i), el 0 (2 * K + i)] 0 false = [i, K + i, 2 * K + i] ∧
      offsets [ld3 br 1 (3 * i), el 0 i, el 0 (K + i), el 0 (2 * K + i)] 1 false = [3 * i, 3 * i + 1, 3 * i + 2] ∧
      offsets [ld3 br 1 (3 * i), el 0 i, el 0 (K + i), el 0 (2 * K + i)] 2 true = [] := by
    intro i; rw [ld3_branch]; exact ⟨rfl, rfl, rfl⟩
  have hs : offsets [st 0 4, st 3 4, st3 br 6] 0 false = [] ∧ offsets [st 0 4, st 3 4, st3 br 6] 1 false = [] ∧
      offsets [st 0 4, st 3 4, st3 br 6] 2 true = [0, 1, 2, 3, 3, 4, 5, 6, 6, 7, 8] := by
    rw [st3_branch]; exact ⟨rfl, rfl, rfl⟩
  unfold matmul3K3
  simp only [offsets_append, offsets_flatMap, hb, hs, List.append_nil, List.mem_append, List.mem_flatMap,
    List.mem_range, List.mem_cons, List.not_mem_nil, or_false, and_false, exists_false, false_or]
  refine ⟨fun p => ⟨?_, fun hp => ?_⟩, fun p => ⟨?_, fun hp => ⟨p / 3, by omega, by omega⟩⟩, fun p => by omega⟩
  · rintro ⟨i, hi, h⟩; omega
  · by_cases h1 : p < K
    · exact ⟨p, h1, by omega⟩
    · by_cases h2 : p < 2 * K
      · exact ⟨p - K, by omega, by omega⟩
      · exact ⟨p - 2 * K, by omega, by omega⟩
  · rintro ⟨i, hi, h⟩; omega

/-- non-vacuity: with `K = 5` the kernel reads 15 elements of each operand -/
example : exactly (offsets (matmul3K3 .sse 5) 1 false) 15 = true := by decide

end K3


/-! ## footprints of the transpose / permute models (C14) and of the inverse leaf kernels (C10 model) -/

/-- **`_transpose<T,M,N>`** (plain loop or register-blocked nest with its pack buffers, any configuration, element size
    and block-size macros): nothing at or beyond `N*M` is written and every load — the vector loads of the packing
    loop included — stays inside `a[0 .. M*N)` (restated from C14.transpose_correct_cfg) -/
theorem transpose_footprint {α : Type} (cfg : Cfg) (sz nR nC : Nat) (hR : 0 < nR) (hC : 0 < nC)
    (a m : Nat → α) (g1 g2 : Nat → Nat → Nat → α) (M N : Nat) :
    (∀ p, N * M ≤ p → applyWrites (Transpose.transposeWrites cfg sz nR nC a g1 g2 M N) m p = m p) ∧
    (∀ r ∈ Transpose.transposeReads cfg sz nR nC M N, r < M * N) :=
  let h := C14.transpose_correct_cfg cfg sz nR nC hR hC a m g1 g2 M N
  ⟨h.2.1, h.2.2⟩

/-- **`permute<Index<p...>>`** (both standards, both loop skeletons): nothing at or beyond the size of the result is
    written (restated from C14.permute_correct; every stored value is `a (flat dims i)` for a multi-index `i` of the
    shape, i.e. an element of the operand) -/
theorem permute_writes_in_result {α : Type} (s : Permute.Std) (v : Permute.Variant) (p dims : List Nat) (hne : dims ≠ [])
    (hpos : ∀ d ∈ dims, 0 < d) (hp : p.Perm (List.range dims.length)) (a m : Nat → α) (pos : Nat)
    (h : Permute.prod (Permute.newDims p dims) ≤ pos) :
    applyWrites (Permute.movesWrites a (Permute.permuteMoves s v p dims)) m pos = m pos :=
  (C14.permute_correct s v p dims hne hpos hp a m).2.2.1 pos h

section InvLeaf
variable {β : Type} [Zero β] [One β] [Add β] [Sub β] [Neg β] [Mul β] [Div β]

/-- **`_inverse<T,n>`, `n ≤ 4`** (the generic scalar adjugate forms): the result depends on `src[0 .. n*n)` only — two
    sources that agree there give the same inverse, so nothing outside the operand is read -/
theorem inverse_leaf_reads_in_operand (n : Nat) (hn : 1 ≤ n ∧ n ≤ 4) (s s' : Nat → β)
    (h : ∀ k, k < n * n → s k = s' k) : Inv.leafFlat n s = Inv.leafFlat n s' := by
  obtain ⟨h1, h4⟩ := hn
  have hcases : n = 1 ∨ n = 2 ∨ n = 3 ∨ n = 4 := by omega
  -- every index the closed forms apply the source to is a literal below `n * n`
  rcases hcases with rfl | rfl | rfl | rfl
  · show Inv.inv1 s = Inv.inv1 s'
    unfold Inv.inv1
    rw [h 0 (by omega)]
  all_goals simp (config := { decide := true }) only [Inv.leafFlat, Inv.inv2, Inv.inv3, Inv.inv4, h]

end InvLeaf


/-! ## footprints of the C04 views, C16 reductions, C19 index views, C20 layout -/

/-- **range views, every evaluator of the flat scalar route** (C04 model, all six view classes and ranks): when the slice
    selects elements of the parent (`first_k + j_k*step_k < pdims_k` for the in-range multi-index `j`), the parent offset
    `eval_s` reads is inside the parent tensor -/
theorem views_read_footprint (v : Views.View) (hwf : v.WF) (j : List Nat) (hj : Views.InRange (Views.vdims v.axs) j)
    (hsel : Views.InRange v.pdims (List.zipWith (fun (a : Views.Ax) i => a.first + i * a.step) v.axs j)) :
    v.evalS (Views.rowMajor (Views.vdims v.axs) j) < Views.lprod v.pdims := by
  rw [C04.read_correct v hwf j hj]
  exact Views.rowMajor_lt hsel

/-- the vector route of a view reads, lane by lane, what the scalar route reads at `idx + l`: the gather routes touch exactly
    the selected offsets -/
theorem views_gather_footprint (v : Views.View) (hwf : v.WF) (V idx l : Nat) (hl : l < V) :
    (v.evalV V idx)[l]? = some (v.evalS (idx + l)) := C04.evalV_lanes v hwf V idx l hl

/-- **reductions** (C16 model: unroll ladder of vector stages + scalar tail, every width and admissible ladder): the
    positions read are exactly `0 … n-1`; in particular every read is inside the operand -/
theorem reduce_footprint (n V : Nat) (us : List Nat) (hn : n < 2 ^ 64) (hg : Reduce.GoodLadder V us) (p : Nat)
    (hp : p ∈ Reduce.flat V (Reduce.vecSteps n V us) ++ Reduce.tailPos n V us) : p < n := by
  rw [C16.positions_exactly_once n V us hn hg] at hp
  exact List.mem_range.1 hp

/-- **index-tensor views** (C19 model): the lanes gathered at `i` are `it (i+l)`; with in-range indices
    (`it j < N` for `j < n`) and `i + V ≤ n` every gathered offset is inside the parent of `N` elements -/
theorem random_view_footprint (it : Nat → Nat) (n N V i : Nat) (hin : ∀ j, j < n → it j < N) (hi : i + V ≤ n)
    (x : Nat) (hx : x ∈ RandomViews.laneInds it V i) : x < N := by
  unfold RandomViews.laneInds at hx
  obtain ⟨j, hj, rfl⟩ := List.mem_map.1 hx
  obtain ⟨t, rfl, hlt⟩ := (mem_forRange (by omega : 0 < 1)).1 hj
  exact hin _ (by omega)

/-- **layout converters** (C20 model): row-major and column-major offsets of a multi-index of the shape are inside the
    `prod dims` elements of the tensor -/
theorem layout_footprint (ds is : List Nat) (h : Layout.Box ds is) :
    Layout.rowFlat ds is < Layout.prod ds ∧ Layout.colFlat ds is < Layout.prod ds :=
  ⟨Layout.rowFlat_lt h, Layout.colFlat_lt h⟩


/-- **`permute`, read side**: every source offset a move reads is inside the operand of `prod dims` elements — the C++14
    body (forward map on the output side: the source index is the loop multi-index itself) and the C++17 body (reverse map
    on the input side: the source multi-index is the loop index gathered through `permute_mapped_index`) -/
theorem permute_reads_in_operand (s : Permute.Std) (v : Permute.Variant) (p dims : List Nat) (hne : dims ≠ [])
    (hpos : ∀ d ∈ dims, 0 < d) (hp : p.Perm (List.range dims.length)) (m : Permute.Move)
    (hm : m ∈ Permute.permuteMoves s v p dims) : m.src < Permute.prod dims := by
  have hr : 0 < dims.length := List.length_pos_iff.2 hne
  cases s with
  | cxx14 =>
    simp only [Permute.permuteMoves, Permute.forwardMoves, List.mem_map] at hm
    obtain ⟨as, has, rfl⟩ := hm
    have hbox := (Permute.loopStates_mem v dims as hpos).1 has
    have hlen := hbox.length_eq
    simp only
    rw [Permute.codeIndex_eq_flat dims (List.range dims.length) as dims.length hne (by simp) (Or.inr rfl)]
    have hg : Permute.gather (List.range dims.length) as = as := by rw [← hlen]; exact Permute.gather_range as
    rw [hg]; exact Permute.flat_lt hbox
  | cxx17 =>
    have hinv := Permute.isInv_mappedIndex hr hp
    have hd := Permute.newDims_eq hp dims
    simp only [Permute.permuteMoves, Permute.reverseMoves, List.mem_map] at hm
    obtain ⟨as, has, rfl⟩ := hm
    rw [hd] at has
    have hposg : ∀ d ∈ Permute.gather p dims, 0 < d := C14.gather_pos hinv hpos
    have hbox := (Permute.loopStates_mem v (Permute.gather p dims) as hposg).1 has
    simp only
    rw [Permute.codeIndex_eq_flat dims (Permute.mappedIndex p) as dims.length hne hinv.lrev (Or.inr rfl)]
    have hb2 := Permute.gather_inBox hinv.symm (dims := Permute.gather p dims) (as := as)
      (by rw [Permute.gather_length]; exact hinv.lmi) hbox
    rw [Permute.gather_gather hinv dims rfl] at hb2
    exact Permute.flat_lt hb2


/-- a multi-index of the slice "selects an element of the parent": every `first_k + j_k*step_k` is below the parent extent -/
def Selects (v : Views.View) (j : List Nat) : Prop :=
  Views.InRange v.pdims (List.zipWith (fun (a : Views.Ax) i => a.first + i * a.step) v.axs j)

/-- **`teval_s(as)`** (the multi-index evaluator of every view class and rank) reads inside the parent -/
theorem views_teval_footprint (v : Views.View) (hwf : v.WF) (as : List Nat) (hl : v.axs.length = as.length)
    (hsel : Selects v as) : v.tevalS as < Views.lprod v.pdims := by
  rw [C04.tevalS_correct v hwf as hl]; exact Views.rowMajor_lt hsel

/-- **`teval(as)`, per-lane gather route** (last extent not a multiple of the width — the route that walks into the
    following rows): every lane that belongs to the slice (`rowMajor as + l < size`) reads the parent offset of an in-range
    multi-index of the slice, hence — when the slice selects elements of the parent — an offset inside the parent -/
theorem views_teval_gather_footprint (v : Views.View) (hwf : v.WF) (V : Nat) (as : List Nat) (hne : v.axs ≠ [])
    (has : Views.InRange (Views.vdims v.axs) as) (l : Nat) (hlV : l < V) (hr : v.route V = .gather)
    (hfit : Views.rowMajor (Views.vdims v.axs) as + l < v.size)
    (hsel : ∀ j, Views.InRange (Views.vdims v.axs) j → Selects v j) :
    ∃ x, (v.tevalV V as)[l]? = some x ∧ x < Views.lprod v.pdims := by
  obtain ⟨j, hj, _, hx⟩ := C04.tevalV_gather_route v hwf V as hne has l hlV hr hfit
  exact ⟨_, hx, Views.rowMajor_lt (hsel j hj)⟩

/-- **two-index evaluators of the 2-D views** (`eval_s(i,j)`, and lane `l` of `eval(i,j)` on both routes) -/
theorem views_eval2_footprint (cls : Views.Cls) (h2 : Views.is2D cls) (m n : Nat) (a0 a1 : Views.Ax) (V i j l : Nat) (hl : l < V)
    (hsel : Selects (Views.View.mk cls [m, n] [a0, a1]) [i, j + l]) :
    ∃ x, ((Views.View.mk cls [m, n] [a0, a1]).eval2V V i j).2[l]? = some x ∧ x < Views.lprod [m, n] := by
  obtain ⟨_, h, _⟩ := C04.eval2_correct cls h2 m n a0 a1 V i j l hl
  exact ⟨_, h, Views.rowMajor_lt hsel⟩


/-- **consumer loop `trivial_assign`** (tensor constructed from / compound-assigned with a view, every size and width):
    every store goes to a position below `size()` of the result -/
theorem views_consumer_footprint (v : Views.View) (hwf : v.WF) (V : Nat) (hV : 0 < V) (w : Nat × Nat)
    (hw : w ∈ v.trivialWrites V) : w.1 < v.size := by
  by_contra h
  have hnone := ((C04.trivial_assign_correct v hwf V hV) w.1).2 h
  exact (lastWrite_none_iff _ _).1 hnone w hw rfl


/-- **reshape / flatten / squeeze maps** (C20 model: views of the same base pointer): an element accessed through the
    reshaped map with an index of the NEW shape lies inside the wrapped extent `[base, base + prod dims)` of the original —
    given the `static_assert` of `reshape` (equal products); `flatten` and `squeeze` are instances -/
theorem map_reshape_footprint (v : MapAlias.View) (shapes idx : List Nat) (hprod : Layout.prod shapes = Layout.prod v.dims)
    (hidx : Layout.Box shapes idx) :
    (MapAlias.reshape v shapes).base + Layout.flatIndex (MapAlias.reshape v shapes).dims idx < v.base + Layout.prod v.dims := by
  unfold MapAlias.reshape
  simp only
  rw [C20.flatIndex_rowmajor shapes idx hidx.length_eq]
  have := Layout.rowFlat_lt hidx
  unfold Layout.rowOffset
  omega

theorem map_flatten_squeeze_footprint (v : MapAlias.View) :
    (∀ idx, Layout.Box (MapAlias.flatten v).dims idx →
      (MapAlias.flatten v).base + Layout.flatIndex (MapAlias.flatten v).dims idx < v.base + Layout.prod v.dims) ∧
    (∀ idx, Layout.Box (MapAlias.squeeze v).dims idx →
      (MapAlias.squeeze v).base + Layout.flatIndex (MapAlias.squeeze v).dims idx < v.base + Layout.prod v.dims) := by
  constructor
  · intro idx h
    exact map_reshape_footprint v [Layout.prod v.dims] idx (by simp [Layout.prod]) h
  · intro idx h
    exact map_reshape_footprint v (v.dims.filter (· != 1)) idx (C20.prod_filter_ne_one v.dims) h

end Fastor.C07
