import FastorModel.Proofs.SimdLanes
import FastorModel.Generated.Simd_avx2
import FastorModel.Generated.Simd_avx512
import Mathlib.Tactic.IntervalCases
/-!
# C08 (kernels other properties only value-test): register transposes, outer products, complex interleave, norms

The definitions `Fastor.Gen.avx2.h_*` are translated by `vlib/xlate_simd.py` (as the vector classes of Props/C08.lean are) from
`Fastor/backend/transpose/transpose_kernels.h`, `Fastor/backend/dyadic.h`, `Fastor/backend/norm.h` and the `arrange_*` helpers of
the complex vector classes, configuration `avx2`; the 3x3 float outer product also in its `avx512` build, which masks through
mask registers.  Memory behind a pointer is a word array (`loadw` / `storew`).  A `…_footprint` theorem says that every word
outside the result keeps its value, a `…_reads` theorem that the result depends on the listed elements of the operands only
(not every kernel has them).

The float kernels are evaluated for every (i, j): a 32-bit lane is the register applied to the index, and `rfl` computes it.
The 64-bit lanes of the double kernels are read with the lane calculus (`lane`, with Lean's built-in simprocs `simprocAttr`
for the literal offsets), row by row with the column `j` a variable where every row is stored by one instruction.
-/
namespace Fastor.C08K
open Fastor.Simd Fastor.Gen

/-! The three-lane loads and stores of the 3x3 kernels: lane `j < 3` is the lane of the memory / of the value, and the store
    leaves everything from lane 3 on alone (the mask of lane 3 is off, the lanes above are outside the register). -/
theorem loadul3_pd_lane {j : Nat} (hj : j < 3) (arr : Reg) : lane64 (avx2.mm256_loadul3_pd arr) j = lane64 arr j := by
  interval_cases j <;> rfl
theorem storeul3_pd_lane {j : Nat} (hj : j < 3) (arr value : Reg) :
    lane64 (avx2.mm256_storeul3_pd arr value) j = lane64 value j := by
  interval_cases j <;> rfl
theorem storeul3_ps_beyond {k : Nat} (hk : 3 ≤ k) (arr value : Reg) : avx2.mm_storeul3_ps arr value k = arr k := by
  rcases (by omega : k = 3 ∨ 4 ≤ k) with rfl | h
  · rfl
  · simp only [avx2.mm_storeul3_ps, maskstore32]
    exact if_neg (by omega)
theorem storeul3_ps_beyond_avx512 {k : Nat} (hk : 3 ≤ k) (arr value : Reg) : avx512.mm_storeul3_ps arr value k = arr k := by
  rcases (by omega : k = 3 ∨ 4 ≤ k) with rfl | h
  · rfl
  · simp only [avx512.mm_storeul3_ps, kstore32]
    exact if_neg (by omega)
theorem storeul3_pd_beyond {k : Nat} (hk : 6 ≤ k) (arr value : Reg) : avx2.mm256_storeul3_pd arr value k = arr k := by
  rcases (by omega : k = 6 ∨ k = 7 ∨ 8 ≤ k) with rfl | rfl | h
  · rfl
  · rfl
  · simp only [avx2.mm256_storeul3_pd, maskstore64]
    exact if_neg (by omega)

/-- `_MM_TRANSPOSE4_PD`: element (r, c) of the result is element (c, r) of the input rows (64-bit lanes) -/
theorem transpose4_pd (r0 r1 r2 r3 : Reg) (r c : Nat) (hr : r < 4) (hc : c < 4) :
    lane64 (avx2.h_MM_TRANSPOSE4_PD r0 r1 r2 r3 r) c = lane64 ([r0, r1, r2, r3].getD c setzero) r := by
  interval_cases r <;> interval_cases c <;> rfl

/-- `_MM_TRANSPOSE8_PS`: element (r, c) of the result is element (c, r) of the input rows -/
theorem transpose8_ps (r0 r1 r2 r3 r4 r5 r6 r7 : Reg) (r c : Nat) (hr : r < 8) (hc : c < 8) :
    avx2.h_MM_TRANSPOSE8_PS r0 r1 r2 r3 r4 r5 r6 r7 r c = ([r0, r1, r2, r3, r4, r5, r6, r7].getD c setzero) r := by
  interval_cases r <;> interval_cases c <;> rfl

/-- `_dyadic<float,2,2>`: out[2i+j] = a[i]*b[j] -/
theorem dyadic_float_2_2 (fo : FOps) (a b out : Reg) (i j : Nat) (hi : i < 2) (hj : j < 2) :
    avx2.h_dyadic_float_2_2 fo a b out (2 * i + j) = fo.mul32 (a i) (b j) := by
  interval_cases i <;> interval_cases j <;> rfl
/-- the operands are read with 64-bit loads: only `a[0..1]`, `b[0..1]` matter -/
theorem dyadic_float_2_2_reads (fo : FOps) (a a' b b' out : Reg) (ha : ∀ k, k < 2 → a' k = a k) (hb : ∀ k, k < 2 → b' k = b k) (w : Nat) (hw : w < 4) :
    avx2.h_dyadic_float_2_2 fo a' b' out w = avx2.h_dyadic_float_2_2 fo a b out w := by
  obtain ⟨i, j, hi, hj, rfl⟩ : ∃ i j, i < 2 ∧ j < 2 ∧ w = 2 * i + j := ⟨w / 2, w % 2, by omega, by omega, by omega⟩
  rw [dyadic_float_2_2 fo a' b' out i j hi hj, dyadic_float_2_2 fo a b out i j hi hj, ha i hi, hb j hj]
theorem dyadic_float_2_2_footprint (fo : FOps) (a b out : Reg) (w : Nat) (hw : 4 ≤ w) :
    avx2.h_dyadic_float_2_2 fo a b out w = out w := by
  unfold avx2.h_dyadic_float_2_2
  simp only [↓storew_beyond hw, Nat.reduceAdd, Nat.reduceLeDiff]

theorem dyadic_double_2_2 (fo : FOps) (a b out : Reg) (i j : Nat) (hi : i < 2) (hj : j < 2) :
    lane64 (avx2.h_dyadic_double_2_2 fo a b out) (2 * i + j) = fo.mul64 (lane64 a i) (lane64 b j) := by
  unfold avx2.h_dyadic_double_2_2
  interval_cases i <;> interval_cases j <;>
    simp only [lane, simprocAttr]

theorem dyadic_float_4_4 (fo : FOps) (a b out : Reg) (i j : Nat) (hi : i < 4) (hj : j < 4) :
    avx2.h_dyadic_float_4_4 fo a b out (4 * i + j) = fo.mul32 (a i) (b j) := by
  interval_cases i <;> interval_cases j <;> rfl
theorem dyadic_float_4_4_footprint (fo : FOps) (a b out : Reg) (w : Nat) (hw : 16 ≤ w) :
    avx2.h_dyadic_float_4_4 fo a b out w = out w := by
  unfold avx2.h_dyadic_float_4_4
  simp only [↓storew_beyond hw, Nat.reduceAdd, Nat.reduceLeDiff]

theorem dyadic_double_4_4 (fo : FOps) (a b out : Reg) (i j : Nat) (hi : i < 4) (hj : j < 4) :
    lane64 (avx2.h_dyadic_double_4_4 fo a b out) (4 * i + j) = fo.mul64 (lane64 a i) (lane64 b j) := by
  unfold avx2.h_dyadic_double_4_4
  interval_cases i <;>
    simp only [↓lane64_storew_row hj, ↓lane64_storew_above hj, lane, simprocAttr, Nat.zero_add]

/-- `_dyadic<float,3,3>`: the nine products ... -/
theorem dyadic_float_3_3 (fo : FOps) (a b out : Reg) (i j : Nat) (hi : i < 3) (hj : j < 3) :
    avx2.h_dyadic_float_3_3 fo a b out (3 * i + j) = fo.mul32 (a i) (b j) := by
  interval_cases i <;> interval_cases j <;> rfl
/-- ... and NOTHING ELSE is written: the last row goes through the 3-lane masked store, so every word from 9 on keeps its value -/
theorem dyadic_float_3_3_footprint (fo : FOps) (a b out : Reg) (w : Nat) (hw : 9 ≤ w) :
    avx2.h_dyadic_float_3_3 fo a b out w = out w := by
  have h6 : 6 ≤ w := by omega
  have h3 : 3 ≤ w - 6 := by omega
  unfold avx2.h_dyadic_float_3_3
  simp only [if_pos h6, storeul3_ps_beyond h3, loadw_apply, Nat.add_sub_cancel' h6, ↓storew_beyond hw, Nat.reduceAdd, Nat.reduceLeDiff]
/-- only the three elements of each operand are read: the result does not depend on `a[3]`, `b[3]`, ... -/
theorem dyadic_float_3_3_reads (fo : FOps) (a a' b b' out : Reg) (ha : ∀ k, k < 3 → a' k = a k) (hb : ∀ k, k < 3 → b' k = b k) (w : Nat) (hw : w < 9) :
    avx2.h_dyadic_float_3_3 fo a' b' out w = avx2.h_dyadic_float_3_3 fo a b out w := by
  obtain ⟨i, j, hi, hj, rfl⟩ : ∃ i j, i < 3 ∧ j < 3 ∧ w = 3 * i + j := ⟨w / 3, w % 3, by omega, by omega, by omega⟩
  rw [dyadic_float_3_3 fo a' b' out i j hi hj, dyadic_float_3_3 fo a b out i j hi hj, ha i hi, hb j hj]
/-- the AVX-512 build of the same kernel (mask registers instead of mask vectors) -/
theorem dyadic_float_3_3_avx512 (fo : FOps) (a b out : Reg) (i j : Nat) (hi : i < 3) (hj : j < 3) :
    avx512.h_dyadic_float_3_3 fo a b out (3 * i + j) = fo.mul32 (a i) (b j) := by
  interval_cases i <;> interval_cases j <;> rfl
theorem dyadic_float_3_3_avx512_footprint (fo : FOps) (a b out : Reg) (w : Nat) (hw : 9 ≤ w) :
    avx512.h_dyadic_float_3_3 fo a b out w = out w := by
  have h6 : 6 ≤ w := by omega
  have h3 : 3 ≤ w - 6 := by omega
  unfold avx512.h_dyadic_float_3_3
  simp only [if_pos h6, storeul3_ps_beyond_avx512 h3, loadw_apply, Nat.add_sub_cancel' h6, ↓storew_beyond hw, Nat.reduceAdd, Nat.reduceLeDiff]

theorem dyadic_double_3_3 (fo : FOps) (a b out : Reg) (i j : Nat) (hi : i < 3) (hj : j < 3) :
    lane64 (avx2.h_dyadic_double_3_3 fo a b out) (3 * i + j) = fo.mul64 (lane64 a i) (lane64 b j) := by
  unfold avx2.h_dyadic_double_3_3
  interval_cases i <;>
    simp only [↓lane64_storew_row hj, ↓lane64_storew_above hj, ↓lane64_tail_row, ↓lane64_tail_above hj, loadul3_pd_lane hj,
      storeul3_pd_lane hj, lane, simprocAttr, Nat.zero_add]
/-- words 18.. (elements 9..) are untouched -/
theorem dyadic_double_3_3_footprint (fo : FOps) (a b out : Reg) (w : Nat) (hw : 18 ≤ w) :
    avx2.h_dyadic_double_3_3 fo a b out w = out w := by
  have h12 : 12 ≤ w := by omega
  have h6 : 6 ≤ w - 12 := by omega
  unfold avx2.h_dyadic_double_3_3
  simp only [if_pos h12, storeul3_pd_beyond h6, loadw_apply, Nat.add_sub_cancel' h12, ↓storew_beyond hw, Nat.reduceAdd,
    Nat.reduceLeDiff]


def cat (n : Nat) (lo hi : Reg) : Reg := fun w => if w < n then lo w else hi (w - n)

/-- complex<float> SSE load: the two loaded registers hold (re0,im0,re1,im1 | re2,im2,re3,im3); after `arrange_from_load`
    lane k of value_r / value_i is the real / imaginary part of element k -/
theorem split_ps128 (vr vi lo hi : Reg) (k : Nat) (hk : k < 4) :
    (avx2.h_arrange_from_load vr vi lo hi).1 k = cat 4 lo hi (2 * k) ∧ (avx2.h_arrange_from_load vr vi lo hi).2 k = cat 4 lo hi (2 * k + 1) := by
  interval_cases k <;> exact ⟨rfl, rfl⟩
theorem interleave_ps128 (lo hi vr vi : Reg) (w : Nat) (hw : w < 8) :
    cat 4 (avx2.h_arrange_for_store lo hi vr vi).1 (avx2.h_arrange_for_store lo hi vr vi).2 w = (if w % 2 = 0 then vr (w / 2) else vi (w / 2)) := by
  interval_cases w <;> rfl
/-- store after load is the identity on memory (round trip) -/
theorem roundtrip_ps128 (vr vi lo hi x y : Reg) (w : Nat) (hw : w < 4) :
    (avx2.h_arrange_for_store x y (avx2.h_arrange_from_load vr vi lo hi).1 (avx2.h_arrange_from_load vr vi lo hi).2).1 w = lo w ∧
    (avx2.h_arrange_for_store x y (avx2.h_arrange_from_load vr vi lo hi).1 (avx2.h_arrange_from_load vr vi lo hi).2).2 w = hi w := by
  interval_cases w <;> exact ⟨rfl, rfl⟩

theorem split_ps256 (vr vi lo hi : Reg) (k : Nat) (hk : k < 8) :
    (avx2.h_arrange_from_load_m256 vr vi lo hi).1 k = cat 8 lo hi (2 * k) ∧ (avx2.h_arrange_from_load_m256 vr vi lo hi).2 k = cat 8 lo hi (2 * k + 1) := by
  interval_cases k <;> exact ⟨rfl, rfl⟩
theorem interleave_ps256 (lo hi vr vi : Reg) (w : Nat) (hw : w < 16) :
    cat 8 (avx2.h_arrange_for_store_m256 lo hi vr vi).1 (avx2.h_arrange_for_store_m256 lo hi vr vi).2 w = (if w % 2 = 0 then vr (w / 2) else vi (w / 2)) := by
  interval_cases w <;> rfl
theorem roundtrip_ps256 (vr vi lo hi x y : Reg) (w : Nat) (hw : w < 8) :
    (avx2.h_arrange_for_store_m256 x y (avx2.h_arrange_from_load_m256 vr vi lo hi).1 (avx2.h_arrange_from_load_m256 vr vi lo hi).2).1 w = lo w ∧
    (avx2.h_arrange_for_store_m256 x y (avx2.h_arrange_from_load_m256 vr vi lo hi).1 (avx2.h_arrange_from_load_m256 vr vi lo hi).2).2 w = hi w := by
  interval_cases w <;> exact ⟨rfl, rfl⟩

/-- complex<double>: 64-bit elements; word w of memory belongs to element w/2 -/
theorem split_pd128 (vr vi lo hi : Reg) (w : Nat) (hw : w < 4) :
    (avx2.h_arrange_from_load_m128d vr vi lo hi).1 w = cat 4 lo hi (4 * (w / 2) + w % 2) ∧
    (avx2.h_arrange_from_load_m128d vr vi lo hi).2 w = cat 4 lo hi (4 * (w / 2) + 2 + w % 2) := by
  interval_cases w <;> exact ⟨rfl, rfl⟩
theorem roundtrip_pd128 (vr vi lo hi x y : Reg) (w : Nat) (hw : w < 4) :
    (avx2.h_arrange_for_store_m128d x y (avx2.h_arrange_from_load_m128d vr vi lo hi).1 (avx2.h_arrange_from_load_m128d vr vi lo hi).2).1 w = lo w ∧
    (avx2.h_arrange_for_store_m128d x y (avx2.h_arrange_from_load_m128d vr vi lo hi).1 (avx2.h_arrange_from_load_m128d vr vi lo hi).2).2 w = hi w := by
  interval_cases w <;> exact ⟨rfl, rfl⟩
theorem split_pd256 (vr vi lo hi : Reg) (w : Nat) (hw : w < 8) :
    (avx2.h_arrange_from_load_m256d vr vi lo hi).1 w = cat 8 lo hi (4 * (w / 2) + w % 2) ∧
    (avx2.h_arrange_from_load_m256d vr vi lo hi).2 w = cat 8 lo hi (4 * (w / 2) + 2 + w % 2) := by
  interval_cases w <;> exact ⟨rfl, rfl⟩
theorem roundtrip_pd256 (vr vi lo hi x y : Reg) (w : Nat) (hw : w < 8) :
    (avx2.h_arrange_for_store_m256d x y (avx2.h_arrange_from_load_m256d vr vi lo hi).1 (avx2.h_arrange_from_load_m256d vr vi lo hi).2).1 w = lo w ∧
    (avx2.h_arrange_for_store_m256d x y (avx2.h_arrange_from_load_m256d vr vi lo hi).1 (avx2.h_arrange_from_load_m256d vr vi lo hi).2).2 w = hi w := by
  interval_cases w <;> exact ⟨rfl, rfl⟩

/-- `_norm<float,4>`: square root of the sum of squares, association ((a0²+a1²)+(a2²+a3²)) -/
theorem norm_float_4 (fo : FOps) (a : Reg) :
    avx2.h_norm_float_4 fo a = fo.sqrt32 (fo.add32 (fo.add32 (fo.mul32 (a 0) (a 0)) (fo.mul32 (a 1) (a 1))) (fo.add32 (fo.mul32 (a 2) (a 2)) (fo.mul32 (a 3) (a 3)))) := by
  rfl
theorem norm_double_4 (fo : FOps) (a : Reg) :
    avx2.h_norm_double_4 fo a = fo.sqrt64 (fo.add64 (fo.add64 (fo.mul64 (lane64 a 2) (lane64 a 2)) (fo.mul64 (lane64 a 3) (lane64 a 3))) (fo.add64 (fo.mul64 (lane64 a 0) (lane64 a 0)) (fo.mul64 (lane64 a 1) (lane64 a 1)))) := by
  unfold avx2.h_norm_double_4 avx2.h_add_pd_m256d
  simp only [lane, simprocAttr]
def sq8 (fo : FOps) (a : Reg) : BitVec 32 :=
  fo.add32 (fo.add32 (fo.add32 (fo.mul32 (a 0) (a 0)) (fo.mul32 (a 1) (a 1))) (fo.add32 (fo.mul32 (a 2) (a 2)) (fo.mul32 (a 3) (a 3))))
           (fo.add32 (fo.add32 (fo.mul32 (a 4) (a 4)) (fo.mul32 (a 5) (a 5))) (fo.add32 (fo.mul32 (a 6) (a 6)) (fo.mul32 (a 7) (a 7))))
/-- `_norm<float,9>`: eight elements through the 256-bit tree, the ninth loaded alone (`_mm_load_ss`: element 8 and three
    zero lanes — exactly nine elements are read), the zero lanes squared and added as the code does -/
theorem norm_float_9 (fo : FOps) (a : Reg) :
    avx2.h_norm_float_9 fo a = fo.sqrt32 (fo.add32 (sq8 fo a)
      (fo.add32 (fo.add32 (fo.mul32 (a 8) (a 8)) (fo.mul32 0#32 0#32)) (fo.add32 (fo.mul32 0#32 0#32) (fo.mul32 0#32 0#32)))) := by
  rfl
/-- with `0*0 = 0` and `x + 0 = x` this is the square root of the sum of the nine squares -/
theorem norm_float_9_sum (fo : FOps) (h0 : fo.mul32 0#32 0#32 = 0#32) (hadd : ∀ x, fo.add32 x 0#32 = x) (a : Reg) :
    avx2.h_norm_float_9 fo a = fo.sqrt32 (fo.add32 (sq8 fo a) (fo.mul32 (a 8) (a 8))) := by
  rw [norm_float_9, h0, hadd, hadd, hadd]
example : ∃ fo : FOps, fo.mul32 0#32 0#32 = 0#32 ∧ ∀ x, fo.add32 x 0#32 = x :=
  ⟨⟨(· + ·), (· - ·), (· * ·), (· / ·), (fun a _ => a), (fun a _ => a), id, (fun a b c => a * b + c),
    (· + ·), (· - ·), (· * ·), (· / ·), (fun a _ => a), (fun a _ => a), id, (fun a b c => a * b + c)⟩, by simp, by simp⟩

end Fastor.C08K
