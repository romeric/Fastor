import FastorModel.Proofs.SimdLanes
import FastorModel.Generated.Simd_sse2
import FastorModel.Generated.Simd_avx2
import FastorModel.Generated.Simd_avx512
import Mathlib.Tactic.IntervalCases
/-!
# C08 — every SIMD vector type behaves as independent scalar lanes

The definitions `Fastor.Gen.<isa>.*` are GENERATED by `vlib/xlate_simd.py` from the preprocessed headers of the
current repo tree (extintrin.h helpers and the straight-line members of the `SIMDVector<T,ABI>` specialisations),
over the intrinsic semantics of `Model/SimdIntrinsics.lean`.  The theorems below state, for ALL lane values, that
lane `i` of the generated definition is the scalar operation on lane `i` of the operands (integers: `BitVec`
arithmetic with wrap-around; floats: the uninterpreted IEEE operation `fo.*` on the bit patterns, negate / abs =
sign-bit operations), and that horizontal operations are the fold of the operation over all lanes.  A changed
shuffle immediate or a swapped operand in the repo regenerates a different definition and the theorem no longer
builds.

Proofs: unfold the generated definition, then read the lane off with the lane calculus (`lane`; `simprocAttr` is Lean's
set of built-in simprocs, here the arithmetic on literal lane indices).  A member that is one lane-wise intrinsic needs
no more; where a shuffle sequence or an index vector permutes the lanes, the lanes of the register are enumerated
(`interval_cases`) and each is computed.
-/
namespace Fastor.C08
open Fastor.Simd Fastor.Gen

/-- the SSE2 emulation of the 32-bit multiply (three shuffles, two `_mm_mul_epu32`, three unpacks) is the lane-wise wrap-around product -/
theorem sse2_mul_epi32x_lane (a b : Reg) (i : Nat) (hi : i < 4) : sse2.mm_mul_epi32x a b i = a i * b i := by
  interval_cases i <;> simp only [sse2.mm_mul_epi32x, lane, simprocAttr]
theorem sse2_int32_mul_vv_lane (a b : Reg) (i : Nat) (hi : i < 4) : sse2.int32_sse.mul_vv a b i = a i * b i := by
  unfold sse2.int32_sse.mul_vv
  exact sse2_mul_epi32x_lane a b i hi
theorem sse2_int32_mul_vs_lane (a : Reg) (s : BitVec 32) (i : Nat) (hi : i < 4) : sse2.int32_sse.mul_vs a s i = a i * s := by
  unfold sse2.int32_sse.mul_vs
  exact sse2_mul_epi32x_lane a (set1_32 s) i hi
theorem sse2_int32_imul_v_lane (self a : Reg) (i : Nat) (hi : i < 4) : sse2.int32_sse.imul_v self a i = self i * a i := by
  unfold sse2.int32_sse.imul_v
  exact sse2_mul_epi32x_lane self a i hi
theorem sse2_int32_add_vv_lane (a b : Reg) (i : Nat) : sse2.int32_sse.add_vv a b i = a i + b i := by
  simp only [sse2.int32_sse.add_vv, lane]
theorem sse2_int32_sub_sv_lane (s : BitVec 32) (b : Reg) (i : Nat) : sse2.int32_sse.sub_sv s b i = s - b i := by
  simp only [sse2.int32_sse.sub_sv, lane]
/-- unary minus is `0 - x`, the two's complement negation (not a flip of the sign bit) -/
theorem sse2_int32_neg_lane (b : Reg) (i : Nat) : sse2.int32_sse.neg b i = - b i := by
  simp only [sse2.int32_sse.neg, lane, BitVec.zero_sub]
theorem sse2_int32_reverse_lane (self : Reg) (i : Nat) (hi : i < 4) : sse2.int32_sse.reverse self i = self (3 - i) := by
  interval_cases i <;> simp only [sse2.int32_sse.reverse, sse2.mm_reverse_epi32, lane, simprocAttr]
theorem sse2_int32_set_sequential_lane (self : Reg) (n : BitVec 32) (i : Nat) (hi : i < 4) :
    sse2.int32_sse.set_sequential_s self n i = n + BitVec.ofNat 32 i := by
  interval_cases i <;> simp only [sse2.int32_sse.set_sequential_s, lane, BitVec.add_zero]
/-- horizontal sum = fold of + over the four lanes -/
theorem sse2_int32_sum (self : Reg) : sse2.int32_sse.sum self = self 0 + self 1 + self 2 + self 3 := by
  simp only [sse2.int32_sse.sum, sse2.mm_sum_epi32, lane, simprocAttr]
  ac_rfl
/-- horizontal product = fold of * (wrap-around) over the four lanes -/
theorem sse2_int32_product (self : Reg) : sse2.int32_sse.product self = self 0 * self 1 * self 2 * self 3 := by
  simp only [sse2.int32_sse.product, sse2.mm_prod_epi32, lane, simprocAttr, BitVec.mul_assoc]
theorem sse2_int32_dot (self o : Reg) :
    sse2.int32_sse.dot self o = self 0 * o 0 + self 1 * o 1 + self 2 * o 2 + self 3 * o 3 := by
  simp only [sse2.int32_sse.dot, sse2.mm_sum_epi32, sse2.mm_mul_epi32x, lane, simprocAttr]
  ac_rfl

/-- SSE2 integer abs (`srai 31`, `xor`, `sub`) is the two's complement absolute value of every lane -/
theorem sse2_int32_abs_lane (a : Reg) (i : Nat) : sse2.int32_sse.abs a i = abs32 (a i) := by
  simp only [sse2.int32_sse.abs, lane, Nat.min_self, abs32_by_sign]
theorem sse2_int32_set_lanes (self : Reg) (x0 x1 x2 x3 : BitVec 32) :
    sse2.int32_sse.set_ssss self x0 x1 x2 x3 0 = x3 ∧ sse2.int32_sse.set_ssss self x0 x1 x2 x3 1 = x2 ∧
    sse2.int32_sse.set_ssss self x0 x1 x2 x3 2 = x1 ∧ sse2.int32_sse.set_ssss self x0 x1 x2 x3 3 = x0 := by
  simp only [sse2.int32_sse.set_ssss, lane]
theorem sse2_int32_ctor_s_lane (x : BitVec 32) (i : Nat) : sse2.int32_sse.ctor_s x i = x := by
  simp only [sse2.int32_sse.ctor_s, lane]

theorem sse2_int64_add_vv_lane (a b : Reg) (j : Nat) : lane64 (sse2.int64_sse.add_vv a b) j = lane64 a j + lane64 b j := by
  simp only [sse2.int64_sse.add_vv, lane]
theorem sse2_int64_sub_vv_lane (a b : Reg) (j : Nat) : lane64 (sse2.int64_sse.sub_vv a b) j = lane64 a j - lane64 b j := by
  simp only [sse2.int64_sse.sub_vv, lane]
theorem sse2_int64_add_vs_lane (a : Reg) (s : BitVec 64) (j : Nat) (hj : j < 2) : lane64 (sse2.int64_sse.add_vs a s) j = lane64 a j + s := by
  interval_cases j <;> simp only [sse2.int64_sse.add_vs, lane]
theorem sse2_int64_neg_lane (b : Reg) (j : Nat) (hj : j < 2) : lane64 (sse2.int64_sse.neg b) j = - lane64 b j := by
  simp only [sse2.int64_sse.neg, lane, BitVec.zero_sub]
theorem sse2_int64_reverse_lane (self : Reg) (j : Nat) (hj : j < 2) : lane64 (sse2.int64_sse.reverse self) j = lane64 self (1 - j) := by
  interval_cases j <;> simp only [sse2.int64_sse.reverse, sse2.mm_reverse_epi64, sse2.mm_reverse_pd, lane, simprocAttr]
theorem sse2_int64_set_sequential_lane (self : Reg) (n : BitVec 64) (j : Nat) (hj : j < 2) :
    lane64 (sse2.int64_sse.set_sequential_s self n) j = n + BitVec.ofNat 64 j := by
  interval_cases j <;> simp only [sse2.int64_sse.set_sequential_s, lane, BitVec.add_zero]

theorem sse2_float_add_vv_lane (fo : FOps) (a b : Reg) (i : Nat) : sse2.float_sse.add_vv fo a b i = fo.add32 (a i) (b i) := by
  simp only [sse2.float_sse.add_vv, lane]
theorem sse2_float_div_sv_lane (fo : FOps) (s : BitVec 32) (b : Reg) (i : Nat) : sse2.float_sse.div_sv fo s b i = fo.div32 s (b i) := by
  simp only [sse2.float_sse.div_sv, lane]
theorem sse2_float_sqrt_lane (fo : FOps) (a : Reg) (i : Nat) : sse2.float_sse.sqrt fo a i = fo.sqrt32 (a i) := by
  simp only [sse2.float_sse.sqrt, lane]
/-- float negate is the IEEE sign-bit flip of every lane -/
theorem sse2_float_neg_lane (b : Reg) (i : Nat) : sse2.float_sse.neg b i = fneg32 (b i) := by
  simp only [sse2.float_sse.neg, sse2.mm_neg_ps, lane, fneg32, sign32]
/-- float abs clears the sign bit of every lane (and-not with the sign mask) -/
theorem sse2_float_abs_lane (a : Reg) (i : Nat) : sse2.float_sse.abs a i = fabs32 (a i) := by
  simp only [sse2.float_sse.abs, sse2.mm_abs_ps, lane, fabs32, sign32]
theorem sse2_float_reverse_lane (self : Reg) (i : Nat) (hi : i < 4) : sse2.float_sse.reverse self i = self (3 - i) := by
  interval_cases i <;> simp only [sse2.float_sse.reverse, sse2.mm_reverse_ps, lane, simprocAttr]
/-- the summation tree of `_mm_sum_ps` -/
theorem sse2_float_sum_tree (fo : FOps) (self : Reg) :
    sse2.float_sse.sum fo self = fo.add32 (fo.add32 (self 0) (self 1)) (fo.add32 (self 2) (self 3)) := by
  simp only [sse2.float_sse.sum, sse2.mm_sum_ps, lane, simprocAttr]
/-- ... which is the left fold of + over the lanes under associativity (exact for integer-valued data; for IEEE floats
    it fixes the association) -/
theorem sse2_float_sum_fold (fo : FOps) (hassoc : ∀ x y z, fo.add32 (fo.add32 x y) z = fo.add32 x (fo.add32 y z)) (self : Reg) :
    sse2.float_sse.sum fo self = [self 1, self 2, self 3].foldl fo.add32 (self 0) := by
  simp only [sse2_float_sum_tree, List.foldl, hassoc]
theorem sse2_float_product_tree (fo : FOps) (self : Reg) :
    sse2.float_sse.product fo self = fo.mul32 (fo.mul32 (self 0) (self 1)) (fo.mul32 (self 2) (self 3)) := by
  simp only [sse2.float_sse.product, sse2.mm_prod_ps, lane, simprocAttr]
theorem sse2_float_maximum_tree (fo : FOps) (self : Reg) :
    sse2.float_sse.maximum fo self = fo.max32 (fo.max32 (self 0) (self 3)) (fo.max32 (self 1) (self 2)) := by
  simp only [sse2.float_sse.maximum, sse2.mm_hmax_ps, sse2.mm_reverse_ps, lane, simprocAttr]
theorem sse2_float_minimum_tree (fo : FOps) (self : Reg) :
    sse2.float_sse.minimum fo self = fo.min32 (fo.min32 (self 0) (self 3)) (fo.min32 (self 1) (self 2)) := by
  simp only [sse2.float_sse.minimum, sse2.mm_hmin_ps, sse2.mm_reverse_ps, lane, simprocAttr]
theorem sse2_float_dot_tree (fo : FOps) (a b : Reg) :
    sse2.float_sse.dot fo a b = fo.add32 (fo.add32 (fo.mul32 (a 0) (b 0)) (fo.mul32 (a 1) (b 1))) (fo.add32 (fo.mul32 (a 2) (b 2)) (fo.mul32 (a 3) (b 3))) := by
  simp only [sse2.float_sse.dot, sse2.mm_sum_ps, lane, simprocAttr]
theorem sse2_double_add_vv_lane (fo : FOps) (a b : Reg) (j : Nat) : lane64 (sse2.double_sse.add_vv fo a b) j = fo.add64 (lane64 a j) (lane64 b j) := by
  simp only [sse2.double_sse.add_vv, lane]
theorem sse2_double_sum (fo : FOps) (self : Reg) : sse2.double_sse.sum fo self = fo.add64 (lane64 self 0) (lane64 self 1) := by
  simp only [sse2.double_sse.sum, sse2.mm_sum_pd, lane, simprocAttr]
theorem sse2_double_product (fo : FOps) (self : Reg) : sse2.double_sse.product fo self = fo.mul64 (lane64 self 0) (lane64 self 1) := by
  simp only [sse2.double_sse.product, sse2.mm_prod_pd, lane, simprocAttr]
theorem sse2_double_reverse_lane (self : Reg) (j : Nat) (hj : j < 2) : lane64 (sse2.double_sse.reverse self) j = lane64 self (1 - j) := by
  interval_cases j <;> simp only [sse2.double_sse.reverse, sse2.mm_reverse_pd, lane, simprocAttr]
theorem sse2_double_maximum (fo : FOps) (self : Reg) : sse2.double_sse.maximum fo self = fo.max64 (lane64 self 0) (lane64 self 1) := by
  simp only [sse2.double_sse.maximum, sse2.mm_hmax_pd, sse2.mm_reverse_pd, lane, simprocAttr]

/-- the AVX emulation of the 8-lane 32-bit multiply (split into halves, SSE emulation / `_mm_mullo_epi32` on each half, re-insert) -/
theorem avx2_int32_mul_vv_lane (a b : Reg) (i : Nat) (hi : i < 8) : avx2.int32_avx.mul_vv a b i = a i * b i := by
  -- the upper half reads lane `i - 4 + 4` of the operands, under `4 ≤ i`: lane `i`, and the two branches agree
  simp (config := {contextual := true}) only [avx2.int32_avx.mul_vv, avx2.mm256_mul_epi32x, avx2.mm_mul_epi32x, lane, Nat.reduceMod, Nat.mul_one, Nat.sub_add_cancel, ite_self]
theorem avx2_int32_add_vv_lane (a b : Reg) (i : Nat) (hi : i < 8) : avx2.int32_avx.add_vv a b i = a i + b i := by
  simp (config := {contextual := true}) only [avx2.int32_avx.add_vv, avx2.mm256_add_epi32x, lane, Nat.reduceMod, Nat.mul_one, Nat.sub_add_cancel, ite_self]
theorem avx2_int32_sub_vs_lane (a : Reg) (s : BitVec 32) (i : Nat) (hi : i < 8) : avx2.int32_avx.sub_vs a s i = a i - s := by
  simp (config := {contextual := true}) only [avx2.int32_avx.sub_vs, avx2.mm256_sub_epi32x, lane, Nat.reduceMod, Nat.mul_one, Nat.sub_add_cancel, ite_self]
theorem avx2_int32_neg_lane (b : Reg) (i : Nat) (hi : i < 8) : avx2.int32_avx.neg b i = - b i := by
  simp (config := {contextual := true}) only [avx2.int32_avx.neg, avx2.mm256_sub_epi32x, lane, Nat.reduceMod, Nat.mul_one, Nat.sub_add_cancel, ite_self, BitVec.zero_sub]
/-- 8-lane reverse = swap the 128-bit halves (`permute2f128 .. 1`) then reverse inside each half (`shuffle_ps .. 27`) -/
theorem avx2_int32_reverse_lane (self : Reg) (i : Nat) (hi : i < 8) : avx2.int32_avx.reverse self i = self (7 - i) := by
  interval_cases i <;> simp only [avx2.int32_avx.reverse, avx2.mm256_reverse_epi32, avx2.mm256_reverse_ps, lane, simprocAttr]
theorem avx2_int32_abs_lane (a : Reg) (i : Nat) : avx2.int32_avx.abs a i = abs32 (a i) := by
  simp only [avx2.int32_avx.abs, lane]
theorem avx2_int32_set_sequential_lane (self : Reg) (n : BitVec 32) (i : Nat) (hi : i < 8) :
    avx2.int32_avx.set_sequential_s self n i = n + BitVec.ofNat 32 i := by
  interval_cases i <;> simp only [avx2.int32_avx.set_sequential_s, lane, BitVec.add_zero]
theorem avx2_int64_add_vv_lane (a b : Reg) (j : Nat) (hj : j < 4) : lane64 (avx2.int64_avx.add_vv a b) j = lane64 a j + lane64 b j := by
  simp (config := {contextual := true}) only [avx2.int64_avx.add_vv, avx2.mm256_add_epi64x, lane, Nat.reduceMod, Nat.mul_one, Nat.sub_add_cancel, ite_self]
theorem avx2_int64_reverse_lane (self : Reg) (j : Nat) (hj : j < 4) : lane64 (avx2.int64_avx.reverse self) j = lane64 self (3 - j) := by
  interval_cases j <;> simp only [avx2.int64_avx.reverse, avx2.mm256_reverse_epi64, avx2.mm256_reverse_pd, lane, simprocAttr]
theorem avx2_float_reverse_lane (self : Reg) (i : Nat) (hi : i < 8) : avx2.float_avx.reverse self i = self (7 - i) := by
  interval_cases i <;> simp only [avx2.float_avx.reverse, avx2.mm256_reverse_ps, lane, simprocAttr]
theorem avx2_float_neg_lane (b : Reg) (i : Nat) : avx2.float_avx.neg b i = fneg32 (b i) := by
  simp only [avx2.float_avx.neg, avx2.mm256_neg_ps, lane, fneg32, sign32]
theorem avx2_float_abs_lane (a : Reg) (i : Nat) : avx2.float_avx.abs a i = fabs32 (a i) := by
  simp only [avx2.float_avx.abs, avx2.mm256_abs_ps, lane, fabs32, sign32]
/-- the summation tree of the 8-lane float sum: add the halves, then the SSE tree -/
theorem avx2_float_sum_tree (fo : FOps) (x : Reg) :
    avx2.float_avx.sum fo x = fo.add32 (fo.add32 (fo.add32 (x 0) (x 4)) (fo.add32 (x 1) (x 5))) (fo.add32 (fo.add32 (x 2) (x 6)) (fo.add32 (x 3) (x 7))) := by
  simp only [avx2.float_avx.sum, avx2.mm256_sum_ps, avx2.mm_sum_ps, lane, simprocAttr]
/-- under associativity and commutativity the tree is the fold over the 8 lanes, each exactly once -/
theorem avx2_float_sum_fold (fo : FOps) (hassoc : ∀ x y z, fo.add32 (fo.add32 x y) z = fo.add32 x (fo.add32 y z))
    (hcomm : ∀ x y, fo.add32 x y = fo.add32 y x) (x : Reg) :
    avx2.float_avx.sum fo x = [x 1, x 2, x 3, x 4, x 5, x 6, x 7].foldl fo.add32 (x 0) := by
  rw [avx2_float_sum_tree]
  have : Std.Associative fo.add32 := ⟨hassoc⟩
  have : Std.Commutative fo.add32 := ⟨hcomm⟩
  simp only [List.foldl]
  ac_rfl
theorem avx2_float_product_tree (fo : FOps) (x : Reg) :
    avx2.float_avx.product fo x = fo.mul32 (fo.mul32 (fo.mul32 (x 0) (x 1)) (fo.mul32 (x 2) (x 3))) (fo.mul32 (fo.mul32 (x 4) (x 5)) (fo.mul32 (x 6) (x 7))) := by
  simp only [avx2.float_avx.product, avx2.mm256_prod_ps, avx2.mm_prod_ps, lane, simprocAttr]
theorem avx2_double_reverse_lane (self : Reg) (j : Nat) (hj : j < 4) : lane64 (avx2.double_avx.reverse self) j = lane64 self (3 - j) := by
  interval_cases j <;> simp only [avx2.double_avx.reverse, avx2.mm256_reverse_pd, lane, simprocAttr]
theorem avx2_double_sum_tree (fo : FOps) (x : Reg) :
    avx2.double_avx.sum fo x = fo.add64 (fo.add64 (lane64 x 0) (lane64 x 1)) (fo.add64 (lane64 x 2) (lane64 x 3)) := by
  simp only [avx2.double_avx.sum, avx2.mm256_sum_pd, lane, simprocAttr]
theorem avx2_double_product_tree (fo : FOps) (x : Reg) :
    avx2.double_avx.product fo x = fo.mul64 (fo.mul64 (lane64 x 2) (lane64 x 3)) (fo.mul64 (lane64 x 0) (lane64 x 1)) := by
  simp only [avx2.double_avx.product, avx2.mm256_prod_pd, lane, simprocAttr]
theorem avx2_double_maximum_tree (fo : FOps) (x : Reg) :
    avx2.double_avx.maximum fo x = fo.max64 (fo.max64 (lane64 x 0) (lane64 x 3)) (fo.max64 (lane64 x 1) (lane64 x 2)) := by
  simp only [avx2.double_avx.maximum, avx2.mm256_hmax_pd, avx2.mm256_reverse_pd, lane, simprocAttr]
theorem avx2_float_maximum_tree (fo : FOps) (x : Reg) :
    avx2.float_avx.maximum fo x = fo.max32 (fo.max32 (fo.max32 (x 0) (x 3)) (fo.max32 (x 1) (x 2))) (fo.max32 (fo.max32 (x 4) (x 7)) (fo.max32 (x 5) (x 6))) := by
  simp only [avx2.float_avx.maximum, avx2.mm256_hmax_ps, avx2.mm_reverse_ps, lane, simprocAttr]

/-- 16-lane reverse through `_mm512_permutexvar_epi32` with the index vector 15..0 -/
theorem avx512_int32_reverse_lane (self : Reg) (i : Nat) (hi : i < 16) : avx512.int32_avx512.reverse self i = self (15 - i) := by
  simp only [avx512.int32_avx512.reverse, avx512.mm512_reverse_epi32, lane]
  interval_cases i <;> simp only [lane, simprocAttr]
theorem avx512_float_reverse_lane (self : Reg) (i : Nat) (hi : i < 16) : avx512.float_avx512.reverse self i = self (15 - i) := by
  simp only [avx512.float_avx512.reverse, avx512.mm512_reverse_ps, lane]
  interval_cases i <;> simp only [lane, simprocAttr]
theorem avx512_int64_reverse_lane (self : Reg) (j : Nat) (hj : j < 8) : lane64 (avx512.int64_avx512.reverse self) j = lane64 self (7 - j) := by
  interval_cases j <;> simp only [avx512.int64_avx512.reverse, avx512.mm512_reverse_epi64, lane, simprocAttr]
theorem avx512_int32_mul_vv_lane (a b : Reg) (i : Nat) : avx512.int32_avx512.mul_vv a b i = a i * b i := by
  simp only [avx512.int32_avx512.mul_vv, lane]
theorem avx512_int32_neg_lane (b : Reg) (i : Nat) : avx512.int32_avx512.neg b i = - b i := by
  simp only [avx512.int32_avx512.neg, lane, BitVec.zero_sub]
theorem avx512_int64_mul_vv_lane (a b : Reg) (j : Nat) : lane64 (avx512.int64_avx512.mul_vv a b) j = lane64 a j * lane64 b j := by
  simp only [avx512.int64_avx512.mul_vv, lane]
/-- `sum()` through `_mm512_reduce_add_epi32` is the fold of + over the 16 lanes -/
theorem avx512_int32_sum (self : Reg) : avx512.int32_avx512.sum self = (List.range 16).foldl (fun s k => s + self k) 0 := by
  rfl
theorem avx512_int32_dot (a b : Reg) : avx512.int32_avx512.dot a b = (List.range 16).foldl (fun s k => s + a k * b k) 0 := by
  rfl
theorem avx512_int32_set_sequential_lane (self : Reg) (n : BitVec 32) (i : Nat) (hi : i < 16) :
    avx512.int32_avx512.set_sequential_s self n i = n + BitVec.ofNat 32 i := by
  simp only [avx512.int32_avx512.set_sequential_s, lane]
  interval_cases i <;> simp only [lane, BitVec.add_zero]
theorem avx512_float_neg_lane (b : Reg) (i : Nat) : avx512.float_avx512.neg b i = fneg32 (b i) := by
  simp only [avx512.float_avx512.neg, avx512.mm512_neg_ps, lane, fneg32, sign32]
theorem avx512_float_fmadd_free (fo : FOps) (a b : Reg) (i : Nat) : avx512.float_avx512.mul_vv fo a b i = fo.mul32 (a i) (b i) := by
  simp only [avx512.float_avx512.mul_vv, lane]

/-- non-vacuity of the associativity hypothesis: an `FOps` whose addition is associative exists (wrap-around addition) -/
example : ∃ fo : FOps, ∀ x y z, fo.add32 (fo.add32 x y) z = fo.add32 x (fo.add32 y z) :=
  ⟨⟨(· + ·), (· - ·), (· * ·), (· / ·), (fun a b => if a.ult b then a else b), (fun a b => if a.ult b then b else a), id, (fun a b c => a * b + c),
    (· + ·), (· - ·), (· * ·), (· / ·), (fun a b => if a.ult b then a else b), (fun a b => if a.ult b then b else a), id, (fun a b c => a * b + c)⟩,
   fun x y z => BitVec.add_assoc x y z⟩

end Fastor.C08
