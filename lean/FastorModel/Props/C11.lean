import FastorModel.Proofs.LUReconstruct
import FastorModel.Proofs.LUInv
import FastorModel.Proofs.LUExport
import Mathlib.Data.Rat.Defs
import Mathlib.Algebra.Order.Field.Rat
/-
  C11 — "For every size and each LU strategy (block, simple, and their pivoted forms with permutation returned as a vector or
  as a matrix), L is unit lower triangular with exact zeros above the diagonal, U is upper triangular with exact zeros below
  it, the returned permutation is a bijection, and L*U equals the permuted input […]. reconstruct(L,U,P) returns the original
  matrix […]."

  The theorems are about `Model/LU.lean`, which transcribes the loops, static views, size classes, split points and zero fills
  of backend/lufact.h, unary_lu_op.h and unary_piv_op.h, over ANY field `K` (exact arithmetic: what a wrong index, split, fill
  or swap breaks), for EVERY size n.  `IsLU n A L U` is the specification: unit diagonal, exact zeros above (L) / below (U)
  the diagonal, `L*U = A`.  `LUDefined` says that the pivots the chosen strategy divides by are non-zero (defined by running
  the model itself, i.e. "non-zero pivots as met by the strategy").

  `tinverse` / `tmatmul` / `matmul` enter as their exact results (hypothesis `InvSpec`, discharged by C10 / C17 / C01).
  The floating-point backward-error bound of the property is outside what is proved (measured by the harness, labelled a test).
-/
namespace Fastor.C11
open Fastor.LU Finset

variable {K : Type} [Field K]

/-- both blocks of the blocked size classes are non-empty and strictly smaller: the recursion of `lu_block_dispatcher` is well
founded, never produces an empty tensor and never reaches the unrolled kernels -/
theorem blockSplit_bounds (n : Nat) (h : 32 < n) : 16 ≤ blockSplit n ∧ blockSplit n < n ∧ blockSplit n ≤ n - blockSplit n :=
  blockSplit_bounds' n h

/-- the unrolled kernels `_lufact<T,N>` (the code has N = 1..8; the pattern is right for every N) -/
theorem lufact_unrolled_correct (n : Nat) (A : Mat K) (hdef : UnrolledDefined n A) :
    IsLU n A (lufactUnrolled n A).1 (lufactUnrolled n A).2 := lufactUnrolled_isLU n A hdef

/-- `lu_simple_dispatcher` for M > 8: the Doolittle loop nest, every size -/
theorem lu_simple_loops_correct (n : Nat) (A : Mat K) (hdef : SimpleDefined n A) :
    IsLU n A (luSimpleLoops n A).1 (luSimpleLoops n A).2 := luSimpleLoops_isLU n A hdef

/-- `recursive_lu_dispatcher`, every size M ≥ 2, whatever L and U held before -/
theorem lu_recursive_correct (n : Nat) (hn : 2 ≤ n) (A L0 U0 : Mat K) (hdef : RecDefined n A) :
    IsLU n A (luRecursive n A L0 U0).1 (luRecursive n A L0 U0).2 :=
  luRecursive_isLU n hn A L0 U0 hdef

/-- one step of `lu_block_dispatcher` for EVERY split point N ≤ n (the code's `(M/8*8)/2` and `(M/16*16)/2` are instances):
if the two sub-factorisations are right and the triangular inverses are inverses, the assembled factors are right; the two
blocks the dispatcher does not write are zero because the destination was zero. -/
theorem lu_block_step (ops : InvOps K) (hops : InvSpec ops) (n N : Nat) (hN : N ≤ n) (A L0 U0 L11 U11 L22 U22 X Y : Mat K)
    (h11 : IsLU N (A.block 0 0 N N) L11 U11) (hd : ∀ i, i < N → U11.get i i ≠ 0)
    (hL0 : ∀ i j, i < n → j < n → i < j → L0.get i j = 0) (hU0 : ∀ i j, i < n → j < n → j < i → U0.get i j = 0)
    (h22 : IsLU (n - N)
      (Mat.sub (n - N) (n - N) (A.block N N (n - N) (n - N))
        (Mat.mul (n - N) N (n - N) (Mat.mul (n - N) N N (A.block N 0 (n - N) N) (ops.invUpper N U11))
          (Mat.mul N N (n - N) (ops.invLower N L11) (A.block 0 N N (n - N))))) L22 U22) :
    IsLU n A
      (assemble n N L0 L11 X (Mat.mul (n - N) N N (A.block N 0 (n - N) N) (ops.invUpper N U11)) L22 false)
      (assemble n N U0 U11 (Mat.mul N N (n - N) (ops.invLower N L11) (A.block 0 N N (n - N))) Y U22 true) :=
  block_step n N hN A L0 U0 L11 U11 _ _ L22 U22 X Y h11 (hops.lower_cancel _ _ _ _ h11.diag h11.lzero)
    (hops.upper_cancel _ _ _ _ h11.uzero hd) hL0 hU0 h22

/-- the factorisation kernel behind each public strategy, EVERY n: `L.fill(0); U.fill(0); lu_block_dispatcher` (unrolled 1..8,
recursive 9..32, blocked 33..64 with split `(M/8*8)/2`, blocked > 64 with split `(M/16*16)/2` and the sub-dispatch of
`useless::lu_block_simple_dispatcher`) and `lu_simple_dispatcher` (unrolled 1..8, Doolittle loops above) -/
theorem lu_core_correct (ops : InvOps K) (hops : InvSpec ops) (blk : Bool) (n : Nat) (A : Mat K) (hdef : CoreDefined ops blk n A) :
    IsLU n A (luCore ops blk n A).1 (luCore ops blk n A).2 :=
  Fastor.LU.lu_core_correct ops hops blk n A hdef

/-- the static pivot: for EVERY input (any comparison `gt`, any matrix) the vector produced by the swap loop of
`pivot_inplace` is a bijection of 0..n-1 -/
theorem pivot_perm {α : Type} [Zero α] (gt : α → α → Bool) (n : Nat) (A : Mat α) :
    (pivotPerm gt n A).size = n ∧ (∀ i, i < n → (pivotPerm gt n A).getD i 0 < n) ∧
    (∀ i j, i < n → j < n → (pivotPerm gt n A).getD i 0 = (pivotPerm gt n A).getD j 0 → i = j) ∧
    (∀ v, v < n → ∃ i, i < n ∧ (pivotPerm gt n A).getD i 0 = v) :=
  pivotPerm_bijection gt n A

/-- the matrix encoding is the permutation matrix of that vector (`P.fill(0)` included: every other entry is an exact zero) -/
theorem pivot_matrix (gt : K → K → Bool) (n : Nat) (A : Mat K) (i j : Nat) (hi : i < n) (hj : j < n) :
    (pivotMat n (pivotPerm gt n A) : Mat K).get i j = if (pivotPerm gt n A).getD i 0 = j then 1 else 0 :=
  pivotMat_get n _ (pivotPerm_bijection gt n A).2.1 i j hi

/-- **lu_correct** — `lu<LUCompType::S>(A, L, U[, p])` for EVERY strategy S (BlockLU, SimpleLU, BlockLUPiv, SimpleLUPiv), EVERY
size n and every A on which S is defined: L unit lower triangular with exact zeros above the diagonal, U upper triangular with
exact zeros below it, `L*U = P*A` (`(P*A)(i,j) = A(p(i),j)`; p = identity for the unpivoted strategies), p a bijection. -/
theorem lu_correct (ops : InvOps K) (hops : InvSpec ops) (gt : K → K → Bool) (s : Strategy) (n : Nat) (A : Mat K)
    (hdef : LUDefined ops gt s n A) :
    let r := luPublicV ops gt s n A
    (∀ i, i < n → r.L.get i i = 1) ∧ (∀ i j, i < n → j < n → i < j → r.L.get i j = 0) ∧
    (∀ i j, i < n → j < n → j < i → r.U.get i j = 0) ∧
    (∀ i j, i < n → j < n → ∑ m ∈ range n, r.L.get i m * r.U.get m j = A.get (r.perm.getD i 0) j) ∧
    (∀ i, i < n → r.perm.getD i 0 < n) ∧
    (∀ i j, i < n → j < n → r.perm.getD i 0 = r.perm.getD j 0 → i = j) ∧
    (∀ v, v < n → ∃ i, i < n ∧ r.perm.getD i 0 = v) :=
  Fastor.LU.lu_correct ops hops gt s n A hdef

/-- the matrix encoding (`lu(A, L, U, Tensor<T,M,M>& P)`): `pivot_inplace` stores the permutation matrix, `apply_pivot` reads it
back with `std::find`, and the factors are THE SAME as with the vector encoding; so `lu_correct` covers both encodings. -/
theorem lu_matrix_encoding (ops : InvOps K) (gt : K → K → Bool) (isOne : K → Bool) (h1 : isOne 1 = true) (h0 : isOne 0 = false)
    (s : Strategy) (hs : s.pivoted = true) (n : Nat) (A : Mat K) :
    (luPublicM ops gt isOne s n A).L = (luPublicV ops gt s n A).L ∧ (luPublicM ops gt isOne s n A).U = (luPublicV ops gt s n A).U ∧
    (luPublicM ops gt isOne s n A).perm = (luPublicV ops gt s n A).perm ∧
    ∀ i j, i < n → j < n → (luPublicM ops gt isOne s n A).P.get i j = if (luPublicV ops gt s n A).perm.getD i 0 = j then 1 else 0 := by
  have pb := pivotPerm_bijection gt n A
  obtain ⟨eL, eU, ep⟩ := luPublicV_eq ops gt s n A
  rw [hs, if_pos rfl] at eL eU ep
  have hb : (s == .blockPiv || s == .block) = blocked s := by cases s <;> rfl
  have eM : luPublicM ops gt isOne s n A =
      ⟨(luCore ops (blocked s) n (applyPivotV n A (pivotPerm gt n A))).1,
       (luCore ops (blocked s) n (applyPivotV n A (pivotPerm gt n A))).2, pivotPerm gt n A, pivotMat n (pivotPerm gt n A)⟩ := by
    rw [luPublicM, hb, applyPivotM_eq isOne h1 h0 n A (pivotPerm gt n A) pb.2.1]
  rw [eM, eL, eU, ep]
  exact ⟨rfl, rfl, rfl, fun i j hi _ => pivotMat_get n _ pb.2.1 i j hi⟩

/-- **reconstruct_correct** — `reconstruct(L, U, p)` returns the original matrix, every strategy, every size -/
theorem reconstruct_correct (ops : InvOps K) (hops : InvSpec ops) (gt : K → K → Bool) (s : Strategy) (n : Nat) (A : Mat K)
    (hdef : LUDefined ops gt s n A) (r j : Nat) (hr : r < n) (hj : j < n) :
    (reconstructV n (luPublicV ops gt s n A).L (luPublicV ops gt s n A).U (luPublicV ops gt s n A).perm).get r j = A.get r j := by
  have h := lu_post ops hops gt s n A hdef
  exact reconstructV_correct n A _ _ _ h.inrange h.inj h.surj h.isLU r j hr hj

/-- the matrix form of `reconstruct` reads the same permutation back -/
theorem reconstruct_matrix_encoding (isOne : K → Bool) (h1 : isOne 1 = true) (h0 : isOne 0 = false) (n : Nat) (L U : Mat K)
    (perm : Array Nat) (hlt : ∀ i, i < n → perm.getD i 0 < n) :
    reconstructM isOne n L U (pivotMat n perm : Mat K) = reconstructV n L U perm := by
  unfold reconstructM reconstructV
  apply List.foldl_ext
  intro M i hi
  rw [findOne_pivotMat isOne h1 h0 n perm hlt i (List.mem_range.1 hi)]

/-- the triangular inverses that `fmodel` executes ARE inverses: `InvSpec` is not vacuous, and the model run in the
correspondence is an instance of the model the theorems speak about -/
theorem exec_ops_spec : InvSpec (execOps : InvOps K) := execOps_spec

/-- `lu_correct` for the executed model (no hypothesis on the inverses left) -/
theorem lu_correct_exec (gt : K → K → Bool) (s : Strategy) (n : Nat) (A : Mat K)
    (hdef : LUDefined (execOps : InvOps K) gt s n A) (i j : Nat) (hi : i < n) (hj : j < n) :
    ∑ m ∈ range n, (luPublicV execOps gt s n A).L.get i m * (luPublicV execOps gt s n A).U.get m j =
      A.get ((luPublicV execOps gt s n A).perm.getD i 0) j :=
  (lu_correct execOps execOps_spec gt s n A hdef).2.2.2.1 i j hi hj

/-! ### non-vacuity: concrete matrices on which the strategies are defined -/
/-- a 9×9 tridiagonal rational matrix (the smallest size of the recursive class) -/
def exA : Mat ℚ := Mat.ofFn 9 9 fun i j => if i = j then 4 else if i + 1 = j ∨ j + 1 = i then 1 else 0
/-- the same with rows 0 and 1 exchanged: the static pivot has to swap -/
def exB : Mat ℚ := Mat.ofFn 9 9 fun i j => exA.get (if i = 0 then 1 else if i = 1 then 0 else i) j
/-- a 3×3 matrix for the unrolled kernels -/
def exC : Mat ℚ := Mat.ofFn 3 3 fun i j => if i = j then 3 else 1
def exGt (a b : ℚ) : Bool := decide (b * b < a * a)

instance (n : Nat) (A : Mat ℚ) : Decidable (RecDefined n A) := by unfold RecDefined; infer_instance
instance (n : Nat) (A : Mat ℚ) : Decidable (SimpleDefined n A) := by unfold SimpleDefined; infer_instance
instance (n : Nat) (A : Mat ℚ) : Decidable (UnrolledDefined n A) :=
  decidable_of_iff (∀ s, s < n - 1 → (unrolledState n A (s + 1)).2.get s s ≠ 0)
    ⟨fun h s hs => h s (by omega), fun h s hs => h s (by omega)⟩

/-- the diagonal of `U` after the right-looking elimination of `exA`: its pivots -/
theorem exA_pivots : ∀ i, i < 9 → (recState 9 exA 8).2.get i i ≠ 0 := by decide +kernel
theorem exA_recDefined : RecDefined 9 exA := recDefined_of_diag 9 exA fun k hk => exA_pivots k (by omega)
/-- the nine pivots of the Doolittle loops on `exA` -/
theorem exA_simpleDefined : SimpleDefined 9 exA := by decide +kernel
/-- the static pivot of `exB` undoes the exchange: the pivoted strategies factorise `exA` -/
theorem exB_pivoted : applyPivotV 9 exB (pivotPerm exGt 9 exB) = exA := by decide +kernel

example : RecDefined 9 exA := exA_recDefined
example : SimpleDefined 9 exA := exA_simpleDefined
example : UnrolledDefined 3 exC := by decide +kernel
example : LUDefined (execOps : InvOps ℚ) exGt .block 9 exA := by
  unfold LUDefined CoreDefined
  simp only [blocked, Strategy.pivoted, if_true, Bool.false_eq_true, if_false]
  rw [BlockDefined, dif_neg (by decide), dif_pos (by decide)]
  exact exA_recDefined
example : (pivotPerm exGt 9 exB).toList = [1, 0, 2, 3, 4, 5, 6, 7, 8] := by decide +kernel
example : LUDefined (execOps : InvOps ℚ) exGt .blockPiv 9 exB := by
  unfold LUDefined CoreDefined
  simp only [blocked, Strategy.pivoted, if_true]
  rw [exB_pivoted, BlockDefined, dif_neg (by decide), dif_pos (by decide)]
  exact exA_recDefined
example : LUDefined (execOps : InvOps ℚ) exGt .simplePiv 9 exB := by
  unfold LUDefined CoreDefined
  simp only [blocked, Strategy.pivoted, if_true, Bool.false_eq_true, if_false]
  rw [exB_pivoted]
  exact exA_simpleDefined

end Fastor.C11
