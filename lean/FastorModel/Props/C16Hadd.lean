import FastorModel.Props.C16
import FastorModel.Generated.C16Hadd_avx2
import FastorModel.Generated.C16Hadd_avx512
/-!
# C16 — the `FASTOR_USE_HADD` bodies

`FASTOR_USE_HADD` (config/macros.h, a documented tuning macro) selects a second body for `_mm_sum_ps`, `_mm_sum_pd`, `_mm256_sum_ps`,
`_mm256_sum_pd` and `_add_pd(__m256d)`.  `Generated/C16Hadd_<isa>.lean` is the translation of the same source with `-DFASTOR_USE_HADD`
(props/c16_xlate.py, regenerated by every check): the four helpers, the `_add_*` helpers and the 16 intrinsic specialisations of the
reduction back ends that call them.  The theorems are the ones of Props/C16.lean, about these definitions: under the commutative-monoid
laws the helpers are `hfold` over ALL lanes, and under `RingDec32/64` the specialisations are the model's `trace`, `det2/det3`, the sum of
squares and `Σ a_i b_i`.  (A wrong half in `_add_pd(__m256d)` — `extractf128(a,0)` — regenerates a definition for which
`spec_*_hadd_norm_double_4_radicand`, `…_det_double_3`, `…_dc_double_3x3` no longer build.)
-/
namespace Fastor.C16
open Fastor.Simd Fastor.Gen Fastor.Reduce Finset

section hadd
variable (fo : FOps) {R : Type} [CommRing R]

/-! Configuration `avx2`.  The traces, the float determinants, `_det<double,2>` and the float norms do not call a helper the macro changes: their
    definitions have the text of the ones without the macro, and the theorems are those of Props/C16.lean. -/
theorem spec_avx2_hadd_trace_double_2x2 (a : Reg) : avx2.hadd.trace_double_2x2 fo a = fo.add64 (lane64 a 0) (lane64 a 3) :=
  spec_avx2_trace_double_2x2 fo a
theorem spec_avx2_hadd_trace_double_3x3 (a : Reg) : avx2.hadd.trace_double_3x3 fo a = fo.add64 (lane64 a 0) (fo.add64 (lane64 a 4) (lane64 a 8)) :=
  spec_avx2_trace_double_3x3 fo a
theorem spec_avx2_hadd_trace_float_2x2 (a : Reg) : avx2.hadd.trace_float_2x2 fo a = fo.add32 (a 0) (a 3) :=
  spec_avx2_trace_float_2x2 fo a
theorem spec_avx2_hadd_trace_float_3x3 (a : Reg) : avx2.hadd.trace_float_3x3 fo a = fo.add32 (fo.add32 (a 0) (a 4)) (a 8) :=
  spec_avx2_trace_float_3x3 fo a
/-! the specialised traces are the model's `trace` (the sum of the diagonal `i*M+i`) -/
theorem spec_avx2_hadd_trace_float_3x3_model (val : BitVec 32 → R) (h : RingDec32 fo val) (a : Reg) :
    val (avx2.hadd.trace_float_3x3 fo a) = Reduce.trace (fun i => val (a i)) 3 :=
  spec_avx2_trace_float_3x3_model fo val h a
theorem spec_avx2_hadd_trace_double_3x3_model (val : BitVec 64 → R) (h : RingDec64 fo val) (a : Reg) :
    val (avx2.hadd.trace_double_3x3 fo a) = Reduce.trace (fun i => val (lane64 a i)) 3 :=
  spec_avx2_trace_double_3x3_model fo val h a
theorem spec_avx2_hadd_trace_float_2x2_model (val : BitVec 32 → R) (h : RingDec32 fo val) (a : Reg) :
    val (avx2.hadd.trace_float_2x2 fo a) = Reduce.trace (fun i => val (a i)) 2 :=
  spec_avx2_trace_float_2x2_model fo val h a
theorem spec_avx2_hadd_trace_double_2x2_model (val : BitVec 64 → R) (h : RingDec64 fo val) (a : Reg) :
    val (avx2.hadd.trace_double_2x2 fo a) = Reduce.trace (fun i => val (lane64 a i)) 2 :=
  spec_avx2_trace_double_2x2_model fo val h a

/-! the AVX `_det` code for 2x2 and 3x3 float / double matrices decodes to the closed forms `det2` / `det3` of the model
    (= `Matrix.det` by `det2_correct`, `det3_correct`) -/
theorem spec_avx2_hadd_det_float_2 (val : BitVec 32 → R) (h : RingDec32 fo val) (a : Reg) :
    val (avx2.hadd.det_float_2 fo a) = det2 (fun i => val (a i)) :=
  spec_avx2_det_float_2 fo val h a
theorem spec_avx2_hadd_det_double_2 (val : BitVec 64 → R) (h : RingDec64 fo val) (a : Reg) :
    val (avx2.hadd.det_double_2 fo a) = det2 (fun i => val (lane64 a i)) :=
  spec_avx2_det_double_2 fo val h a
theorem spec_avx2_hadd_det_float_3 (val : BitVec 32 → R) (h : RingDec32 fo val) (a : Reg) :
    val (avx2.hadd.det_float_3 fo a) = det3 (fun i => val (a i)) :=
  spec_avx2_det_float_3 fo val h a
theorem spec_avx2_hadd_det_double_3 (val : BitVec 64 → R) (h : RingDec64 fo val) (a : Reg) :
    val (avx2.hadd.det_double_3 fo a) = det3 (fun i => val (lane64 a i)) := by
  simp only [avx2.hadd.det_double_3, avx2.hadd.h_add_pd_m256d, avx2.hadd.h_add_pd, lane, simprocAttr, det3, h.sub, h.mul, h.add]
  ring

/-! `_norm<T,4|9>`: the result is `sqrt` of the radicand, and the radicand decodes to the sum of squares of all elements -/
theorem spec_avx2_hadd_norm_float_4_sqrt (a : Reg) : avx2.hadd.norm_float_4 fo a = fo.sqrt32 (avx2.hadd.norm_float_4 (noSqrt fo) a) :=
  spec_avx2_norm_float_4_sqrt fo a
theorem spec_avx2_hadd_norm_float_4_radicand (val : BitVec 32 → R) (h : RingDec32 fo val) (a : Reg) :
    val (avx2.hadd.norm_float_4 (noSqrt fo) a) = ∑ i ∈ range 4, val (a i) * val (a i) :=
  spec_avx2_norm_float_4_radicand fo val h a
theorem spec_avx2_hadd_norm_float_9_sqrt (a : Reg) : avx2.hadd.norm_float_9 fo a = fo.sqrt32 (avx2.hadd.norm_float_9 (noSqrt fo) a) :=
  spec_avx2_norm_float_9_sqrt fo a
theorem spec_avx2_hadd_norm_float_9_radicand (val : BitVec 32 → R) (h : RingDec32 fo val) (a : Reg) :
    val (avx2.hadd.norm_float_9 (noSqrt fo) a) = ∑ i ∈ range 9, val (a i) * val (a i) :=
  spec_avx2_norm_float_9_radicand fo val h a
theorem spec_avx2_hadd_norm_double_4_sqrt (a : Reg) : avx2.hadd.norm_double_4 fo a = fo.sqrt64 (avx2.hadd.norm_double_4 (noSqrt fo) a) := by
  simp only [avx2.hadd.norm_double_4, avx2.hadd.h_add_pd_m256d, avx2.hadd.h_add_pd, lane, simprocAttr, noSqrt, id]
theorem spec_avx2_hadd_norm_double_4_radicand (val : BitVec 64 → R) (h : RingDec64 fo val) (a : Reg) :
    val (avx2.hadd.norm_double_4 (noSqrt fo) a) = ∑ i ∈ range 4, val (lane64 a i) * val (lane64 a i) := by
  simp only [avx2.hadd.norm_double_4, avx2.hadd.h_add_pd_m256d, avx2.hadd.h_add_pd, lane, simprocAttr, noSqrt, id, h.add, h.mul, Finset.sum_range_succ, Finset.sum_range_zero]
  ring
theorem spec_avx2_hadd_norm_double_9_sqrt (a : Reg) : avx2.hadd.norm_double_9 fo a = fo.sqrt64 (avx2.hadd.norm_double_9 (noSqrt fo) a) := by
  simp only [avx2.hadd.norm_double_9, avx2.hadd.h_add_pd_m256d, avx2.hadd.h_add_pd, lane, simprocAttr, noSqrt, id]
theorem spec_avx2_hadd_norm_double_9_radicand (val : BitVec 64 → R) (h : RingDec64 fo val) (a : Reg) :
    val (avx2.hadd.norm_double_9 (noSqrt fo) a) = ∑ i ∈ range 9, val (lane64 a i) * val (lane64 a i) := by
  simp only [avx2.hadd.norm_double_9, avx2.hadd.h_add_pd_m256d, avx2.hadd.h_add_pd, lane, simprocAttr, noSqrt, id, h.add, h.mul, h.val_zero, Finset.sum_range_succ, Finset.sum_range_zero]
  ring

/-! `_doublecontract<T,2,2|3,3>` decodes to `Σ a_i b_i` over all 4 / 9 elements -/
theorem spec_avx2_hadd_dc_float_2x2 (val : BitVec 32 → R) (h : RingDec32 fo val) (a b : Reg) :
    val (avx2.hadd.doublecontract_float_2x2 fo a b) = ∑ i ∈ range 4, val (a i) * val (b i) := by
  simp only [avx2.hadd.doublecontract_float_2x2, avx2.hadd.mm_sum_ps, lane, simprocAttr, h.add, h.mul, Finset.sum_range_succ, Finset.sum_range_zero]
  ring
theorem spec_avx2_hadd_dc_float_3x3 (val : BitVec 32 → R) (h : RingDec32 fo val) (a b : Reg) :
    val (avx2.hadd.doublecontract_float_3x3 fo a b) = ∑ i ∈ range 9, val (a i) * val (b i) := by
  simp only [avx2.hadd.doublecontract_float_3x3, avx2.hadd.mm_sum_ps, avx2.hadd.mm256_sum_ps, lane, simprocAttr, h.add, h.mul, h.val_zero, Finset.sum_range_succ, Finset.sum_range_zero]
  ring
theorem spec_avx2_hadd_dc_double_2x2 (val : BitVec 64 → R) (h : RingDec64 fo val) (a b : Reg) :
    val (avx2.hadd.doublecontract_double_2x2 fo a b) = ∑ i ∈ range 4, val (lane64 a i) * val (lane64 b i) := by
  simp only [avx2.hadd.doublecontract_double_2x2, avx2.hadd.mm256_sum_pd, lane, simprocAttr, h.add, h.mul, Finset.sum_range_succ, Finset.sum_range_zero]
  ring
theorem spec_avx2_hadd_dc_double_3x3 (val : BitVec 64 → R) (h : RingDec64 fo val) (a b : Reg) :
    val (avx2.hadd.doublecontract_double_3x3 fo a b) = ∑ i ∈ range 9, val (lane64 a i) * val (lane64 b i) := by
  simp only [avx2.hadd.doublecontract_double_3x3, avx2.hadd.h_add_pd_m256d, avx2.hadd.h_add_pd, lane, simprocAttr, h.add, h.mul, h.val_zero, Finset.sum_range_succ, Finset.sum_range_zero]
  ring

/-! the HADD bodies of the horizontal sums are `hfold` over all lanes under the commutative-monoid laws (the trees are in lane
    order: associativity suffices) -/
set_option linter.unusedVariables false in
theorem gen_avx2_hadd_mm_sum_ps (hassoc : ∀ x y z, fo.add32 (fo.add32 x y) z = fo.add32 x (fo.add32 y z)) (hcomm : ∀ x y, fo.add32 x y = fo.add32 y x)
    (e : BitVec 32) (hid : ∀ x, fo.add32 e x = x) (a : Reg) : avx2.hadd.mm_sum_ps fo a = hfold fo.add32 e 4 (fun l => a l) := by
  simp only [avx2.hadd.mm_sum_ps, lane, simprocAttr, hfold, List.range_succ, List.range_zero, List.foldl, hid, hassoc]
set_option linter.unusedVariables false in
theorem gen_avx2_hadd_mm256_sum_ps (hassoc : ∀ x y z, fo.add32 (fo.add32 x y) z = fo.add32 x (fo.add32 y z)) (hcomm : ∀ x y, fo.add32 x y = fo.add32 y x)
    (e : BitVec 32) (hid : ∀ x, fo.add32 e x = x) (a : Reg) : avx2.hadd.mm256_sum_ps fo a = hfold fo.add32 e 8 (fun l => a l) := by
  simp only [avx2.hadd.mm256_sum_ps, lane, simprocAttr, hfold, List.range_succ, List.range_zero, List.foldl, hid, hassoc]
theorem gen_avx2_hadd_mm_sum_pd (e : BitVec 64) (hid : ∀ x, fo.add64 e x = x) (a : Reg) :
    avx2.hadd.mm_sum_pd fo a = hfold fo.add64 e 2 (fun l => lane64 a l) := by
  simp only [avx2.hadd.mm_sum_pd, lane, simprocAttr, hfold, List.range_succ, List.range_zero, List.foldl, hid]
set_option linter.unusedVariables false in
theorem gen_avx2_hadd_mm256_sum_pd (hassoc : ∀ x y z, fo.add64 (fo.add64 x y) z = fo.add64 x (fo.add64 y z)) (hcomm : ∀ x y, fo.add64 x y = fo.add64 y x)
    (e : BitVec 64) (hid : ∀ x, fo.add64 e x = x) (a : Reg) : avx2.hadd.mm256_sum_pd fo a = hfold fo.add64 e 4 (fun l => lane64 a l) := by
  simp only [avx2.hadd.mm256_sum_pd, lane, simprocAttr, hfold, List.range_succ, List.range_zero, List.foldl, hid, hassoc]

/-! Configuration `avx512`: the generated definitions have the text of those of `avx2`, and so have the theorems. -/
theorem spec_avx512_hadd_trace_double_2x2 (a : Reg) : avx512.hadd.trace_double_2x2 fo a = fo.add64 (lane64 a 0) (lane64 a 3) :=
  spec_avx2_hadd_trace_double_2x2 fo a
theorem spec_avx512_hadd_trace_double_3x3 (a : Reg) : avx512.hadd.trace_double_3x3 fo a = fo.add64 (lane64 a 0) (fo.add64 (lane64 a 4) (lane64 a 8)) :=
  spec_avx2_hadd_trace_double_3x3 fo a
theorem spec_avx512_hadd_trace_float_2x2 (a : Reg) : avx512.hadd.trace_float_2x2 fo a = fo.add32 (a 0) (a 3) :=
  spec_avx2_hadd_trace_float_2x2 fo a
theorem spec_avx512_hadd_trace_float_3x3 (a : Reg) : avx512.hadd.trace_float_3x3 fo a = fo.add32 (fo.add32 (a 0) (a 4)) (a 8) :=
  spec_avx2_hadd_trace_float_3x3 fo a
theorem spec_avx512_hadd_trace_float_3x3_model (val : BitVec 32 → R) (h : RingDec32 fo val) (a : Reg) :
    val (avx512.hadd.trace_float_3x3 fo a) = Reduce.trace (fun i => val (a i)) 3 :=
  spec_avx2_hadd_trace_float_3x3_model fo val h a
theorem spec_avx512_hadd_trace_double_3x3_model (val : BitVec 64 → R) (h : RingDec64 fo val) (a : Reg) :
    val (avx512.hadd.trace_double_3x3 fo a) = Reduce.trace (fun i => val (lane64 a i)) 3 :=
  spec_avx2_hadd_trace_double_3x3_model fo val h a
theorem spec_avx512_hadd_trace_float_2x2_model (val : BitVec 32 → R) (h : RingDec32 fo val) (a : Reg) :
    val (avx512.hadd.trace_float_2x2 fo a) = Reduce.trace (fun i => val (a i)) 2 :=
  spec_avx2_hadd_trace_float_2x2_model fo val h a
theorem spec_avx512_hadd_trace_double_2x2_model (val : BitVec 64 → R) (h : RingDec64 fo val) (a : Reg) :
    val (avx512.hadd.trace_double_2x2 fo a) = Reduce.trace (fun i => val (lane64 a i)) 2 :=
  spec_avx2_hadd_trace_double_2x2_model fo val h a

theorem spec_avx512_hadd_det_float_2 (val : BitVec 32 → R) (h : RingDec32 fo val) (a : Reg) :
    val (avx512.hadd.det_float_2 fo a) = det2 (fun i => val (a i)) :=
  spec_avx2_hadd_det_float_2 fo val h a
theorem spec_avx512_hadd_det_double_2 (val : BitVec 64 → R) (h : RingDec64 fo val) (a : Reg) :
    val (avx512.hadd.det_double_2 fo a) = det2 (fun i => val (lane64 a i)) :=
  spec_avx2_hadd_det_double_2 fo val h a
theorem spec_avx512_hadd_det_float_3 (val : BitVec 32 → R) (h : RingDec32 fo val) (a : Reg) :
    val (avx512.hadd.det_float_3 fo a) = det3 (fun i => val (a i)) :=
  spec_avx2_hadd_det_float_3 fo val h a
theorem spec_avx512_hadd_det_double_3 (val : BitVec 64 → R) (h : RingDec64 fo val) (a : Reg) :
    val (avx512.hadd.det_double_3 fo a) = det3 (fun i => val (lane64 a i)) :=
  spec_avx2_hadd_det_double_3 fo val h a

theorem spec_avx512_hadd_norm_float_4_sqrt (a : Reg) : avx512.hadd.norm_float_4 fo a = fo.sqrt32 (avx512.hadd.norm_float_4 (noSqrt fo) a) :=
  spec_avx2_hadd_norm_float_4_sqrt fo a
theorem spec_avx512_hadd_norm_float_4_radicand (val : BitVec 32 → R) (h : RingDec32 fo val) (a : Reg) :
    val (avx512.hadd.norm_float_4 (noSqrt fo) a) = ∑ i ∈ range 4, val (a i) * val (a i) :=
  spec_avx2_hadd_norm_float_4_radicand fo val h a
theorem spec_avx512_hadd_norm_float_9_sqrt (a : Reg) : avx512.hadd.norm_float_9 fo a = fo.sqrt32 (avx512.hadd.norm_float_9 (noSqrt fo) a) :=
  spec_avx2_hadd_norm_float_9_sqrt fo a
theorem spec_avx512_hadd_norm_float_9_radicand (val : BitVec 32 → R) (h : RingDec32 fo val) (a : Reg) :
    val (avx512.hadd.norm_float_9 (noSqrt fo) a) = ∑ i ∈ range 9, val (a i) * val (a i) :=
  spec_avx2_hadd_norm_float_9_radicand fo val h a
theorem spec_avx512_hadd_norm_double_4_sqrt (a : Reg) : avx512.hadd.norm_double_4 fo a = fo.sqrt64 (avx512.hadd.norm_double_4 (noSqrt fo) a) :=
  spec_avx2_hadd_norm_double_4_sqrt fo a
theorem spec_avx512_hadd_norm_double_4_radicand (val : BitVec 64 → R) (h : RingDec64 fo val) (a : Reg) :
    val (avx512.hadd.norm_double_4 (noSqrt fo) a) = ∑ i ∈ range 4, val (lane64 a i) * val (lane64 a i) :=
  spec_avx2_hadd_norm_double_4_radicand fo val h a
theorem spec_avx512_hadd_norm_double_9_sqrt (a : Reg) : avx512.hadd.norm_double_9 fo a = fo.sqrt64 (avx512.hadd.norm_double_9 (noSqrt fo) a) :=
  spec_avx2_hadd_norm_double_9_sqrt fo a
theorem spec_avx512_hadd_norm_double_9_radicand (val : BitVec 64 → R) (h : RingDec64 fo val) (a : Reg) :
    val (avx512.hadd.norm_double_9 (noSqrt fo) a) = ∑ i ∈ range 9, val (lane64 a i) * val (lane64 a i) :=
  spec_avx2_hadd_norm_double_9_radicand fo val h a

theorem spec_avx512_hadd_dc_float_2x2 (val : BitVec 32 → R) (h : RingDec32 fo val) (a b : Reg) :
    val (avx512.hadd.doublecontract_float_2x2 fo a b) = ∑ i ∈ range 4, val (a i) * val (b i) :=
  spec_avx2_hadd_dc_float_2x2 fo val h a b
theorem spec_avx512_hadd_dc_float_3x3 (val : BitVec 32 → R) (h : RingDec32 fo val) (a b : Reg) :
    val (avx512.hadd.doublecontract_float_3x3 fo a b) = ∑ i ∈ range 9, val (a i) * val (b i) :=
  spec_avx2_hadd_dc_float_3x3 fo val h a b
theorem spec_avx512_hadd_dc_double_2x2 (val : BitVec 64 → R) (h : RingDec64 fo val) (a b : Reg) :
    val (avx512.hadd.doublecontract_double_2x2 fo a b) = ∑ i ∈ range 4, val (lane64 a i) * val (lane64 b i) :=
  spec_avx2_hadd_dc_double_2x2 fo val h a b
theorem spec_avx512_hadd_dc_double_3x3 (val : BitVec 64 → R) (h : RingDec64 fo val) (a b : Reg) :
    val (avx512.hadd.doublecontract_double_3x3 fo a b) = ∑ i ∈ range 9, val (lane64 a i) * val (lane64 b i) :=
  spec_avx2_hadd_dc_double_3x3 fo val h a b

theorem gen_avx512_hadd_mm_sum_ps (hassoc : ∀ x y z, fo.add32 (fo.add32 x y) z = fo.add32 x (fo.add32 y z)) (hcomm : ∀ x y, fo.add32 x y = fo.add32 y x)
    (e : BitVec 32) (hid : ∀ x, fo.add32 e x = x) (a : Reg) : avx512.hadd.mm_sum_ps fo a = hfold fo.add32 e 4 (fun l => a l) :=
  gen_avx2_hadd_mm_sum_ps fo hassoc hcomm e hid a
theorem gen_avx512_hadd_mm256_sum_ps (hassoc : ∀ x y z, fo.add32 (fo.add32 x y) z = fo.add32 x (fo.add32 y z)) (hcomm : ∀ x y, fo.add32 x y = fo.add32 y x)
    (e : BitVec 32) (hid : ∀ x, fo.add32 e x = x) (a : Reg) : avx512.hadd.mm256_sum_ps fo a = hfold fo.add32 e 8 (fun l => a l) :=
  gen_avx2_hadd_mm256_sum_ps fo hassoc hcomm e hid a
theorem gen_avx512_hadd_mm_sum_pd (e : BitVec 64) (hid : ∀ x, fo.add64 e x = x) (a : Reg) :
    avx512.hadd.mm_sum_pd fo a = hfold fo.add64 e 2 (fun l => lane64 a l) :=
  gen_avx2_hadd_mm_sum_pd fo e hid a
theorem gen_avx512_hadd_mm256_sum_pd (hassoc : ∀ x y z, fo.add64 (fo.add64 x y) z = fo.add64 x (fo.add64 y z)) (hcomm : ∀ x y, fo.add64 x y = fo.add64 y x)
    (e : BitVec 64) (hid : ∀ x, fo.add64 e x = x) (a : Reg) : avx512.hadd.mm256_sum_pd fo a = hfold fo.add64 e 4 (fun l => lane64 a l) :=
  gen_avx2_hadd_mm256_sum_pd fo hassoc hcomm e hid a

end hadd
end Fastor.C16
