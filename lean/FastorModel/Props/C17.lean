import FastorModel.Proofs.TmatmulVal
import FastorModel.Props.C01
/-
# C17 — Triangular matrix product equals the general product of triangular operands

Property: for every shape (M,K,N), including trapezoidal ones, and every combination of
lower/upper/general tags, the triangular product of operands that are zero outside the tagged
triangle equals their ordinary matrix product element by element (exactly for integer-valued data).
Every element of the M×N result is written, including those that are structurally zero.

Reading of the statements.
* `Tmatmul.tkernel cfg lt rt sz M K N` is the model of `_tmatmul<T,M,K,N,Lhs,Rhs>`: dispatch between
  `_tmatmul_base`, `_tmatmul_base_masked`, and per tile the `k` range `[find_kfirst, find_klast)`.
* `TriA lt K a`: `a(r,k) = 0` whenever the tag `lt` says so (`k > r` for Lower, `k < r` for Upper);
  `TriB rt N b` likewise for `b(k,c)`.  These are the hypotheses "zero outside the tagged triangle".
* `tmatmul_exact`: every cell `(i,j)`, `i<M`, `j<N`, ends up holding the *full* sum
  `∑_{k<K} a[i*K+k]*b[k*N+j]` (so it equals the general product, and every cell is written since the
  statement is about the final memory whatever `c₀` was), and nothing at or beyond `M*N` is written.
  All nine tag pairs, all shapes, widths, unroll factors, both masked idioms.
* `krange_sufficient` (in Proofs/TmatmulFills) is the core: for every cell of a tile the clipped range
  misses only terms with a structurally zero factor — for *all* unroll factors `uo, ui`.
-/
namespace Fastor.C17
open Fastor Fastor.Matmul Fastor.Tmatmul Finset

variable {R : Type} [CommSemiring R]

theorem tkernel_fills (cfg : Cfg) (lt rt : UpLo) (sz M K N : Nat) (hsz : sz = 4 ∨ sz = 8 ∨ sz = 16)
    (hob : ∀ x, cfg.outerBlock = some x → 0 < x) (hib : ∀ x, cfg.innerBlock = some x → 0 < x) :
    Fills N (TComplete lt rt K) (tkernel cfg lt rt sz M K N).2.2 (· < M) (· < N) := by
  unfold tkernel
  obtain ⟨e, _, hV⟩ := C01.vsize_pow2 cfg sz N hsz
  have hVpos : 0 < cfg.vsize sz N := by rw [hV]; exact Nat.pow_pos (by omega)
  obtain ⟨hu, hnR, hnC⟩ := C01.blocking_pos cfg M N (cfg.vsize sz N) hob hib
  cases tdispatch cfg true sz N with
  | base => simp only; exact fills_tbase M _ _ hVpos hu hnR hnC
  | baseMasked => simp only; exact fills_tbaseMasked cfg.masks M _ _ hVpos hu hnR hnC
  | nonPrimitive => simp only; exact fills_tnonPrimitive M

/-- The writes of the selected kernel: exactly the positions `< M*N`, position `p` receiving the `(p / N, p % N)` entry
    of the full product. -/
theorem tmatmul_writesExactly (cfg : Cfg) (lt rt : UpLo) (sz M K N : Nat) (hsz : sz = 4 ∨ sz = 8 ∨ sz = 16)
    (hob : ∀ x, cfg.outerBlock = some x → 0 < x) (hib : ∀ x, cfg.innerBlock = some x → 0 < x)
    (a b : Nat → R) (ha : TriA lt K a) (hb : TriB rt N b) :
    WritesExactly (kernelWrites N (tval a b K N) (tkernel cfg lt rt sz M K N).2.2) (fun p => p < M * N)
      (fun p => dotSpec a b K N (p / N) (p % N)) :=
  (tkernel_fills cfg lt rt sz M K N hsz hob hib).writesExactly fun e hc h => tval_final lt rt a b K N ha hb e hc h

theorem tmatmul_exact (cfg : Cfg) (lt rt : UpLo) (sz M K N : Nat) (hsz : sz = 4 ∨ sz = 8 ∨ sz = 16)
    (hob : ∀ x, cfg.outerBlock = some x → 0 < x) (hib : ∀ x, cfg.innerBlock = some x → 0 < x)
    (a b c₀ : Nat → R) (ha : TriA lt K a) (hb : TriB rt N b) :
    (∀ i, i < M → ∀ j, j < N →
      applyWrites (kernelWrites N (tval a b K N) (tkernel cfg lt rt sz M K N).2.2) c₀ (i * N + j)
        = ∑ k ∈ range K, a (i * K + k) * b (k * N + j)) ∧
    (∀ p, M * N ≤ p →
      applyWrites (kernelWrites N (tval a b K N) (tkernel cfg lt rt sz M K N).2.2) c₀ p = c₀ p) :=
  grid_memory (tmatmul_writesExactly cfg lt rt sz M K N hsz hob hib a b ha hb) c₀

/-- the clipping is sufficient whatever the unroll factors -/
theorem krange_sufficient_all (lt rt : UpLo) (K uo ui i j r c : Nat)
    (hr : i ≤ r ∧ r < i + uo) (hc : j ≤ c ∧ c < j + ui) :
    KRangeOK lt rt K r c (kfirst lt rt i j) (klast lt rt K uo ui i j) :=
  krange_sufficient lt rt K uo ui i j r c hr hc

/-- non-vacuity: a lower-triangular `a` (zero above the diagonal) satisfies `TriA .lower` -/
example : TriA (R := Int) .lower 3 (fun p => if p % 3 ≤ p / 3 then 1 else 0) := by
  intro r k hk hz
  simp only [lzero] at hz
  have h1 : (r * 3 + k) % 3 = k := by omega
  have h2 : (r * 3 + k) / 3 = r := by omega
  simp only [h1, h2]
  split <;> omega

end Fastor.C17
