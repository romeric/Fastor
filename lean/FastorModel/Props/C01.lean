import FastorModel.Proofs.MatmulFills
import FastorModel.Proofs.MatmulVal
/-
# C01 — Matrix product equals the mathematical product for every shape and scalar type

Property (properties.jsonl): for every compile-time shape (M,K,N) … the matrix product of A (M×K) and
B (K×N) returns a tensor whose every element (i,j) equals Σ_k A(i,k)·B(k,j) (exactly for
integer-valued data) … No element of the result is left unwritten and nothing outside the result is
written.

Reading of the formal statements below.
* `a`, `b`, `c₀` are the three row-major buffers as functions `Nat → R` over an arbitrary commutative
  semiring `R` (so the statement covers integers exactly, and floating point up to rounding — the
  rounding clause is not a theorem here, see DESIGN.md §8).
* `Matmul.kernel cfg sz M K N` is the model of `Fastor::_matmul<T,M,K,N>`: the dispatch ladder of
  matmul.h evaluated for the build configuration `cfg` and element size `sz`, and the selected kernel
  as an ordered list of store events.  `kernelWrites` turns the events into `(position,value)` writes
  and `applyWrites` runs them on the initial contents `c₀` of the output buffer.
* `matmul_exact` says: after the run, cell `i*N+j` holds `∑_{k<K} a[i*K+k]*b[k*N+j]` for all `i<M`,
  `j<N` (every element is written with the right value), and every position `≥ M*N` still holds `c₀`
  (nothing outside the result is written).  It holds for *all* `M K N`, every build configuration `cfg`
  (not only the six that are built), all block-size overrides `> 0`.
* The correspondence run of `./check C01` ties `Matmul.kernel` to the code: same store order, same
  read sets, same values, on the real templates instantiated over a symbolic scalar.
-/
namespace Fastor.C01
open Fastor Fastor.Matmul Finset

variable {R : Type} [CommSemiring R]

theorem lanes_pow2 (a : Abi) (sz : Nat) (h : sz = 4 ∨ sz = 8 ∨ sz = 16) :
    ∃ e, e ≤ 6 ∧ a.lanes sz = 2 ^ e := by
  rcases h with rfl | rfl | rfl <;> cases a <;> decide

theorem vsize_pow2 (cfg : Cfg) (sz N : Nat) (h : sz = 4 ∨ sz = 8 ∨ sz = 16) :
    ∃ e, e ≤ 6 ∧ cfg.vsize sz N = 2 ^ e := lanes_pow2 _ sz h

/-- The block constants chosen by `_matmul_base` are positive. -/
theorem blocking_pos (cfg : Cfg) (M N V : Nat)
    (hob : ∀ x, cfg.outerBlock = some x → 0 < x) (hib : ∀ x, cfg.innerBlock = some x → 0 < x) :
    0 < (blocking cfg M N V).u ∧ 0 < (blocking cfg M N V).nR ∧ 0 < (blocking cfg M N V).nC := by
  unfold blocking
  refine ⟨by simp, ?_, ?_⟩
  · simp only
    cases h : cfg.outerBlock with
    | some x => exact hob x h
    | none => simp only; split <;> [omega; (split <;> omega)]
  · simp only
    cases h : cfg.innerBlock with
    | some x => exact hib x h
    | none => simp only; split <;> omega

/-- the matrix-vector kernel is selected for `N = 1` only -/
theorem dispatch_ne_matvec {cfg : Cfg} {sz M K N : Nat} (hN : N ≠ 1) :
    dispatch cfg false true sz M K N ≠ .matvec := by
  unfold dispatch
  -- the guards of `.spec` and `.nonPrimitive` are off, the third is `N == 1`; no leaf below it is `.matvec`
  rw [if_neg (by simp), if_neg (by simp), if_neg (by simp [hN])]
  dsimp only
  split_ifs <;> decide

/-- **Every selected kernel fills the result**: for every configuration, element size and shape, the segment
    list produced by the model of `_matmul` fills `M × N`. -/
theorem kernel_fills (cfg : Cfg) (sz M K N : Nat) (hsz : sz = 4 ∨ sz = 8 ∨ sz = 16) (hN : N < 2 ^ 64)
    (hob : ∀ x, cfg.outerBlock = some x → 0 < x) (hib : ∀ x, cfg.innerBlock = some x → 0 < x) :
    Fills N (Complete K) (kernel cfg sz M K N).2.2 (· < M) (· < N) := by
  unfold kernel
  obtain ⟨e, he, hV⟩ := vsize_pow2 cfg sz N hsz
  have hVpos : 0 < cfg.vsize sz N := hV ▸ Nat.pow_pos (by omega)
  obtain ⟨hu, hnR, hnC⟩ := blocking_pos cfg M N (cfg.vsize sz N) hob hib
  cases hrt : dispatch cfg false true sz M K N with
  | matvec =>
    obtain rfl : N = 1 := Decidable.not_not.1 fun hN => dispatch_ne_matvec hN hrt
    exact fills_matvec M _
  | smallN => exact fills_smallN cfg.masks M _
  | base => exact fills_base M _ _ hVpos hu hnR hnC
  | baseMasked => exact fills_baseMasked cfg.masks M _ _ hVpos hu hnR hnC
  | tiny => exact fills_tiny M _ hVpos (hV ▸ roundDown_pow2 N e hN (by omega))
  | nonPrimitive => exact fills_nonPrimitive M
  | spec => exact fills_nonPrimitive M

/-- The writes of the selected kernel: exactly the positions `< M*N`, position `p` receiving the `(p / N, p % N)` entry
    of the product. -/
theorem matmul_writesExactly (cfg : Cfg) (sz M K N : Nat) (hsz : sz = 4 ∨ sz = 8 ∨ sz = 16) (hN : N < 2 ^ 64)
    (hob : ∀ x, cfg.outerBlock = some x → 0 < x) (hib : ∀ x, cfg.innerBlock = some x → 0 < x) (a b : Nat → R) :
    WritesExactly (kernelWrites N (val a b K N) (kernel cfg sz M K N).2.2) (fun p => p < M * N)
      (fun p => dotSpec a b K N (p / N) (p % N)) :=
  (kernel_fills cfg sz M K N hsz hN hob hib).writesExactly fun e _ h => val_final a b K N e h.2.1 h.2.2

/-- **C01 (exact part).**  The model of `_matmul<T,M,K,N>` leaves `Σ_k a(i,k)·b(k,j)` in every cell
    of the result and does not write outside it — for all shapes, configurations and block sizes. -/
theorem matmul_exact (cfg : Cfg) (sz M K N : Nat) (hsz : sz = 4 ∨ sz = 8 ∨ sz = 16) (hN : N < 2 ^ 64)
    (hob : ∀ x, cfg.outerBlock = some x → 0 < x) (hib : ∀ x, cfg.innerBlock = some x → 0 < x)
    (a b c₀ : Nat → R) :
    (∀ i, i < M → ∀ j, j < N →
      applyWrites (kernelWrites N (val a b K N) (kernel cfg sz M K N).2.2) c₀ (i * N + j)
        = ∑ k ∈ range K, a (i * K + k) * b (k * N + j)) ∧
    (∀ p, M * N ≤ p →
      applyWrites (kernelWrites N (val a b K N) (kernel cfg sz M K N).2.2) c₀ p = c₀ p) :=
  grid_memory (matmul_writesExactly cfg sz M K N hsz hN hob hib a b) c₀

/-- The result does not depend on the build configuration (C06). -/
theorem matmul_config_independent (cfg cfg' : Cfg) (sz sz' M K N : Nat)
    (hsz : sz = 4 ∨ sz = 8 ∨ sz = 16) (hsz' : sz' = 4 ∨ sz' = 8 ∨ sz' = 16) (hN : N < 2 ^ 64)
    (hob : ∀ x, cfg.outerBlock = some x → 0 < x) (hib : ∀ x, cfg.innerBlock = some x → 0 < x)
    (hob' : ∀ x, cfg'.outerBlock = some x → 0 < x) (hib' : ∀ x, cfg'.innerBlock = some x → 0 < x)
    (a b c₀ : Nat → R) (p : Nat) :
    applyWrites (kernelWrites N (val a b K N) (kernel cfg sz M K N).2.2) c₀ p
      = applyWrites (kernelWrites N (val a b K N) (kernel cfg' sz' M K N).2.2) c₀ p :=
  applyWrites_eq_of_exact (matmul_writesExactly cfg sz M K N hsz hN hob hib a b)
    (matmul_writesExactly cfg' sz' M K N hsz' hN hob' hib' a b) c₀ p

/-- non-vacuity: a concrete configuration and shape satisfy the hypotheses, and the selected
    kernel is a vectorised one with remainders in both directions -/
example : (kernel ⟨.sse, false, false, none, none⟩ 4 7 3 9).1 = .base ∧
    (kernel ⟨.sse, false, false, none, none⟩ 4 7 3 9).2.1 = 4 := by decide

end Fastor.C01
