import FastorModel.Proofs.Reduce
import FastorModel.Proofs.ReduceError
import FastorModel.Proofs.SimdLanes
import FastorModel.Generated.Simd_sse2
import FastorModel.Generated.Simd_avx2
import FastorModel.Generated.Simd_avx512
import FastorModel.Generated.C16Spec_avx2
import FastorModel.Generated.C16Spec_avx512
import Mathlib.Order.MinMax
import Mathlib.Tactic.FinCases
import Mathlib.LinearAlgebra.Matrix.Determinant.Basic
import Mathlib.LinearAlgebra.Matrix.Block
/-
# C16 — Reductions, predicates and scalar-valued functions agree with their definitions

Property: sum, product, min, max, norm, trace, inner, determinant and the predicates all_of / any_of / none_of
applied to any tensor or expression return the value defined by folding the scalar operation over all elements;
min/max return an element of the input for inputs of any sign; none_of is the negation of any_of.

Reading of the statements.  `Model/Reduce.lean` transcribes the code: `U` vector accumulators of `V` lanes, a ladder
of unroll factors (one loop `for (; i < ROUND_DOWN(n,u*V); i += u*V)` per factor, `ROUND_DOWN` being the bit mask of
the source), a scalar tail, a lane-wise combination of the accumulators, a horizontal step and the final combine,
with the seeds the code uses.  `term i` is element `i` of the argument: `x i` for a tensor, `evalS e i` for a lazy
expression (`expr_lanes`: the vector evaluation is the scalar evaluation lane by lane, C02).
* `positions_exactly_once`, `reduce_correct`: for ALL `n < 2^64`, all widths and all admissible ladders.
* `sum_correct … trace_correct`: the instances the code contains (seeds 0 / 1, ladders 1 / 4,2,1 / 8,4,2,1).
* `min_in_input`, `max_in_input`: hypothesis = what the code's seed satisfies (`x i ≤ numeric_limits::max()`,
  `numeric_limits::lowest() ≤ x i`); conclusion: the result is an element of the input and bounds every element.
* predicates: `all_of = ∀`, `any_of = ∃`; `none_of` AS WRITTEN returns `any_of` (`none_of_expr_counterexample`,
  defect F5, kept as a known finding because a test of the repository asserts the defective value); the repaired body is correct.
* determinants: closed forms n ≤ 4 = `Matrix.det` (Leibniz); `determinant<LU>` = sign · ∏ U_ii.
Floating point: `sum_error_bound` bounds the error of the summation tree over the abstract rounding model; that the FPU
satisfies that model is measured by the harness, not proved.
-/
namespace Fastor.C16
open Fastor Fastor.Expr Fastor.Reduce Finset Fastor.Simd Fastor.Gen

/-! ## loop structure -/

/-- **every element exactly once**: the positions touched by the vector stages (each step covers `V` consecutive
    lanes), followed by the scalar tail, are exactly `0, 1, …, n-1`, each once and in increasing order —
    for every size `n`, every width `V` and every admissible unroll ladder. -/
theorem positions_exactly_once (n V : Nat) (us : List Nat) (hn : n < 2 ^ 64) (hg : GoodLadder V us) :
    flat V (vecSteps n V us) ++ tailPos n V us = List.range n := coverage n V us hn hg

example : GoodLadder 16 [8, 4, 2, 1] := goodLadder_8421 16 4 (by omega) (by norm_num)
example : flat 4 (vecSteps 11 4 [4, 2, 1]) ++ tailPos 11 4 [4, 2, 1] = List.range 11 := by decide

/-- **reduce_correct**: for an associative-commutative operation with identity `e` used as every seed, the
    reduction machine — `U` accumulators, any admissible ladder `us` (each factor times `V` a power of two, each
    factor dividing the previous ones), any width, any size — returns the fold of `op` over all `n` terms. -/
theorem reduce_correct {α : Type} (op : α → α → α) (e : α) (hassoc : ∀ a b c, op (op a b) c = op a (op b c))
    (hcomm : ∀ a b, op a b = op b a) (hid : ∀ a, op e a = a)
    (term : Nat → α) (U : Nat) (us : List Nat) (n V : Nat) (hn : n < 2 ^ 64)
    (hg : GoodLadder V us) (hU : ∀ u ∈ us, u ≤ U) (hU0 : 0 < U) :
    reduce ⟨op, e, e, e, U, us⟩ term n V = (List.range n).foldl (fun acc i => op acc (term i)) e :=
  reduce_op op e hassoc hcomm hid term U us n V hn hg hU hU0

example : reduce ⟨(· + ·), 0, 0, 0, 4, [4, 2, 1]⟩ (fun i => (i : Int) + 1) 11 2 = 66 := by decide

section sums
variable {A : Type} [AddCommMonoid A]

/-- `sum(expr)` / `sum(tensor)` (AbstractTensorFunctions.h), seeds `0`: the sum of all elements, ∀ n, ∀ V = 2^ev -/
theorem sum_correct (term : Nat → A) (n V ev : Nat) (hn : n < 2 ^ 64) (hev : ev ≤ 64) (hV : V = 2 ^ ev) :
    sumExpr term n V = ∑ i ∈ range n, term i :=
  reduce_sum term 1 [1] n V hn (goodLadder_one V ev hev hV) (by decide) (by decide)

/-- `Tensor::sum()` including the early return for one element -/
theorem tensorSum_correct (x : Nat → A) (n V ev : Nat) (hn : n < 2 ^ 64) (hev : ev ≤ 64) (hV : V = 2 ^ ev) (hpos : 0 < n) :
    tensorSum x n V = ∑ i ∈ range n, x i := by
  unfold tensorSum
  by_cases h : n ≤ 1
  · have : n = 1 := by omega
    subst this; simp
  · simp only [h, if_false]
    exact sum_correct x n V ev hn hev hV
end sums

section prods
variable {M : Type} [CommMonoid M]

/-- `product(expr)`, seeds `1` -/
theorem product_correct (term : Nat → M) (n V ev : Nat) (hn : n < 2 ^ 64) (hev : ev ≤ 64) (hV : V = 2 ^ ev) :
    prodExpr term n V = ∏ i ∈ range n, term i :=
  reduce_monoid term 1 [1] n V hn (goodLadder_one V ev hev hV) (by decide) (by decide)

/-- `Tensor::product()` -/
theorem tensorProd_correct (x : Nat → M) (n V ev : Nat) (hn : n < 2 ^ 64) (hev : ev ≤ 64) (hV : V = 2 ^ ev) (hpos : 0 < n) :
    tensorProd x n V = ∏ i ∈ range n, x i := by
  unfold tensorProd
  by_cases h : n ≤ 1
  · have : n = 1 := by omega
    subst this; simp
  · simp only [h, if_false]
    exact product_correct x n V ev hn hev hV
end prods

section semiring
variable {R : Type} [CommSemiring R]

/-- radicand of `norm(expr)`: both ladders (`8,4,2,1` with 8 accumulators under AVX-512, `4,2,1` with 4 otherwise) -/
theorem norm2Expr_correct (avx512 : Bool) (term : Nat → R) (n V ev : Nat) (hn : n < 2 ^ 64) (hev : ev ≤ 60) (hV : V = 2 ^ ev) :
    norm2Expr avx512 term n V = ∑ i ∈ range n, term i * term i := by
  cases avx512
  · exact reduce_sum _ 4 [4, 2, 1] n V hn (goodLadder_421 V ev hev hV) (by decide) (by decide)
  · exact reduce_sum _ 8 [8, 4, 2, 1] n V hn (goodLadder_8421 V ev hev hV) (by decide) (by decide)

/-- radicand of `_norm<T,N>` (both overloads) -/
theorem norm2Tensor_correct (avx512 : Bool) (x : Nat → R) (n V ev : Nat) (hn : n < 2 ^ 64) (hev : ev ≤ 60) (hV : V = 2 ^ ev) :
    norm2Tensor avx512 x n V = ∑ i ∈ range n, x i * x i := by
  unfold norm2Tensor
  split
  · exact reduce_sum _ 1 [1] n V hn (goodLadder_one V ev (by omega) hV) (by decide) (by decide)
  · exact norm2Expr_correct avx512 x n V ev hn hev hV

/-- `inner(a,b)` = `_doublecontract<T,N,1>` (both overloads) -/
theorem inner_correct (a b : Nat → R) (n V ev : Nat) (hn : n < 2 ^ 64) (hev : ev ≤ 60) (hV : V = 2 ^ ev) :
    Reduce.inner a b n V = ∑ i ∈ range n, a i * b i := by
  unfold Reduce.inner
  split
  · exact reduce_sum _ 1 [1] n V hn (goodLadder_one V ev (by omega) hV) (by decide) (by decide)
  · exact reduce_sum _ 4 [4, 2, 1] n V hn (goodLadder_421 V ev hev hV) (by decide) (by decide)

/-- `trace(A)` and `trace(expr)`: the sum of the diagonal (flat positions `i*M+i`) -/
theorem trace_correct (x : Nat → R) (M : Nat) :
    Reduce.trace x M = ∑ i ∈ range M, x (i * M + i) ∧ Reduce.traceExpr x M = ∑ i ∈ range M, x (i * M + i) := by
  simp only [Reduce.trace, Reduce.traceExpr, foldl_add_eq_sum, Nat.mul_succ, and_self]
end semiring

/-! non-vacuity: concrete instances of the hypotheses / the instances evaluated -/
example : sumExpr (fun i => (i : Int) + 1) 11 4 = 66 := by decide
example : prodExpr (fun i => (i : Int) + 1) 5 2 = 120 := by decide
example : tensorSum (fun i => (i : Int) + 1) 1 4 = 1 ∧ tensorProd (fun i => (i : Int) + 2) 7 4 = 40320 := by decide
example : norm2Expr true (fun i => (i : Int)) 20 1 = 2470 ∧ norm2Tensor false (fun i => (i : Int)) 20 2 = 2470 := by decide
example : Reduce.inner (fun i => (i : Int)) (fun _ => (2 : Int)) 19 2 = 342 := by decide
example : Reduce.trace (fun i => (i : Int)) 3 = 12 ∧ Reduce.traceExpr (fun i => (i : Int)) 3 = 12 := by decide

/-- lazy expressions: lane `l` of the vector evaluation `eval<T>(p)` of any expression tree is the scalar evaluation
    at `p + l` (C02), so the reductions of an expression are the reductions of `term = evalS e` -/
theorem expr_lanes {α : Type} [Add α] [Sub α] [Mul α] [Neg α] (ofInt : Int → α) (env : Nat → Nat → α) (V : Nat) (e : E) (p l : Nat) (hl : l < V) :
    (evalV ofInt env V e p)[l]? = some (evalS ofInt env e (p + l)) := C02.lanes_of_evalV ofInt env V e p l hl


/-! ## floating-point error of the summation tree (abstract rounding model) -/

/-- **sum_error_bound**: if every addition is rounded with relative error at most `u` (`|fl x - x| ≤ u |x|`; with FMA the
    product inside `inner` / `norm` is not rounded separately), the reduction machine — any admissible ladder, width, size —
    returns a value within `((1+u)^depth - 1) · Σ|term_i|` of the exact sum; `depth ≤ n + U + V + 1`.  The harness measures the
    FPU against this bound (`fbound` lines) and checks `depth` against the model in every symbolic case (`DEPTH`). -/
theorem sum_error_bound {K : Type} [CommRing K] [LinearOrder K] [IsStrictOrderedRing K] (u : K) (hu : 0 ≤ u) (fl : K → K)
    (hfl : ∀ x, |fl x - x| ≤ u * |x|) (term : Nat → K) (U : Nat) (us : List Nat) (n V : Nat) (hn : n < 2 ^ 64)
    (hg : GoodLadder V us) (hU : ∀ u' ∈ us, u' ≤ U) (hU0 : 0 < U) :
    |reduce ⟨fun a b => fl (a + b), 0, 0, 0, U, us⟩ term n V - ∑ i ∈ range n, term i|
      ≤ ((1 + u) ^ depth n V U us - 1) * ∑ i ∈ range n, |term i| :=
  Reduce.sum_error_bound u hu fl hfl term U us n V hn hg hU hU0

/-- the depth is at most `n + U + V + 1`: each vector step and each tail step consumes at least one element -/
theorem depth_le_n (n V U : Nat) (us : List Nat) (hn : n < 2 ^ 64) (hg : GoodLadder V us) (hV : 0 < V) :
    depth n V U us ≤ n + U + V + 1 := by
  have hc := congrArg List.length (coverage n V us hn hg)
  rw [List.length_append, flat_length, List.length_range] at hc
  have : (vecSteps n V us).length ≤ V * (vecSteps n V us).length := Nat.le_mul_of_pos_left _ hV
  unfold depth; omega

/-- non-vacuity: exact arithmetic is the rounding model with `u = 0`, and the depth of `sum` over 11 elements at width 4 -/
example : ∀ x : Int, |id x - x| ≤ 0 * |x| := by intro x; simp
example : depth 11 4 1 [1] = 2 + 1 + 4 + 3 + 1 := by decide

/-! ## min / max -/

/-- **minmax_in_input** (min): with a seed that is not smaller than any element (the code uses
    `numeric_limits<T>::max()`), for every `n > 0`, every width and every sign pattern, `min` returns an element of
    the input which is `≤` every element. -/
theorem min_in_input {α : Type} [LinearOrder α] (seed : α) (x : Nat → α) (n V ev : Nat)
    (hn : n < 2 ^ 64) (hev : ev ≤ 64) (hV : V = 2 ^ ev) (hpos : 0 < n) (hseed : ∀ i < n, x i ≤ seed) :
    (∃ i < n, minmax (fun a b => decide (a < b)) seed x n V = x i) ∧
    ∀ i < n, minmax (fun a b => decide (a < b)) seed x n V ≤ x i := by
  obtain ⟨h1, h2⟩ := minmax_correct strictTotal_lt seed x n V ev hn hev hV hpos
    fun i hi => decide_eq_false (not_lt.2 (hseed i hi))
  exact ⟨h1, fun i hi => not_lt.1 (of_decide_eq_false (h2 i hi))⟩

/-- **minmax_in_input** (max): seed not larger than any element (`numeric_limits<T>::lowest()`) -/
theorem max_in_input {α : Type} [LinearOrder α] (seed : α) (x : Nat → α) (n V ev : Nat)
    (hn : n < 2 ^ 64) (hev : ev ≤ 64) (hV : V = 2 ^ ev) (hpos : 0 < n) (hseed : ∀ i < n, seed ≤ x i) :
    (∃ i < n, minmax (fun a b => decide (b < a)) seed x n V = x i) ∧
    ∀ i < n, x i ≤ minmax (fun a b => decide (b < a)) seed x n V := by
  obtain ⟨h1, h2⟩ := minmax_correct strictTotal_gt seed x n V ev hn hev hV hpos
    fun i hi => decide_eq_false (not_lt.2 (hseed i hi))
  exact ⟨h1, fun i hi => not_lt.1 (of_decide_eq_false (h2 i hi))⟩

/-- non-vacuity: all-negative data, `n = 7`, `V = 4`, the seed `lowest = -128` of an 8-bit type -/
example : minmax (fun a b : Int => decide (b < a)) (-128) (fun i => -(i : Int) - 3) 7 4 = -3 := by decide
/-- the seed the code used before the repair (`numeric_limits<float>::min()`, a positive number) violates the
    hypothesis on all-negative data, and the result is then not an element of the input -/
example : minmax (fun a b : Int => decide (b < a)) 1 (fun i => -(i : Int) - 3) 7 4 = 1 := by decide

/-! ## predicates -/

/-- with the `break` and the comparison with `false` spelt out, the loop body of `all_of` is `val && b i` -/
theorem allOf_iff (b : Nat → Bool) (n : Nat) : allOf b n = true ↔ ∀ i < n, b i = true := by
  have e : ∀ (v : Bool) i, (if v = true then if (b i == false) = true then false else true else false) = (v && b i) := by
    intro v i; cases v <;> cases b i <;> rfl
  simp only [allOf, e, foldl_and_range]

theorem anyOf_iff (b : Nat → Bool) (n : Nat) : anyOf b n = true ↔ ∃ i < n, b i = true := by
  have e : ∀ (v : Bool) i, (if v = true then true else if (b i == true) = true then true else false) = (v || b i) := by
    intro v i; cases v <;> cases b i <;> rfl
  simp only [anyOf, e, foldl_or_range]

/-- the expression/tensor overload of `none_of` as written returns `any_of` (F5) -/
theorem none_of_code_eq_any_of (b : Nat → Bool) (n : Nat) : noneOfCode b n = anyOf b n := rfl

/-- **counterexample** to `none_of b = !any_of b` for the code as written: the one-element tensor `[true]`
    (replayed on the real code by the `pred … what=none` cases) -/
theorem none_of_expr_counterexample : noneOfCode (fun _ => true) 1 ≠ !(anyOf (fun _ => true) 1) := by decide

/-- as written, `none_of` is wrong on EVERY input -/
theorem none_of_code_always_wrong (b : Nat → Bool) (n : Nat) : noneOfCode b n ≠ !(anyOf b n) := by
  rw [none_of_code_eq_any_of]; cases anyOf b n <;> simp

/-- the repaired body satisfies the property: `none_of = !any_of` -/
theorem none_of_fixed_correct (b : Nat → Bool) (n : Nat) : noneOfFixed b n = !(anyOf b n) := by
  have e : ∀ (v : Bool) i, (if v = true then if (b i == true) = true then false else true else false) = (v && !b i) := by
    intro v i; cases v <;> cases b i <;> rfl
  rw [Bool.eq_iff_iff, Bool.not_eq_true', ← Bool.not_eq_true, anyOf_iff]
  simp only [noneOfFixed, e, foldl_and_range, Bool.not_eq_true', not_exists, not_and, Bool.not_eq_true]


/-! ## issymmetric, isequal -/

/-- **issymmetric** (non-evaluating overload): true iff no pair `(i*M+j, j*M+i)` violates the tolerance — the `break`
    leaves only the inner loop, but `_issym` is never set back to true -/
theorem isSymmetric_iff (viol : Nat → Nat → Bool) (M : Nat) :
    isSymmetric viol M = true ↔ ∀ i < M, ∀ j < M, viol (i * M + j) (j * M + i) = false := by
  simp only [isSymmetric, isSym_inner, foldl_and_range, Bool.not_eq_true', ← Bool.not_eq_true, foldl_or_range, not_exists, not_and]

/-- `isequal(a,b,Tol)` = `all_of(abs(a - b) <= Tol)`; for integral element types `Tol` is converted to 0 -/
def isEqualInt (a b : Nat → Int) (n : Nat) : Bool := allOf (fun i => decide ((a i - b i).natAbs ≤ 0)) n
/-- the form before commit 81c67dd (`<`) -/
def isEqualIntOld (a b : Nat → Int) (n : Nat) : Bool := allOf (fun i => decide ((a i - b i).natAbs < 0)) n

/-- **isequal** on integer tensors: true iff the tensors agree element by element -/
theorem isEqualInt_iff (a b : Nat → Int) (n : Nat) : isEqualInt a b n = true ↔ ∀ i < n, a i = b i := by
  simp only [isEqualInt, allOf_iff, decide_eq_true_eq, Nat.le_zero, Int.natAbs_eq_zero, sub_eq_zero]

/-- the pre-repair comparison was false for every non-empty pair of tensors, equal ones included -/
theorem isEqualIntOld_counterexample : isEqualIntOld (fun _ => 7) (fun _ => 7) 1 = false := by decide


/-! ## the real horizontal steps: theorems about the definitions GENERATED from the source

`Generated/Simd_<isa>.lean` is regenerated by this check (vlib/xlate_simd.py) from the preprocessed headers of the current
repo tree, over the intrinsic semantics of `Model/SimdIntrinsics.lean` (C08).  The theorems below are about those generated
definitions, per build configuration: a changed shuffle immediate, a swapped operand or a dropped half in `extintrin.h` /
`simd_vector_*.h` regenerates a different definition and the proof no longer builds (a proof obligation, not a text compare). -/

section generated
variable {α : Type} [LinearOrder α]

/-- the FPU's lane maximum / minimum decode to the order's max / min (true of IEEE max/min on non-NaN values) -/
structure Decodes32 (fo : FOps) (val : BitVec 32 → α) : Prop where
  max : ∀ x y, val (fo.max32 x y) = Max.max (val x) (val y)
  min : ∀ x y, val (fo.min32 x y) = Min.min (val x) (val y)
structure Decodes64 (fo : FOps) (val : BitVec 64 → α) : Prop where
  max : ∀ x y, val (fo.max64 x y) = Max.max (val x) (val y)
  min : ∀ x y, val (fo.min64 x y) = Min.min (val x) (val y)

/-! `SIMDVector<float|double, sse|avx>::maximum() / minimum()` as GENERATED from the current source for each build
    configuration: the decoded result is what `hpick` (the horizontal step of `minmax`, for which `min_in_input` /
    `max_in_input` are proved) returns on the decoded lanes.

    Each proof unfolds the generated definition, reads off lane 0 of the shuffle sequence with the lane calculus
    (`simprocAttr` is Lean's set of built-in simprocs: the literal arithmetic on lane indices and `if`s on literals) and
    compares the tree of `max` / `min` with the fold of `hpick_max` / `hpick_min`; the two agree up to the order and
    repetition of the lanes.  Where the configurations share the text of a definition the later ones unfold to the earlier. -/

theorem gen_sse2_float_sse_maximum (fo : FOps) (val : BitVec 32 → α) (h : Decodes32 fo val) (a : Reg) :
    val (sse2.float_sse.maximum fo a) = hpick (fun x y => decide (y < x)) 4 (fun l => val (a l)) := by
  simp only [sse2.float_sse.maximum, sse2.mm_hmax_ps, sse2.mm_reverse_ps, lane, simprocAttr, h.max, hpick_max, List.range_succ, List.range_zero, List.foldl]
  ac_rfl

theorem gen_sse2_float_sse_minimum (fo : FOps) (val : BitVec 32 → α) (h : Decodes32 fo val) (a : Reg) :
    val (sse2.float_sse.minimum fo a) = hpick (fun x y => decide (x < y)) 4 (fun l => val (a l)) := by
  simp only [sse2.float_sse.minimum, sse2.mm_hmin_ps, sse2.mm_reverse_ps, lane, simprocAttr, h.min, hpick_min, List.range_succ, List.range_zero, List.foldl]
  ac_rfl

theorem gen_sse2_double_sse_maximum (fo : FOps) (val : BitVec 64 → α) (h : Decodes64 fo val) (a : Reg) :
    val (sse2.double_sse.maximum fo a) = hpick (fun x y => decide (y < x)) 2 (fun l => val (lane64 a l)) := by
  simp only [sse2.double_sse.maximum, sse2.mm_hmax_pd, sse2.mm_reverse_pd, lane, simprocAttr, h.max, hpick_max, List.range_succ, List.range_zero, List.foldl]
  ac_rfl

theorem gen_sse2_double_sse_minimum (fo : FOps) (val : BitVec 64 → α) (h : Decodes64 fo val) (a : Reg) :
    val (sse2.double_sse.minimum fo a) = hpick (fun x y => decide (x < y)) 2 (fun l => val (lane64 a l)) := by
  simp only [sse2.double_sse.minimum, sse2.mm_hmin_pd, sse2.mm_reverse_pd, lane, simprocAttr, h.min, hpick_min, List.range_succ, List.range_zero, List.foldl]
  ac_rfl

theorem gen_avx2_float_sse_maximum (fo : FOps) (val : BitVec 32 → α) (h : Decodes32 fo val) (a : Reg) :
    val (avx2.float_sse.maximum fo a) = hpick (fun x y => decide (y < x)) 4 (fun l => val (a l)) :=
  gen_sse2_float_sse_maximum fo val h a

theorem gen_avx2_float_sse_minimum (fo : FOps) (val : BitVec 32 → α) (h : Decodes32 fo val) (a : Reg) :
    val (avx2.float_sse.minimum fo a) = hpick (fun x y => decide (x < y)) 4 (fun l => val (a l)) :=
  gen_sse2_float_sse_minimum fo val h a

theorem gen_avx2_double_sse_maximum (fo : FOps) (val : BitVec 64 → α) (h : Decodes64 fo val) (a : Reg) :
    val (avx2.double_sse.maximum fo a) = hpick (fun x y => decide (y < x)) 2 (fun l => val (lane64 a l)) :=
  gen_sse2_double_sse_maximum fo val h a

theorem gen_avx2_double_sse_minimum (fo : FOps) (val : BitVec 64 → α) (h : Decodes64 fo val) (a : Reg) :
    val (avx2.double_sse.minimum fo a) = hpick (fun x y => decide (x < y)) 2 (fun l => val (lane64 a l)) :=
  gen_sse2_double_sse_minimum fo val h a

theorem gen_avx2_float_avx_maximum (fo : FOps) (val : BitVec 32 → α) (h : Decodes32 fo val) (a : Reg) :
    val (avx2.float_avx.maximum fo a) = hpick (fun x y => decide (y < x)) 8 (fun l => val (a l)) := by
  simp only [avx2.float_avx.maximum, avx2.mm256_hmax_ps, avx2.mm_reverse_ps, lane, simprocAttr, h.max, hpick_max, List.range_succ, List.range_zero, List.foldl]
  ac_rfl

theorem gen_avx2_float_avx_minimum (fo : FOps) (val : BitVec 32 → α) (h : Decodes32 fo val) (a : Reg) :
    val (avx2.float_avx.minimum fo a) = hpick (fun x y => decide (x < y)) 8 (fun l => val (a l)) := by
  simp only [avx2.float_avx.minimum, avx2.mm256_hmin_ps, avx2.mm_reverse_ps, lane, simprocAttr, h.min, hpick_min, List.range_succ, List.range_zero, List.foldl]
  ac_rfl

theorem gen_avx2_double_avx_maximum (fo : FOps) (val : BitVec 64 → α) (h : Decodes64 fo val) (a : Reg) :
    val (avx2.double_avx.maximum fo a) = hpick (fun x y => decide (y < x)) 4 (fun l => val (lane64 a l)) := by
  simp only [avx2.double_avx.maximum, avx2.mm256_hmax_pd, avx2.mm256_reverse_pd, lane, simprocAttr, h.max, hpick_max, List.range_succ, List.range_zero, List.foldl]
  ac_rfl

theorem gen_avx2_double_avx_minimum (fo : FOps) (val : BitVec 64 → α) (h : Decodes64 fo val) (a : Reg) :
    val (avx2.double_avx.minimum fo a) = hpick (fun x y => decide (x < y)) 4 (fun l => val (lane64 a l)) := by
  simp only [avx2.double_avx.minimum, avx2.mm256_hmin_pd, avx2.mm256_reverse_pd, lane, simprocAttr, h.min, hpick_min, List.range_succ, List.range_zero, List.foldl]
  ac_rfl

theorem gen_avx512_float_sse_maximum (fo : FOps) (val : BitVec 32 → α) (h : Decodes32 fo val) (a : Reg) :
    val (avx512.float_sse.maximum fo a) = hpick (fun x y => decide (y < x)) 4 (fun l => val (a l)) :=
  gen_sse2_float_sse_maximum fo val h a

theorem gen_avx512_float_sse_minimum (fo : FOps) (val : BitVec 32 → α) (h : Decodes32 fo val) (a : Reg) :
    val (avx512.float_sse.minimum fo a) = hpick (fun x y => decide (x < y)) 4 (fun l => val (a l)) :=
  gen_sse2_float_sse_minimum fo val h a

theorem gen_avx512_double_sse_maximum (fo : FOps) (val : BitVec 64 → α) (h : Decodes64 fo val) (a : Reg) :
    val (avx512.double_sse.maximum fo a) = hpick (fun x y => decide (y < x)) 2 (fun l => val (lane64 a l)) :=
  gen_sse2_double_sse_maximum fo val h a

theorem gen_avx512_double_sse_minimum (fo : FOps) (val : BitVec 64 → α) (h : Decodes64 fo val) (a : Reg) :
    val (avx512.double_sse.minimum fo a) = hpick (fun x y => decide (x < y)) 2 (fun l => val (lane64 a l)) :=
  gen_sse2_double_sse_minimum fo val h a

theorem gen_avx512_float_avx_maximum (fo : FOps) (val : BitVec 32 → α) (h : Decodes32 fo val) (a : Reg) :
    val (avx512.float_avx.maximum fo a) = hpick (fun x y => decide (y < x)) 8 (fun l => val (a l)) :=
  gen_avx2_float_avx_maximum fo val h a

theorem gen_avx512_float_avx_minimum (fo : FOps) (val : BitVec 32 → α) (h : Decodes32 fo val) (a : Reg) :
    val (avx512.float_avx.minimum fo a) = hpick (fun x y => decide (x < y)) 8 (fun l => val (a l)) :=
  gen_avx2_float_avx_minimum fo val h a

theorem gen_avx512_double_avx_maximum (fo : FOps) (val : BitVec 64 → α) (h : Decodes64 fo val) (a : Reg) :
    val (avx512.double_avx.maximum fo a) = hpick (fun x y => decide (y < x)) 4 (fun l => val (lane64 a l)) :=
  gen_avx2_double_avx_maximum fo val h a

theorem gen_avx512_double_avx_minimum (fo : FOps) (val : BitVec 64 → α) (h : Decodes64 fo val) (a : Reg) :
    val (avx512.double_avx.minimum fo a) = hpick (fun x y => decide (x < y)) 4 (fun l => val (lane64 a l)) :=
  gen_avx2_double_avx_minimum fo val h a


/-! `sum()` / `product()` of the float / double vectors as GENERATED: under the commutative-monoid laws for the lane
    operation (they hold on the data for which every association is exact) the shuffle tree is `hfold`, the horizontal step
    of `reduce`.  The association tree itself (what the FPU evaluates) is fixed by C08's `*_sum_tree` theorems.
    All trees but two combine the lanes in increasing order, so that associativity alone turns them into the left fold
    (the statements carry the three laws throughout). -/
set_option linter.unusedVariables false

theorem gen_sse2_float_sse_sum (fo : FOps) (hassoc : ∀ x y z, fo.add32 (fo.add32 x y) z = fo.add32 x (fo.add32 y z)) (hcomm : ∀ x y, fo.add32 x y = fo.add32 y x)
    (e : BitVec 32) (hid : ∀ x, fo.add32 e x = x) (a : Reg) :
    sse2.float_sse.sum fo a = hfold fo.add32 e 4 (fun l => a l) := by
  simp only [sse2.float_sse.sum, sse2.mm_sum_ps, lane, simprocAttr, hfold, List.range_succ, List.range_zero, List.foldl, hid, hassoc]

theorem gen_sse2_float_sse_product (fo : FOps) (hassoc : ∀ x y z, fo.mul32 (fo.mul32 x y) z = fo.mul32 x (fo.mul32 y z)) (hcomm : ∀ x y, fo.mul32 x y = fo.mul32 y x)
    (e : BitVec 32) (hid : ∀ x, fo.mul32 e x = x) (a : Reg) :
    sse2.float_sse.product fo a = hfold fo.mul32 e 4 (fun l => a l) := by
  simp only [sse2.float_sse.product, sse2.mm_prod_ps, lane, simprocAttr, hfold, List.range_succ, List.range_zero, List.foldl, hid, hassoc]

theorem gen_sse2_double_sse_sum (fo : FOps) (hassoc : ∀ x y z, fo.add64 (fo.add64 x y) z = fo.add64 x (fo.add64 y z)) (hcomm : ∀ x y, fo.add64 x y = fo.add64 y x)
    (e : BitVec 64) (hid : ∀ x, fo.add64 e x = x) (a : Reg) :
    sse2.double_sse.sum fo a = hfold fo.add64 e 2 (fun l => lane64 a l) := by
  simp only [sse2.double_sse.sum, sse2.mm_sum_pd, lane, simprocAttr, hfold, List.range_succ, List.range_zero, List.foldl, hid]

theorem gen_sse2_double_sse_product (fo : FOps) (hassoc : ∀ x y z, fo.mul64 (fo.mul64 x y) z = fo.mul64 x (fo.mul64 y z)) (hcomm : ∀ x y, fo.mul64 x y = fo.mul64 y x)
    (e : BitVec 64) (hid : ∀ x, fo.mul64 e x = x) (a : Reg) :
    sse2.double_sse.product fo a = hfold fo.mul64 e 2 (fun l => lane64 a l) := by
  simp only [sse2.double_sse.product, sse2.mm_prod_pd, lane, simprocAttr, hfold, List.range_succ, List.range_zero, List.foldl, hid]

theorem gen_avx2_float_sse_sum (fo : FOps) (hassoc : ∀ x y z, fo.add32 (fo.add32 x y) z = fo.add32 x (fo.add32 y z)) (hcomm : ∀ x y, fo.add32 x y = fo.add32 y x)
    (e : BitVec 32) (hid : ∀ x, fo.add32 e x = x) (a : Reg) :
    avx2.float_sse.sum fo a = hfold fo.add32 e 4 (fun l => a l) := by
  simp only [avx2.float_sse.sum, avx2.mm_sum_ps, lane, simprocAttr, hfold, List.range_succ, List.range_zero, List.foldl, hid, hassoc]

theorem gen_avx2_float_sse_product (fo : FOps) (hassoc : ∀ x y z, fo.mul32 (fo.mul32 x y) z = fo.mul32 x (fo.mul32 y z)) (hcomm : ∀ x y, fo.mul32 x y = fo.mul32 y x)
    (e : BitVec 32) (hid : ∀ x, fo.mul32 e x = x) (a : Reg) :
    avx2.float_sse.product fo a = hfold fo.mul32 e 4 (fun l => a l) := by
  simp only [avx2.float_sse.product, avx2.mm_prod_ps, lane, simprocAttr, hfold, List.range_succ, List.range_zero, List.foldl, hid, hassoc]

theorem gen_avx2_double_sse_sum (fo : FOps) (hassoc : ∀ x y z, fo.add64 (fo.add64 x y) z = fo.add64 x (fo.add64 y z)) (hcomm : ∀ x y, fo.add64 x y = fo.add64 y x)
    (e : BitVec 64) (hid : ∀ x, fo.add64 e x = x) (a : Reg) :
    avx2.double_sse.sum fo a = hfold fo.add64 e 2 (fun l => lane64 a l) :=
  gen_sse2_double_sse_sum fo hassoc hcomm e hid a

theorem gen_avx2_double_sse_product (fo : FOps) (hassoc : ∀ x y z, fo.mul64 (fo.mul64 x y) z = fo.mul64 x (fo.mul64 y z)) (hcomm : ∀ x y, fo.mul64 x y = fo.mul64 y x)
    (e : BitVec 64) (hid : ∀ x, fo.mul64 e x = x) (a : Reg) :
    avx2.double_sse.product fo a = hfold fo.mul64 e 2 (fun l => lane64 a l) :=
  gen_sse2_double_sse_product fo hassoc hcomm e hid a

theorem gen_avx2_float_avx_sum (fo : FOps) (hassoc : ∀ x y z, fo.add32 (fo.add32 x y) z = fo.add32 x (fo.add32 y z)) (hcomm : ∀ x y, fo.add32 x y = fo.add32 y x)
    (e : BitVec 32) (hid : ∀ x, fo.add32 e x = x) (a : Reg) :
    avx2.float_avx.sum fo a = hfold fo.add32 e 8 (fun l => a l) := by
  simp only [avx2.float_avx.sum, avx2.mm256_sum_ps, avx2.mm_sum_ps, lane, simprocAttr, hfold, List.range_succ, List.range_zero, List.foldl, hid]
  have : Std.Associative fo.add32 := ⟨hassoc⟩
  have : Std.Commutative fo.add32 := ⟨hcomm⟩
  ac_rfl

theorem gen_avx2_float_avx_product (fo : FOps) (hassoc : ∀ x y z, fo.mul32 (fo.mul32 x y) z = fo.mul32 x (fo.mul32 y z)) (hcomm : ∀ x y, fo.mul32 x y = fo.mul32 y x)
    (e : BitVec 32) (hid : ∀ x, fo.mul32 e x = x) (a : Reg) :
    avx2.float_avx.product fo a = hfold fo.mul32 e 8 (fun l => a l) := by
  simp only [avx2.float_avx.product, avx2.mm256_prod_ps, avx2.mm_prod_ps, lane, simprocAttr, hfold, List.range_succ, List.range_zero, List.foldl, hid, hassoc]

theorem gen_avx2_double_avx_sum (fo : FOps) (hassoc : ∀ x y z, fo.add64 (fo.add64 x y) z = fo.add64 x (fo.add64 y z)) (hcomm : ∀ x y, fo.add64 x y = fo.add64 y x)
    (e : BitVec 64) (hid : ∀ x, fo.add64 e x = x) (a : Reg) :
    avx2.double_avx.sum fo a = hfold fo.add64 e 4 (fun l => lane64 a l) := by
  simp only [avx2.double_avx.sum, avx2.mm256_sum_pd, lane, simprocAttr, hfold, List.range_succ, List.range_zero, List.foldl, hid, hassoc]

theorem gen_avx2_double_avx_product (fo : FOps) (hassoc : ∀ x y z, fo.mul64 (fo.mul64 x y) z = fo.mul64 x (fo.mul64 y z)) (hcomm : ∀ x y, fo.mul64 x y = fo.mul64 y x)
    (e : BitVec 64) (hid : ∀ x, fo.mul64 e x = x) (a : Reg) :
    avx2.double_avx.product fo a = hfold fo.mul64 e 4 (fun l => lane64 a l) := by
  simp only [avx2.double_avx.product, avx2.mm256_prod_pd, lane, simprocAttr, hfold, List.range_succ, List.range_zero, List.foldl, hid]
  exact (hcomm _ _).trans (hassoc _ _ _).symm

theorem gen_avx512_float_sse_sum (fo : FOps) (hassoc : ∀ x y z, fo.add32 (fo.add32 x y) z = fo.add32 x (fo.add32 y z)) (hcomm : ∀ x y, fo.add32 x y = fo.add32 y x)
    (e : BitVec 32) (hid : ∀ x, fo.add32 e x = x) (a : Reg) :
    avx512.float_sse.sum fo a = hfold fo.add32 e 4 (fun l => a l) :=
  gen_avx2_float_sse_sum fo hassoc hcomm e hid a

theorem gen_avx512_float_sse_product (fo : FOps) (hassoc : ∀ x y z, fo.mul32 (fo.mul32 x y) z = fo.mul32 x (fo.mul32 y z)) (hcomm : ∀ x y, fo.mul32 x y = fo.mul32 y x)
    (e : BitVec 32) (hid : ∀ x, fo.mul32 e x = x) (a : Reg) :
    avx512.float_sse.product fo a = hfold fo.mul32 e 4 (fun l => a l) :=
  gen_avx2_float_sse_product fo hassoc hcomm e hid a

theorem gen_avx512_double_sse_sum (fo : FOps) (hassoc : ∀ x y z, fo.add64 (fo.add64 x y) z = fo.add64 x (fo.add64 y z)) (hcomm : ∀ x y, fo.add64 x y = fo.add64 y x)
    (e : BitVec 64) (hid : ∀ x, fo.add64 e x = x) (a : Reg) :
    avx512.double_sse.sum fo a = hfold fo.add64 e 2 (fun l => lane64 a l) :=
  gen_sse2_double_sse_sum fo hassoc hcomm e hid a

theorem gen_avx512_double_sse_product (fo : FOps) (hassoc : ∀ x y z, fo.mul64 (fo.mul64 x y) z = fo.mul64 x (fo.mul64 y z)) (hcomm : ∀ x y, fo.mul64 x y = fo.mul64 y x)
    (e : BitVec 64) (hid : ∀ x, fo.mul64 e x = x) (a : Reg) :
    avx512.double_sse.product fo a = hfold fo.mul64 e 2 (fun l => lane64 a l) :=
  gen_sse2_double_sse_product fo hassoc hcomm e hid a

theorem gen_avx512_float_avx_sum (fo : FOps) (hassoc : ∀ x y z, fo.add32 (fo.add32 x y) z = fo.add32 x (fo.add32 y z)) (hcomm : ∀ x y, fo.add32 x y = fo.add32 y x)
    (e : BitVec 32) (hid : ∀ x, fo.add32 e x = x) (a : Reg) :
    avx512.float_avx.sum fo a = hfold fo.add32 e 8 (fun l => a l) :=
  gen_avx2_float_avx_sum fo hassoc hcomm e hid a

theorem gen_avx512_float_avx_product (fo : FOps) (hassoc : ∀ x y z, fo.mul32 (fo.mul32 x y) z = fo.mul32 x (fo.mul32 y z)) (hcomm : ∀ x y, fo.mul32 x y = fo.mul32 y x)
    (e : BitVec 32) (hid : ∀ x, fo.mul32 e x = x) (a : Reg) :
    avx512.float_avx.product fo a = hfold fo.mul32 e 8 (fun l => a l) :=
  gen_avx2_float_avx_product fo hassoc hcomm e hid a

theorem gen_avx512_double_avx_sum (fo : FOps) (hassoc : ∀ x y z, fo.add64 (fo.add64 x y) z = fo.add64 x (fo.add64 y z)) (hcomm : ∀ x y, fo.add64 x y = fo.add64 y x)
    (e : BitVec 64) (hid : ∀ x, fo.add64 e x = x) (a : Reg) :
    avx512.double_avx.sum fo a = hfold fo.add64 e 4 (fun l => lane64 a l) :=
  gen_avx2_double_avx_sum fo hassoc hcomm e hid a

theorem gen_avx512_double_avx_product (fo : FOps) (hassoc : ∀ x y z, fo.mul64 (fo.mul64 x y) z = fo.mul64 x (fo.mul64 y z)) (hcomm : ∀ x y, fo.mul64 x y = fo.mul64 y x)
    (e : BitVec 64) (hid : ∀ x, fo.mul64 e x = x) (a : Reg) :
    avx512.double_avx.product fo a = hfold fo.mul64 e 4 (fun l => lane64 a l) :=
  gen_avx2_double_avx_product fo hassoc hcomm e hid a


/-! integer vectors: the SSE `_mm_sum_epi32` / `_mm_prod_epi32` shuffle trees and the AVX-512 `_mm512_reduce_add_epi32` are
    `hfold` over the lanes (wrap-around arithmetic). -/

theorem gen_sse2_int32_sse_sum (a : Reg) : sse2.int32_sse.sum a = hfold (· + ·) 0 4 a := by
  simp only [sse2.int32_sse.sum, sse2.mm_sum_epi32, lane, simprocAttr, hfold, List.range_succ, List.range_zero, List.foldl, BitVec.zero_add]
  ac_rfl
theorem gen_sse2_int32_sse_product (a : Reg) : sse2.int32_sse.product a = hfold (· * ·) 1 4 a := by
  simp only [sse2.int32_sse.product, sse2.mm_prod_epi32, lane, simprocAttr, hfold, List.range_succ, List.range_zero, List.foldl, BitVec.one_mul, BitVec.mul_assoc]

theorem gen_avx2_int32_sse_sum (a : Reg) : avx2.int32_sse.sum a = hfold (· + ·) 0 4 a := gen_sse2_int32_sse_sum a
theorem gen_avx2_int32_sse_product (a : Reg) : avx2.int32_sse.product a = hfold (· * ·) 1 4 a := gen_sse2_int32_sse_product a

theorem gen_avx512_int32_sse_sum (a : Reg) : avx512.int32_sse.sum a = hfold (· + ·) 0 4 a := gen_sse2_int32_sse_sum a
theorem gen_avx512_int32_sse_product (a : Reg) : avx512.int32_sse.product a = hfold (· * ·) 1 4 a := gen_sse2_int32_sse_product a

theorem gen_avx512_int32_avx512_sum (a : Reg) : avx512.int32_avx512.sum a = hfold (· + ·) 0 16 a := rfl

end generated

/-! ## determinants -/

/-- the row-major flat array `a` of an `n × n` matrix as a `Matrix` -/
def flatMat {R : Type} (n : Nat) (a : Nat → R) : Matrix (Fin n) (Fin n) R := Matrix.of fun i j => a (i.val * n + j.val)

section det
variable {R : Type} [CommRing R]

theorem det1_correct (a : Nat → R) : detSimple 1 a = (flatMat 1 a).det := by
  simp [detSimple, flatMat]

theorem det2_correct (a : Nat → R) : detSimple 2 a = (flatMat 2 a).det := by
  simp [detSimple, det2, flatMat, Matrix.det_fin_two]

theorem det3_correct (a : Nat → R) : detSimple 3 a = (flatMat 3 a).det := by
  simp [detSimple, det3, flatMat, Matrix.det_fin_three]
  ring

theorem det4_correct (a : Nat → R) : detSimple 4 a = (flatMat 4 a).det := by
  -- Laplace expansion along the first row, the 3x3 minors by their closed form; then the indices `succAbove` are computed
  rw [Matrix.det_succ_row_zero]
  simp only [Matrix.det_fin_three, Fin.sum_univ_four, detSimple, det4, flatMat, Matrix.submatrix_apply, Matrix.of_apply]
  simp [Fin.succAbove]
  ring

/-- non-vacuity: the closed forms on a concrete integer matrix -/
example : detSimple 3 (fun i => ([2, 1, 0, 1, -3, 1, 0, 1, 4] : List Int).getD i 0) = -30 := by decide

/-- **determinant<LU>**: if the row permutation `σ` found by the static pivot search is a product of `swaps` transpositions
    (`count_swaps`), and `lu` returned `L` unit lower triangular and `U` upper triangular with `P A = L U`, then
    `product(diag(U)) * (swaps even ? 1 : -1)` is the determinant of `A`. -/
theorem detLU_correct {n : Nat} (A L U : Matrix (Fin n) (Fin n) R) (sw : List (Equiv.Perm (Fin n)))
    (hsw : ∀ g ∈ sw, g.IsSwap) (hPA : A.submatrix sw.prod id = L * U)
    (hL : L.BlockTriangular OrderDual.toDual) (hL1 : ∀ i, L i i = 1) (hU : U.BlockTriangular id)
    (V ev : Nat) (hn : n < 2 ^ 64) (hev : ev ≤ 64) (hV : V = 2 ^ ev) :
    detLU sw.length (fun i => if h : i < n then U ⟨i, h⟩ ⟨i, h⟩ else 1) n V = A.det := by
  unfold detLU
  rw [product_correct _ n V ev hn hev hV]
  have hprod : ∏ i ∈ range n, (if h : i < n then U ⟨i, h⟩ ⟨i, h⟩ else (1 : R)) = ∏ i : Fin n, U i i := by
    rw [← Fin.prod_univ_eq_prod_range (fun i => if h : i < n then U ⟨i, h⟩ ⟨i, h⟩ else (1 : R)) n]
    apply Finset.prod_congr rfl
    intro i _; simp
  rw [hprod]
  have hdet := congrArg Matrix.det hPA
  rw [Matrix.det_permute, Matrix.det_mul, Matrix.det_of_isLowerTriangular L hL, Matrix.det_of_isUpperTriangular hU] at hdet
  simp only [hL1, Finset.prod_const_one, one_mul] at hdet
  rw [← hdet, Equiv.Perm.sign_prod_list_swap hsw]
  rcases Nat.even_or_odd sw.length with he | ho
  · have : sw.length % 2 = 0 := Nat.even_iff.1 he
    simp [this, he.neg_one_pow]
  · have : sw.length % 2 = 1 := Nat.odd_iff.1 ho
    simp [this, ho.neg_one_pow]

/-- non-vacuity of `detLU_correct`: `A = [[0,1],[1,0]]`, one row swap, `L = U = 1`: the hypotheses hold and `detLU = -1 = det A` -/
example : detLU 1 (fun _ => (1 : Int)) 2 2 = -1 := by decide
example : (Matrix.of ![![(0 : Int), 1], ![1, 0]]).submatrix ([Equiv.swap (0 : Fin 2) 1].prod) id = (1 : Matrix (Fin 2) (Fin 2) Int) * 1 := by
  ext i j; fin_cases i <;> fin_cases j <;> simp

/-- `determinant<QR>` as written is `product(diag(R))`; with `R_ii = sqrt(…) ≥ 0` it cannot be negative: the sign of
    the determinant is lost (known finding QRSIGN; replayed by the `detqr … sgn=neg` cases) -/
theorem detQR_nonneg {K : Type} [CommRing K] [LinearOrder K] [IsStrictOrderedRing K] (rdiag : Nat → K) (n V ev : Nat) (hn : n < 2 ^ 64) (hev : ev ≤ 64)
    (hV : V = 2 ^ ev) (hpos : ∀ i < n, 0 ≤ rdiag i) : 0 ≤ detQR rdiag n V := by
  unfold detQR
  rw [product_correct _ n V ev hn hev hV]
  exact Finset.prod_nonneg (fun i hi => hpos i (Finset.mem_range.1 hi))
end det

/-! ## the intrinsic specialisations of the reduction back ends: theorems about GENERATED definitions

`Generated/C16Spec_<isa>.lean` is regenerated by this check (props/c16_xlate.py) from the preprocessed `backend/norm.h`, `trace.h`, `determinant.h`, `doublecontract.h`.  Under the decoding hypothesis `RingDec32/64`
(the FPU's add / sub / mul are the ring operations on the decoded values — true whenever they are exact) the specialised
`_trace` is the model's `trace`, the AVX `_det` is `det2` / `det3` (= `Matrix.det`), the radicand of `_norm<T,4|9>` is the sum of
squares of ALL elements and `_doublecontract` is `Σ a_i b_i`. -/

section spec

/-- the lane operations of the FPU decode to the operations of a commutative ring (true on data for which they are exact) -/
structure RingDec32 (fo : FOps) {R : Type} [CommRing R] (val : BitVec 32 → R) : Prop where
  add : ∀ x y, val (fo.add32 x y) = val x + val y
  sub : ∀ x y, val (fo.sub32 x y) = val x - val y
  mul : ∀ x y, val (fo.mul32 x y) = val x * val y
  zero : val 0 = 0
structure RingDec64 (fo : FOps) {R : Type} [CommRing R] (val : BitVec 64 → R) : Prop where
  add : ∀ x y, val (fo.add64 x y) = val x + val y
  sub : ∀ x y, val (fo.sub64 x y) = val x - val y
  mul : ∀ x y, val (fo.mul64 x y) = val x * val y
  zero : val 0 = 0

/-- the same operations with the square root replaced by the identity: `_norm` of it is the radicand -/
def noSqrt (fo : FOps) : FOps := { fo with sqrt32 := id, sqrt64 := id }

variable (fo : FOps) {R : Type} [CommRing R]
/-! Memory behind a pointer is a `Reg` of 32-bit words (Model/SimdIntrinsics.lean): element `i` of a `float*` is `a i`, element `i`
    of a `double*` is `lane64 a i`. -/

/-- `zero` for the zero lanes as `setzero` / `load_ss` / the translator write them -/
theorem RingDec32.val_zero {fo : FOps} {val : BitVec 32 → R} (h : RingDec32 fo val) : val 0#32 = 0 := h.zero
theorem RingDec64.val_zero {fo : FOps} {val : BitVec 64 → R} (h : RingDec64 fo val) : val 0#64 = 0 := h.zero

theorem spec_avx2_trace_double_2x2 (a : Reg) : avx2.spec.trace_double_2x2 fo a = fo.add64 (lane64 a 0) (lane64 a 3) := by
  simp only [avx2.spec.trace_double_2x2, lane, simprocAttr]
theorem spec_avx2_trace_double_3x3 (a : Reg) : avx2.spec.trace_double_3x3 fo a = fo.add64 (lane64 a 0) (fo.add64 (lane64 a 4) (lane64 a 8)) := by
  simp only [avx2.spec.trace_double_3x3, lane, simprocAttr]
theorem spec_avx2_trace_float_2x2 (a : Reg) : avx2.spec.trace_float_2x2 fo a = fo.add32 (a 0) (a 3) := by
  simp only [avx2.spec.trace_float_2x2, avx2.mm_reverse_ps, lane, simprocAttr]
theorem spec_avx2_trace_float_3x3 (a : Reg) : avx2.spec.trace_float_3x3 fo a = fo.add32 (fo.add32 (a 0) (a 4)) (a 8) := by
  simp only [avx2.spec.trace_float_3x3, lane, simprocAttr]
/-! the specialised traces are the model's `trace` (the sum of the diagonal `i*M+i`) -/
theorem spec_avx2_trace_float_3x3_model (val : BitVec 32 → R) (h : RingDec32 fo val) (a : Reg) :
    val (avx2.spec.trace_float_3x3 fo a) = Reduce.trace (fun i => val (a i)) 3 := by
  simp only [spec_avx2_trace_float_3x3, Reduce.trace, List.range_succ, List.range_zero, List.nil_append, List.cons_append, List.foldl, h.add, zero_add]
theorem spec_avx2_trace_double_3x3_model (val : BitVec 64 → R) (h : RingDec64 fo val) (a : Reg) :
    val (avx2.spec.trace_double_3x3 fo a) = Reduce.trace (fun i => val (lane64 a i)) 3 := by
  simp only [spec_avx2_trace_double_3x3, Reduce.trace, List.range_succ, List.range_zero, List.nil_append, List.cons_append, List.foldl, h.add, zero_add, add_assoc]
theorem spec_avx2_trace_float_2x2_model (val : BitVec 32 → R) (h : RingDec32 fo val) (a : Reg) :
    val (avx2.spec.trace_float_2x2 fo a) = Reduce.trace (fun i => val (a i)) 2 := by
  simp only [spec_avx2_trace_float_2x2, Reduce.trace, List.range_succ, List.range_zero, List.nil_append, List.cons_append, List.foldl, h.add, zero_add]
theorem spec_avx2_trace_double_2x2_model (val : BitVec 64 → R) (h : RingDec64 fo val) (a : Reg) :
    val (avx2.spec.trace_double_2x2 fo a) = Reduce.trace (fun i => val (lane64 a i)) 2 := by
  simp only [spec_avx2_trace_double_2x2, Reduce.trace, List.range_succ, List.range_zero, List.nil_append, List.cons_append, List.foldl, h.add, zero_add]

/-! the AVX `_det` code for 2x2 and 3x3 float / double matrices decodes to the closed forms `det2` / `det3` of the model
    (= `Matrix.det` by `det2_correct`, `det3_correct`) -/
theorem spec_avx2_det_float_2 (val : BitVec 32 → R) (h : RingDec32 fo val) (a : Reg) :
    val (avx2.spec.det_float_2 fo a) = det2 (fun i => val (a i)) := by
  simp only [avx2.spec.det_float_2, lane, simprocAttr, det2, h.sub, h.mul]
theorem spec_avx2_det_double_2 (val : BitVec 64 → R) (h : RingDec64 fo val) (a : Reg) :
    val (avx2.spec.det_double_2 fo a) = det2 (fun i => val (lane64 a i)) := by
  simp only [avx2.spec.det_double_2, lane, simprocAttr, det2, h.sub, h.mul]
theorem spec_avx2_det_float_3 (val : BitVec 32 → R) (h : RingDec32 fo val) (a : Reg) :
    val (avx2.spec.det_float_3 fo a) = det3 (fun i => val (a i)) := by
  simp only [avx2.spec.det_float_3, avx2.h_add_ps, lane, simprocAttr, det3, h.sub, h.mul, h.add]
  ring
theorem spec_avx2_det_double_3 (val : BitVec 64 → R) (h : RingDec64 fo val) (a : Reg) :
    val (avx2.spec.det_double_3 fo a) = det3 (fun i => val (lane64 a i)) := by
  simp only [avx2.spec.det_double_3, avx2.h_add_pd_m256d, lane, simprocAttr, det3, h.sub, h.mul, h.add]
  ring

/-! `_norm<T,4|9>`: the result is `sqrt` of the radicand, and the radicand decodes to the sum of squares of all elements -/
theorem spec_avx2_norm_float_4_sqrt (a : Reg) : avx2.spec.norm_float_4 fo a = fo.sqrt32 (avx2.spec.norm_float_4 (noSqrt fo) a) := by
  simp only [avx2.spec.norm_float_4, avx2.h_norm_float_4, avx2.h_add_ps, lane, simprocAttr, noSqrt, id]
theorem spec_avx2_norm_float_4_radicand (val : BitVec 32 → R) (h : RingDec32 fo val) (a : Reg) :
    val (avx2.spec.norm_float_4 (noSqrt fo) a) = ∑ i ∈ range 4, val (a i) * val (a i) := by
  simp only [avx2.spec.norm_float_4, avx2.h_norm_float_4, avx2.h_add_ps, lane, simprocAttr, noSqrt, id, h.add, h.mul, Finset.sum_range_succ, Finset.sum_range_zero]
  ring
theorem spec_avx2_norm_float_9_sqrt (a : Reg) : avx2.spec.norm_float_9 fo a = fo.sqrt32 (avx2.spec.norm_float_9 (noSqrt fo) a) := by
  simp only [avx2.spec.norm_float_9, avx2.h_norm_float_9, avx2.h_add_ps, avx2.h_add_ps_m256, lane, simprocAttr, noSqrt, id]
theorem spec_avx2_norm_float_9_radicand (val : BitVec 32 → R) (h : RingDec32 fo val) (a : Reg) :
    val (avx2.spec.norm_float_9 (noSqrt fo) a) = ∑ i ∈ range 9, val (a i) * val (a i) := by
  simp only [avx2.spec.norm_float_9, avx2.h_norm_float_9, avx2.h_add_ps, avx2.h_add_ps_m256, lane, simprocAttr, noSqrt, id, h.add, h.mul, h.val_zero, Finset.sum_range_succ, Finset.sum_range_zero]
  ring
theorem spec_avx2_norm_double_4_sqrt (a : Reg) : avx2.spec.norm_double_4 fo a = fo.sqrt64 (avx2.spec.norm_double_4 (noSqrt fo) a) := by
  simp only [avx2.spec.norm_double_4, avx2.h_norm_double_4, avx2.h_add_pd_m256d, lane, simprocAttr, noSqrt, id]
theorem spec_avx2_norm_double_4_radicand (val : BitVec 64 → R) (h : RingDec64 fo val) (a : Reg) :
    val (avx2.spec.norm_double_4 (noSqrt fo) a) = ∑ i ∈ range 4, val (lane64 a i) * val (lane64 a i) := by
  simp only [avx2.spec.norm_double_4, avx2.h_norm_double_4, avx2.h_add_pd_m256d, lane, simprocAttr, noSqrt, id, h.add, h.mul, Finset.sum_range_succ, Finset.sum_range_zero]
  ring
theorem spec_avx2_norm_double_9_sqrt (a : Reg) : avx2.spec.norm_double_9 fo a = fo.sqrt64 (avx2.spec.norm_double_9 (noSqrt fo) a) := by
  simp only [avx2.spec.norm_double_9, avx2.h_norm_double_9, avx2.h_add_pd, avx2.h_add_pd_m256d, lane, simprocAttr, noSqrt, id]
theorem spec_avx2_norm_double_9_radicand (val : BitVec 64 → R) (h : RingDec64 fo val) (a : Reg) :
    val (avx2.spec.norm_double_9 (noSqrt fo) a) = ∑ i ∈ range 9, val (lane64 a i) * val (lane64 a i) := by
  simp only [avx2.spec.norm_double_9, avx2.h_norm_double_9, avx2.h_add_pd, avx2.h_add_pd_m256d, lane, simprocAttr, noSqrt, id, h.add, h.mul, h.val_zero, Finset.sum_range_succ, Finset.sum_range_zero]
  ring

/-! `_doublecontract<T,2,2|3,3>` decodes to `Σ a_i b_i` over all 4 / 9 elements -/
theorem spec_avx2_dc_float_2x2 (val : BitVec 32 → R) (h : RingDec32 fo val) (a b : Reg) :
    val (avx2.spec.doublecontract_float_2x2 fo a b) = ∑ i ∈ range 4, val (a i) * val (b i) := by
  simp only [avx2.spec.doublecontract_float_2x2, avx2.mm_sum_ps, lane, simprocAttr, h.add, h.mul, Finset.sum_range_succ, Finset.sum_range_zero]
  ring
theorem spec_avx2_dc_float_3x3 (val : BitVec 32 → R) (h : RingDec32 fo val) (a b : Reg) :
    val (avx2.spec.doublecontract_float_3x3 fo a b) = ∑ i ∈ range 9, val (a i) * val (b i) := by
  simp only [avx2.spec.doublecontract_float_3x3, avx2.mm_sum_ps, avx2.mm256_sum_ps, lane, simprocAttr, h.add, h.mul, h.val_zero, Finset.sum_range_succ, Finset.sum_range_zero]
  ring
theorem spec_avx2_dc_double_2x2 (val : BitVec 64 → R) (h : RingDec64 fo val) (a b : Reg) :
    val (avx2.spec.doublecontract_double_2x2 fo a b) = ∑ i ∈ range 4, val (lane64 a i) * val (lane64 b i) := by
  simp only [avx2.spec.doublecontract_double_2x2, avx2.mm256_sum_pd, lane, simprocAttr, h.add, h.mul, Finset.sum_range_succ, Finset.sum_range_zero]
  ring
theorem spec_avx2_dc_double_3x3 (val : BitVec 64 → R) (h : RingDec64 fo val) (a b : Reg) :
    val (avx2.spec.doublecontract_double_3x3 fo a b) = ∑ i ∈ range 9, val (lane64 a i) * val (lane64 b i) := by
  simp only [avx2.spec.doublecontract_double_3x3, avx2.h_add_pd, avx2.h_add_pd_m256d, lane, simprocAttr, h.add, h.mul, h.val_zero, Finset.sum_range_succ, Finset.sum_range_zero]
  ring

/-! Configuration `avx512`: the generated definitions have the text of those of `avx2`, and so have the theorems. -/
theorem spec_avx512_trace_double_2x2 (a : Reg) : avx512.spec.trace_double_2x2 fo a = fo.add64 (lane64 a 0) (lane64 a 3) :=
  spec_avx2_trace_double_2x2 fo a
theorem spec_avx512_trace_double_3x3 (a : Reg) : avx512.spec.trace_double_3x3 fo a = fo.add64 (lane64 a 0) (fo.add64 (lane64 a 4) (lane64 a 8)) :=
  spec_avx2_trace_double_3x3 fo a
theorem spec_avx512_trace_float_2x2 (a : Reg) : avx512.spec.trace_float_2x2 fo a = fo.add32 (a 0) (a 3) :=
  spec_avx2_trace_float_2x2 fo a
theorem spec_avx512_trace_float_3x3 (a : Reg) : avx512.spec.trace_float_3x3 fo a = fo.add32 (fo.add32 (a 0) (a 4)) (a 8) :=
  spec_avx2_trace_float_3x3 fo a
theorem spec_avx512_trace_float_3x3_model (val : BitVec 32 → R) (h : RingDec32 fo val) (a : Reg) :
    val (avx512.spec.trace_float_3x3 fo a) = Reduce.trace (fun i => val (a i)) 3 :=
  spec_avx2_trace_float_3x3_model fo val h a
theorem spec_avx512_trace_double_3x3_model (val : BitVec 64 → R) (h : RingDec64 fo val) (a : Reg) :
    val (avx512.spec.trace_double_3x3 fo a) = Reduce.trace (fun i => val (lane64 a i)) 3 :=
  spec_avx2_trace_double_3x3_model fo val h a
theorem spec_avx512_trace_float_2x2_model (val : BitVec 32 → R) (h : RingDec32 fo val) (a : Reg) :
    val (avx512.spec.trace_float_2x2 fo a) = Reduce.trace (fun i => val (a i)) 2 :=
  spec_avx2_trace_float_2x2_model fo val h a
theorem spec_avx512_trace_double_2x2_model (val : BitVec 64 → R) (h : RingDec64 fo val) (a : Reg) :
    val (avx512.spec.trace_double_2x2 fo a) = Reduce.trace (fun i => val (lane64 a i)) 2 :=
  spec_avx2_trace_double_2x2_model fo val h a

theorem spec_avx512_det_float_2 (val : BitVec 32 → R) (h : RingDec32 fo val) (a : Reg) :
    val (avx512.spec.det_float_2 fo a) = det2 (fun i => val (a i)) :=
  spec_avx2_det_float_2 fo val h a
theorem spec_avx512_det_double_2 (val : BitVec 64 → R) (h : RingDec64 fo val) (a : Reg) :
    val (avx512.spec.det_double_2 fo a) = det2 (fun i => val (lane64 a i)) :=
  spec_avx2_det_double_2 fo val h a
theorem spec_avx512_det_float_3 (val : BitVec 32 → R) (h : RingDec32 fo val) (a : Reg) :
    val (avx512.spec.det_float_3 fo a) = det3 (fun i => val (a i)) :=
  spec_avx2_det_float_3 fo val h a
theorem spec_avx512_det_double_3 (val : BitVec 64 → R) (h : RingDec64 fo val) (a : Reg) :
    val (avx512.spec.det_double_3 fo a) = det3 (fun i => val (lane64 a i)) :=
  spec_avx2_det_double_3 fo val h a

theorem spec_avx512_norm_float_4_sqrt (a : Reg) : avx512.spec.norm_float_4 fo a = fo.sqrt32 (avx512.spec.norm_float_4 (noSqrt fo) a) :=
  spec_avx2_norm_float_4_sqrt fo a
theorem spec_avx512_norm_float_4_radicand (val : BitVec 32 → R) (h : RingDec32 fo val) (a : Reg) :
    val (avx512.spec.norm_float_4 (noSqrt fo) a) = ∑ i ∈ range 4, val (a i) * val (a i) :=
  spec_avx2_norm_float_4_radicand fo val h a
theorem spec_avx512_norm_float_9_sqrt (a : Reg) : avx512.spec.norm_float_9 fo a = fo.sqrt32 (avx512.spec.norm_float_9 (noSqrt fo) a) :=
  spec_avx2_norm_float_9_sqrt fo a
theorem spec_avx512_norm_float_9_radicand (val : BitVec 32 → R) (h : RingDec32 fo val) (a : Reg) :
    val (avx512.spec.norm_float_9 (noSqrt fo) a) = ∑ i ∈ range 9, val (a i) * val (a i) :=
  spec_avx2_norm_float_9_radicand fo val h a
theorem spec_avx512_norm_double_4_sqrt (a : Reg) : avx512.spec.norm_double_4 fo a = fo.sqrt64 (avx512.spec.norm_double_4 (noSqrt fo) a) :=
  spec_avx2_norm_double_4_sqrt fo a
theorem spec_avx512_norm_double_4_radicand (val : BitVec 64 → R) (h : RingDec64 fo val) (a : Reg) :
    val (avx512.spec.norm_double_4 (noSqrt fo) a) = ∑ i ∈ range 4, val (lane64 a i) * val (lane64 a i) :=
  spec_avx2_norm_double_4_radicand fo val h a
theorem spec_avx512_norm_double_9_sqrt (a : Reg) : avx512.spec.norm_double_9 fo a = fo.sqrt64 (avx512.spec.norm_double_9 (noSqrt fo) a) :=
  spec_avx2_norm_double_9_sqrt fo a
theorem spec_avx512_norm_double_9_radicand (val : BitVec 64 → R) (h : RingDec64 fo val) (a : Reg) :
    val (avx512.spec.norm_double_9 (noSqrt fo) a) = ∑ i ∈ range 9, val (lane64 a i) * val (lane64 a i) :=
  spec_avx2_norm_double_9_radicand fo val h a

theorem spec_avx512_dc_float_2x2 (val : BitVec 32 → R) (h : RingDec32 fo val) (a b : Reg) :
    val (avx512.spec.doublecontract_float_2x2 fo a b) = ∑ i ∈ range 4, val (a i) * val (b i) :=
  spec_avx2_dc_float_2x2 fo val h a b
theorem spec_avx512_dc_float_3x3 (val : BitVec 32 → R) (h : RingDec32 fo val) (a b : Reg) :
    val (avx512.spec.doublecontract_float_3x3 fo a b) = ∑ i ∈ range 9, val (a i) * val (b i) :=
  spec_avx2_dc_float_3x3 fo val h a b
theorem spec_avx512_dc_double_2x2 (val : BitVec 64 → R) (h : RingDec64 fo val) (a b : Reg) :
    val (avx512.spec.doublecontract_double_2x2 fo a b) = ∑ i ∈ range 4, val (lane64 a i) * val (lane64 b i) :=
  spec_avx2_dc_double_2x2 fo val h a b
theorem spec_avx512_dc_double_3x3 (val : BitVec 64 → R) (h : RingDec64 fo val) (a b : Reg) :
    val (avx512.spec.doublecontract_double_3x3 fo a b) = ∑ i ∈ range 9, val (lane64 a i) * val (lane64 b i) :=
  spec_avx2_dc_double_3x3 fo val h a b

end spec

end Fastor.C16
