import Mathlib.Data.Matrix.Mul
import Mathlib.Data.Fintype.BigOperators
import Mathlib.LinearAlgebra.Matrix.Block
import Mathlib.Analysis.Real.Sqrt
import Mathlib.Algebra.Order.Field.Basic
import FastorModel.Proofs.QRInv
import FastorModel.Proofs.QRPivot
import FastorModel.Proofs.QRFamily
import Mathlib.Tactic.NormNum
/-
  C13 — QR by modified Gram–Schmidt (unary_qr_op.h, unary_piv_op.h).

  Property: for every size and each implemented strategy, Q has orthonormal columns, R is upper triangular with
  exact zeros below the diagonal, Q*R equals the (pivoted, when requested) input, and the QR-based determinant
  equals the product of R's diagonal.

  The theorems are about `Model/QR.lean`, a transcription of `qr_mgsr_dispatcher` (outer loop over the columns,
  steps 1–4 with their loop bounds, the in-place update of the working copy, `R.fill(0)`), of `pivot_inplace`,
  `apply_pivot`, `reconstruct` and of `determinant<DetCompType::QR>`.  They hold over ANY field `K` and ANY
  function `sqrt : K → K`, for every `M`, `N`, under the hypothesis `SqrtExact`: each of the `N` values passed to
  `sqrt` is returned an exact, non-zero root (a hypothesis on a parameter — for ℝ and a full-column-rank input it
  holds with the real square root; for the rationals it holds on the inputs whose QR factors are rational, which is
  where the model is tied to the code digit for digit).  The zero pattern of `R` needs no hypothesis at all and no
  algebraic law (it holds in floating point).  Floating-point error bounds are NOT proved here; they are measured.
-/
namespace Fastor.C13
open Fastor.QR Finset

variable {K : Type} [Field K]

/-- every argument met by `sqrt` during the factorisation of `A0` gets an exact non-zero root -/
def SqrtExact (sqrt : K → K) (M N : Nat) (A0 Qin : Mat K) : Prop :=
  ∀ i, i < N → sqrt (normArg sqrt M N A0 Qin i) * sqrt (normArg sqrt M N A0 Qin i) = normArg sqrt M N A0 Qin i
    ∧ sqrt (normArg sqrt M N A0 Qin i) ≠ 0

/-- **R is upper triangular with exact zeros below the diagonal** — for every carrier with the five operations
    (no law is used: floating point included), every `sqrt`, every shape, every input. -/
theorem qr_R_lower_zero {α : Type} [Zero α] [Add α] [Sub α] [Mul α] [Div α]
    (sqrt : α → α) (M N : Nat) (A0 Qin : Mat α) (i j : Nat) (h : j < i) :
    (qrMgsr sqrt M N A0 Qin).R i j = 0 :=
  rzero_stateAt sqrt M N A0 Qin N i j (Or.inl h)

/-- **Q·R = A**: the factors reproduce the input, element by element -/
theorem qr_reconstructs (sqrt : K → K) (M N : Nat) (A0 Qin : Mat K) (hs : SqrtExact sqrt M N A0 Qin)
    (k j : Nat) (hk : k < M) (hj : j < N) :
    ∑ p ∈ range N, (qrMgsr sqrt M N A0 Qin).Q k p * (qrMgsr sqrt M N A0 Qin).R p j = A0 k j := by
  have h := (inv_stateAt sqrt M N A0 Qin N (Nat.le_refl N) (fun t ht => hs t ht)).recon k j hk hj
  rw [if_neg (by omega), add_zero] at h
  exact h.symm

/-- **Q·R = A needs only non-zero roots**: whatever `sqrt` returns — an inexact root, a rounded one, the floor of
    a root — as long as it is not zero, the factors reproduce the input exactly (the division of step 2 is undone by
    the multiplication with `R(i,i)`, and steps 3 and 4 cancel whatever `R(i,j)` is).  Exact roots are needed for
    orthogonality only.  (The exact-rational runs on arbitrary inputs check this on the real code.) -/
theorem qr_reconstructs_of_ne_zero (sqrt : K → K) (M N : Nat) (A0 Qin : Mat K)
    (hne : ∀ i, i < N → sqrt (normArg sqrt M N A0 Qin i) ≠ 0) (k j : Nat) (hk : k < M) (hj : j < N) :
    ∑ p ∈ range N, (qrMgsr sqrt M N A0 Qin).Q k p * (qrMgsr sqrt M N A0 Qin).R p j = A0 k j := by
  have h := recon_stateAt sqrt M N A0 Qin N (Nat.le_refl N) hne k j hk hj
  rw [if_neg (by omega), add_zero] at h
  exact h.symm

/-- **QᵀQ = 1**: the columns of `Q` are orthonormal -/
theorem qr_orthonormal (sqrt : K → K) (M N : Nat) (A0 Qin : Mat K) (hs : SqrtExact sqrt M N A0 Qin)
    (p q : Nat) (hp : p < N) (hq : q < N) :
    ∑ k ∈ range M, (qrMgsr sqrt M N A0 Qin).Q k p * (qrMgsr sqrt M N A0 Qin).Q k q = if p = q then 1 else 0 :=
  (inv_stateAt sqrt M N A0 Qin N (Nat.le_refl N) (fun t ht => hs t ht)).orth p q hp hq

/-- the diagonal of `R` holds the roots: `R(i,i)² ` is the `i`-th argument of `sqrt` -/
theorem qr_R_diag (sqrt : K → K) (M N : Nat) (A0 Qin : Mat K) (i : Nat) :
    (stateAt sqrt M N A0 Qin (i + 1)).R i i = sqrt (normArg sqrt M N A0 Qin i) := by
  rw [stateAt_succ, outerStep_R, if_neg (by omega), set2_get, if_pos ⟨rfl, rfl⟩]; rfl

/-- `product(diag(R))` is the product of the diagonal -/
theorem diagProd_eq (n : Nat) (R : Mat K) : diagProd n R = ∏ i ∈ range n, R i i := by
  unfold diagProd
  refine loop_induction (Nat.zero_le n) _ (1 : K) (fun x acc => acc = ∏ i ∈ range x, R i i) (by simp) ?_
  intro x t _ _ ih
  rw [prod_range_succ, ih]

/-- **the QR-based determinant is the product of R's diagonal** -/
theorem detQR_eq_prod_diag (sqrt : K → K) (n : Nat) (A Qin : Mat K) :
    detQR sqrt n A Qin = ∏ i ∈ range n, (qr sqrt n A Qin).R i i :=
  diagProd_eq n _

/-! ### the same statements as matrix identities (square case: the only one the public `qr` compiles for) -/

/-- the `n × n` matrix held by a tensor -/
def toMatrix (n : Nat) (X : Mat K) : Matrix (Fin n) (Fin n) K := Matrix.of fun i j => X i j

/-- **C13, unpivoted**: `R` upper triangular with exact zeros, `Q * R = A`, `Qᵀ * Q = 1`, `det_qr = ∏ R_ii` -/
theorem qr_correct (sqrt : K → K) (n : Nat) (A Qin : Mat K) (hs : SqrtExact sqrt n n A Qin) :
    (∀ i j, j < i → (qr sqrt n A Qin).R i j = 0)
    ∧ toMatrix n (qr sqrt n A Qin).Q * toMatrix n (qr sqrt n A Qin).R = toMatrix n A
    ∧ (toMatrix n (qr sqrt n A Qin).Q).transpose * toMatrix n (qr sqrt n A Qin).Q = 1
    ∧ detQR sqrt n A Qin = ∏ i : Fin n, (qr sqrt n A Qin).R i i := by
  refine ⟨fun i j h => qr_R_lower_zero sqrt n n A Qin i j h, ?_, ?_, ?_⟩
  · ext i j
    rw [Matrix.mul_apply]
    simp only [toMatrix, Matrix.of_apply]
    rw [Fin.sum_univ_eq_sum_range (fun p => (qr sqrt n A Qin).Q i p * (qr sqrt n A Qin).R p j) n]
    exact qr_reconstructs sqrt n n A Qin hs i j i.2 j.2
  · ext p q
    rw [Matrix.mul_apply]
    simp only [toMatrix, Matrix.of_apply, Matrix.transpose_apply, Matrix.one_apply]
    rw [Fin.sum_univ_eq_sum_range (fun k => (qr sqrt n A Qin).Q k p * (qr sqrt n A Qin).Q k q) n]
    have h := qr_orthonormal sqrt n n A Qin hs p q p.2 q.2
    unfold qr
    rw [h]
    simp only [Fin.ext_iff]
  · rw [detQR_eq_prod_diag, ← Fin.prod_univ_eq_prod_range]

/-- **what `determinant<DetCompType::QR>` is, and is not**: its square is the square of the determinant
    (so it is `|det A|` up to the sign of the roots chosen by `sqrt` — the sign of `det A` is lost). -/
theorem detQR_sq (sqrt : K → K) (n : Nat) (A Qin : Mat K) (hs : SqrtExact sqrt n n A Qin) :
    detQR sqrt n A Qin * detQR sqrt n A Qin = (toMatrix n A).det * (toMatrix n A).det := by
  obtain ⟨hlow, hqr, hqq, hdet⟩ := qr_correct sqrt n A Qin hs
  have hR : (toMatrix n (qr sqrt n A Qin).R).det = detQR sqrt n A Qin := by
    rw [hdet, Matrix.det_of_isUpperTriangular]
    · rfl
    · intro i j hij
      exact hlow i j hij
  have hQ : (toMatrix n (qr sqrt n A Qin).Q).det * (toMatrix n (qr sqrt n A Qin).Q).det = 1 := by
    have := congrArg Matrix.det hqq
    rwa [Matrix.det_mul, Matrix.det_transpose, Matrix.det_one] at this
  rw [← hqr, Matrix.det_mul, hR]
  calc detQR sqrt n A Qin * detQR sqrt n A Qin
      = ((toMatrix n (qr sqrt n A Qin).Q).det * (toMatrix n (qr sqrt n A Qin).Q).det)
          * (detQR sqrt n A Qin * detQR sqrt n A Qin) := by rw [hQ, one_mul]
    _ = _ := by ring



/-! ### over the reals with the real square root -/

/-- over `ℝ` with `Real.sqrt` the hypothesis `SqrtExact` says exactly that no working column vanishes when it is
    normalised (⇔ full column rank): a sum of squares is non-negative, so its real root is an exact root -/
theorem sqrtExact_real (M N : Nat) (A0 Qin : Mat ℝ)
    (hpos : ∀ i, i < N → normArg Real.sqrt M N A0 Qin i ≠ 0) : SqrtExact Real.sqrt M N A0 Qin := by
  intro i hi
  have h0 : 0 ≤ normArg Real.sqrt M N A0 Qin i := by
    unfold normArg
    rw [colNorm2_eq]
    exact sum_nonneg (fun k _ => mul_self_nonneg _)
  exact ⟨Real.mul_self_sqrt h0, (Real.sqrt_ne_zero h0).2 (hpos i hi)⟩

/-- **C13 for real matrices**: with the real square root, if no working column vanishes, then `R` is upper triangular,
    `Q * R = A`, `Qᵀ * Q = 1` and `det_qr = ∏ R_ii` — for every `n`. -/
theorem qr_correct_real (n : Nat) (A Qin : Mat ℝ)
    (hpos : ∀ i, i < n → normArg Real.sqrt n n A Qin i ≠ 0) :
    (∀ i j, j < i → (qr Real.sqrt n A Qin).R i j = 0)
    ∧ toMatrix n (qr Real.sqrt n A Qin).Q * toMatrix n (qr Real.sqrt n A Qin).R = toMatrix n A
    ∧ (toMatrix n (qr Real.sqrt n A Qin).Q).transpose * toMatrix n (qr Real.sqrt n A Qin).Q = 1
    ∧ detQR Real.sqrt n A Qin = ∏ i : Fin n, (qr Real.sqrt n A Qin).R i i :=
  qr_correct Real.sqrt n A Qin (sqrtExact_real n n A Qin hpos)

/-- non-vacuity: the 1×1 real matrix `[2]` -/
example : ∀ i, i < 1 → normArg Real.sqrt 1 1 (Mat.ofFn (fun _ _ => (2 : ℝ))) (Mat.ofFn (fun _ _ => 0)) i ≠ 0 := by
  intro i hi
  have : i = 0 := by omega
  subst this
  norm_num [normArg, stateAt, colNorm2, loop, List.range', initSt, Mat.ofFn]

/-! ### pivoted strategies (`QRCompType::MGSRPiv`)

  As implemented, the pivot is the partial-pivoting ROW permutation of `pivot_inplace` (arg-max of `|A(i,j)|`,
  `i ≥ j`, on the unreduced columns), applied to the rows before the factorisation: `Q * R = P * A`. -/

/-- the product `Q * R` as a tensor -/
def prodMat (n : Nat) (Q R : Mat K) : Mat K := Mat.ofFn (fun k j => ∑ p ∈ range n, Q k p * R p j)

/-- **C13, pivot returned as an index vector**: `P` is a permutation of `0..n-1`, `R` is upper triangular with exact
    zeros, `Q * R` is `A` with row `P(k)` moved to row `k`, `Q` has orthonormal columns, and the library's
    `reconstruct(Q*R, P)` gives back `A`. -/
theorem qr_pivV_correct (sqrt : K → K) (gt : K → K → Bool) (abs : K → K) (n : Nat) (A Qin : Mat K)
    (hs : SqrtExact sqrt n n (applyPivot n A (pivotPerm gt abs n A)) Qin) :
    IsPermBelow n (qrPivV sqrt gt abs n A Qin).2
    ∧ (∀ i j, j < i → (qrPivV sqrt gt abs n A Qin).1.R i j = 0)
    ∧ (∀ k j, k < n → j < n →
        ∑ p ∈ range n, (qrPivV sqrt gt abs n A Qin).1.Q k p * (qrPivV sqrt gt abs n A Qin).1.R p j
          = A ((qrPivV sqrt gt abs n A Qin).2 k) j)
    ∧ (∀ p q, p < n → q < n →
        ∑ k ∈ range n, (qrPivV sqrt gt abs n A Qin).1.Q k p * (qrPivV sqrt gt abs n A Qin).1.Q k q = if p = q then 1 else 0)
    ∧ (∀ k j, k < n → j < n →
        (reconstruct n (prodMat n (qrPivV sqrt gt abs n A Qin).1.Q (qrPivV sqrt gt abs n A Qin).1.R)
          (qrPivV sqrt gt abs n A Qin).2) k j = A k j) := by
  have hperm := pivotPerm_isPerm gt abs n A
  have hrec : ∀ k j, k < n → j < n →
      ∑ p ∈ range n, (qrPivV sqrt gt abs n A Qin).1.Q k p * (qrPivV sqrt gt abs n A Qin).1.R p j
        = A ((qrPivV sqrt gt abs n A Qin).2 k) j := by
    intro k j hk hj
    have h := qr_reconstructs sqrt n n _ Qin hs k j hk hj
    rw [applyPivot_get, if_pos hk] at h
    exact h
  refine ⟨hperm, fun i j h => qr_R_lower_zero sqrt n n _ Qin i j h, hrec,
    fun p q hp hq => qr_orthonormal sqrt n n _ Qin hs p q hp hq, ?_⟩
  intro k j hk hj
  exact reconstruct_of_rows n A _ _ hperm k j hk (fun i hi => hrec i j hi hj)

/-- **C13, pivot returned as a 0/1 matrix**: `P(k,c) = 1` exactly at `c = perm(k)`, the permutation is read back
    correctly by `std::find`, and the factors satisfy the same identities. -/
theorem qr_pivM_correct [DecidableEq K] (sqrt : K → K) (gt : K → K → Bool) (abs : K → K) (n : Nat) (A Qin : Mat K)
    (hs : SqrtExact sqrt n n
      (applyPivot n A (findOne n (permMatrix n (pivotPerm gt abs n A) : Mat K))) Qin) :
    (∀ k c, k < n → (qrPivM sqrt gt abs n A Qin).2 k c = if c = pivotPerm gt abs n A k then 1 else 0)
    ∧ IsPermBelow n (pivotPerm gt abs n A)
    ∧ (∀ i j, j < i → (qrPivM sqrt gt abs n A Qin).1.R i j = 0)
    ∧ (∀ k j, k < n → j < n →
        ∑ p ∈ range n, (qrPivM sqrt gt abs n A Qin).1.Q k p * (qrPivM sqrt gt abs n A Qin).1.R p j
          = A (pivotPerm gt abs n A k) j)
    ∧ (∀ p q, p < n → q < n →
        ∑ k ∈ range n, (qrPivM sqrt gt abs n A Qin).1.Q k p * (qrPivM sqrt gt abs n A Qin).1.Q k q = if p = q then 1 else 0) := by
  have hperm := pivotPerm_isPerm gt abs n A
  refine ⟨?_, hperm, fun i j h => qr_R_lower_zero sqrt n n _ Qin i j h, ?_,
    fun p q hp hq => qr_orthonormal sqrt n n _ Qin hs p q hp hq⟩
  · intro k c hk
    show (permMatrix n (pivotPerm gt abs n A) : Mat K) k c = _
    rw [permMatrix_get]
    by_cases hc : c = pivotPerm gt abs n A k
    · rw [if_pos ⟨hk, hc⟩, if_pos hc]
    · rw [if_neg (fun h => hc h.2), if_neg hc]
  · intro k j hk hj
    have h := qr_reconstructs sqrt n n _ Qin hs k j hk hj
    rw [applyPivot_get, if_pos hk, findOne_permMatrix n _ k hk (hperm.lt k hk)] at h
    exact h

/-! ### the family on which the model is tied to the code exactly -/

/-- **On `A0 = Q0 * R0`** (`Q0` with orthonormal columns, `R0` upper triangular, `sqrt (R0 i i ²) = R0 i i ≠ 0` —
    `QR.Fam`) the hypothesis `SqrtExact` holds, the `i`-th argument of `sqrt` is the square `R0 i i ²`, and the
    dispatcher returns exactly `Q0` and `R0`.  Over `ℚ` with the exact rational root this is the reason why the
    correspondence runs (harness/qr_rat.h) never meet a non-square and may demand `Q == Q0`, `R == R0`; it also shows
    that `SqrtExact` is met for every size. -/
theorem qr_on_family (sqrt : K → K) (M N : Nat) (A0 Qin Q0 R0 : Mat K) (hf : Fam M N A0 Q0 R0 sqrt) :
    SqrtExact sqrt M N A0 Qin
    ∧ (∀ i, i < N → normArg sqrt M N A0 Qin i = R0 i i * R0 i i)
    ∧ (∀ k p, k < M → p < N → (qrMgsr sqrt M N A0 Qin).Q k p = Q0 k p)
    ∧ (∀ p j, p < N → j < N → (qrMgsr sqrt M N A0 Qin).R p j = R0 p j) := by
  obtain ⟨h1, h2⟩ := finv_stateAt sqrt M N A0 Qin Q0 R0 hf N (Nat.le_refl N)
  refine ⟨?_, h2, fun k p hk hp => h1.fQ k p hk hp, fun p j hp hj => h1.fR p j hp hj⟩
  intro i hi
  rw [h2 i hi, (hf.root i hi).1]
  exact ⟨rfl, (hf.root i hi).2⟩

/-! ### the hypotheses can be met: a 2×2 rational matrix -/

/-- the 2×2 matrix `[[3,1],[4,2]]` -/
def exA : Mat ℚ := Mat.ofFn (fun i j => if i = 0 then (if j = 0 then 3 else 1) else (if j = 0 then 4 else 2))
/-- a "square root" that is exact on the two arguments met: `25` and `4/25` -/
def exSqrt (x : ℚ) : ℚ := if x = 25 then 5 else 2 / 5

/-- `exA` belongs to the family: `[[3,1],[4,2]] = [[3/5,-4/5],[4/5,3/5]] * [[5,11/5],[0,2/5]]` -/
theorem exA_fam : Fam 2 2 exA
    (Mat.ofFn (fun i j => if i = 0 then (if j = 0 then 3 / 5 else -4 / 5) else (if j = 0 then 4 / 5 else 3 / 5)))
    (Mat.ofFn (fun i j => if i = 0 then (if j = 0 then 5 else 11 / 5) else (if j < i then 0 else 2 / 5)))
    exSqrt where
  orth := by
    intro p q hp hq
    have : (p = 0 ∨ p = 1) ∧ (q = 0 ∨ q = 1) := by omega
    rcases this with ⟨rfl | rfl, rfl | rfl⟩ <;>
      simp only [Mat.ofFn, sum_range_succ, sum_range_zero, zero_add, one_ne_zero, zero_ne_one, ↓reduceIte] <;> norm_num
  upper := by
    intro p j h
    simp only [Mat.ofFn, Nat.ne_of_gt (Nat.zero_lt_of_lt h), h, ↓reduceIte]
  root := by
    intro i hi
    have : i = 0 ∨ i = 1 := by omega
    rcases this with rfl | rfl <;> simp only [Mat.ofFn, exSqrt, one_ne_zero, Nat.lt_irrefl, ↓reduceIte] <;> norm_num
  prod := by
    intro k j hk hj
    have : (k = 0 ∨ k = 1) ∧ (j = 0 ∨ j = 1) := by omega
    rcases this with ⟨rfl | rfl, rfl | rfl⟩ <;>
      simp only [Mat.ofFn, exA, sum_range_succ, sum_range_zero, zero_add, one_ne_zero, zero_ne_one, Nat.lt_irrefl,
        Nat.zero_lt_one, ↓reduceIte] <;> norm_num

/-- the family is inhabited non-trivially: `[[3,1],[4,2]] = [[3/5,-4/5],[4/5,3/5]] * [[5,11/5],[0,2/5]]` -/
example : Fam 2 2 exA
    (Mat.ofFn (fun i j => if i = 0 then (if j = 0 then 3 / 5 else -4 / 5) else (if j = 0 then 4 / 5 else 3 / 5)))
    (Mat.ofFn (fun i j => if i = 0 then (if j = 0 then 5 else 11 / 5) else (if j < i then 0 else 2 / 5)))
    exSqrt := exA_fam

theorem ex_normArg0 : normArg exSqrt 2 2 exA exA 0 = 25 := by
  rw [(qr_on_family exSqrt 2 2 exA exA _ _ exA_fam).2.1 0 (by decide)]
  norm_num [Mat.ofFn]

theorem ex_normArg1 : normArg exSqrt 2 2 exA exA 1 = 4 / 25 := by
  rw [(qr_on_family exSqrt 2 2 exA exA _ _ exA_fam).2.1 1 (by decide)]
  norm_num [Mat.ofFn]

/-- `SqrtExact` holds for a concrete non-trivial instance: `[[3,1],[4,2]] = [[3/5,-4/5],[4/5,3/5]] * [[5,11/5],[0,2/5]]` -/
example : SqrtExact exSqrt 2 2 exA exA := (qr_on_family exSqrt 2 2 exA exA _ _ exA_fam).1

/-- the pivot of `exA` is a genuine swap (`|4| > |3|`): the pivoted hypotheses are about a permuted matrix -/
example : pivotPerm (fun a b : ℚ => decide (b < a)) (fun x => |x|) 2 exA 0 = 1 := by
  decide

/-! ### the diagonal of R, uniqueness on the family -/

/-- row `i` of `R` is final once iteration `i` is over: later iterations write other rows only -/
theorem R_row_frozen (sqrt : K → K) (M N : Nat) (A0 Qin : Mat K) (i t : Nat) (h : i < t) (j : Nat) :
    (stateAt sqrt M N A0 Qin t).R i j = (stateAt sqrt M N A0 Qin (i + 1)).R i j := by
  induction t with
  | zero => omega
  | succ n ih =>
    by_cases hn : i = n
    · subst hn; rfl
    · rw [stateAt_succ, outerStep_R, if_neg (by omega), set2_get, if_neg (by omega)]
      exact ih (by omega)

/-- the diagonal of the returned `R` holds the values returned by `sqrt` -/
theorem qr_R_diag_eq (sqrt : K → K) (M N : Nat) (A0 Qin : Mat K) (i : Nat) (hi : i < N) :
    (qrMgsr sqrt M N A0 Qin).R i i = sqrt (normArg sqrt M N A0 Qin i) := by
  unfold qrMgsr
  rw [R_row_frozen sqrt M N A0 Qin i N hi, qr_R_diag]

/-- **R has a positive diagonal** when `sqrt` returns non-negative exact roots (ordered field) -/
theorem qr_R_diag_pos [LinearOrder K] [IsStrictOrderedRing K] (sqrt : K → K) (M N : Nat) (A0 Qin : Mat K)
    (hs : SqrtExact sqrt M N A0 Qin) (hnn : ∀ i, i < N → 0 ≤ sqrt (normArg sqrt M N A0 Qin i)) (i : Nat) (hi : i < N) :
    0 < (qrMgsr sqrt M N A0 Qin).R i i := by
  rw [qr_R_diag_eq sqrt M N A0 Qin i hi]
  exact lt_of_le_of_ne (hnn i hi) (Ne.symm (hs i hi).2)

/-- over the reals: `R i i > 0` for an input of full column rank -/
theorem qr_R_diag_pos_real (M N : Nat) (A0 Qin : Mat ℝ)
    (hpos : ∀ i, i < N → normArg Real.sqrt M N A0 Qin i ≠ 0) (i : Nat) (hi : i < N) :
    0 < (qrMgsr Real.sqrt M N A0 Qin).R i i :=
  qr_R_diag_pos Real.sqrt M N A0 Qin (sqrtExact_real M N A0 Qin hpos) (fun _ _ => Real.sqrt_nonneg _) i hi

/-- **uniqueness on the family**: two factorisations `A0 = Q0*R0 = Q1*R1` of the family kind (orthonormal columns,
    upper triangular, diagonal fixed by `sqrt`) coincide on the index range — both are what the dispatcher returns -/
theorem qr_unique_on_family (sqrt : K → K) (M N : Nat) (A0 Q0 R0 Q1 R1 : Mat K)
    (h0 : Fam M N A0 Q0 R0 sqrt) (h1 : Fam M N A0 Q1 R1 sqrt) :
    (∀ k p, k < M → p < N → Q0 k p = Q1 k p) ∧ (∀ p j, p < N → j < N → R0 p j = R1 p j) := by
  obtain ⟨_, _, hq0, hr0⟩ := qr_on_family sqrt M N A0 A0 Q0 R0 h0
  obtain ⟨_, _, hq1, hr1⟩ := qr_on_family sqrt M N A0 A0 Q1 R1 h1
  exact ⟨fun k p hk hp => (hq0 k p hk hp).symm.trans (hq1 k p hk hp),
    fun p j hp hj => (hr0 p j hp hj).symm.trans (hr1 p j hp hj)⟩

end Fastor.C13
