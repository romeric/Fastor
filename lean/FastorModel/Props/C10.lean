import FastorModel.Proofs.InverseLeaf
import FastorModel.Proofs.InverseTri
import FastorModel.Proofs.InversePiv
import FastorModel.Proofs.InverseSse
import FastorModel.Proofs.InverseLU
import FastorModel.Proofs.InverseLUBridge
import Mathlib.LinearAlgebra.Matrix.Determinant.Basic
/-!
# C10 — `inverse(A)` times `A` is the identity, for every size and every computation type

Statement (properties.jsonl): for every square size and each of the six inversion strategies, the returned `X`
satisfies `‖A·X − I‖`, `‖X·A − I‖` below a bound proportional to `n·eps·cond(A)` for every non-singular `A` on which
the chosen strategy is defined; triangular inversion and the batched inverse obey the same bound per matrix.

What is proved here is the exact-arithmetic content: over ANY field, for EVERY size, the algorithm of
`Model/Inverse.lean` (a transcription of `inverse_dispatcher` & co: closed forms, size-class dispatch, split
points, Schur-complement recombination, pivot application and column-wise reconstruction) returns a two-sided
inverse whenever every value it divides by is non-zero (`InvDefined`).  The floating-point bound itself is not
provable by this technique; it is measured by the check (`harness/inverse_real.h`).
-/
namespace Fastor.C10
open Fastor.Inv Matrix

variable {K : Type} [Field K]

/-- closed forms `_inverse<T,n>`, `n = 1..4` (generic scalar code of backend/inverse.h): two-sided inverse whenever
    the determinant expression the code divides by is non-zero -/
theorem closed_form_correct (n : Nat) (h1 : 1 ≤ n) (h4 : n ≤ 4) (A : Mat K) (h : leafDet n (flat n A) ≠ 0) :
    toMat n n (leafInv n A) * toMat n n A = 1 ∧ toMat n n A * toMat n n (leafInv n A) = 1 := by
  have hl := leaf_left n h1 h4 A h
  exact ⟨hl, mul_eq_one_comm.mp hl⟩

example : leafDet 2 (flat 2 ({ get := fun i j => if i = j then (2 : ℚ) else 1 } : Mat ℚ)) ≠ 0 := by
  norm_num [leafDet, flat]

/-- **inverse_correct** — `inverse<InvCompType::SimpleInv>(A)` (`internal::inverse_dispatcher`): for EVERY size
    `M ≥ 1` (the code accepts `1..256`; the model uses the last split formula beyond) and every `A` on which the
    recursion is defined, `X·A = 1 ∧ A·X = 1`.  The left inverse is `inv_left` (strong induction on `M`; the step is
    the Schur-complement block identity `block_left_inv` with the split point `splitPoint M` of the size class); a
    left inverse of a square matrix over a field is a right inverse. -/
theorem inverse_correct (M : Nat) (hM : 0 < M) (A : Mat K) (hdef : InvDefined M A) :
    toMat M M (inverseSimple M A) * toMat M M A = 1 ∧ toMat M M A * toMat M M (inverseSimple M A) = 1 := by
  have hl : toMat M M (inverseSimple M A) * toMat M M A = 1 := by
    unfold inverseSimple
    simp only [memo_eq]
    exact inv_left M hM A hdef
  exact ⟨hl, mul_eq_one_comm.mp hl⟩

/-- the sizes with a dispatcher overload are covered -/
theorem inverse_correct_accepted (M : Nat) (hM : accepted M = true) (A : Mat K) (hdef : InvDefined M A) :
    toMat M M (inverseSimple M A) * toMat M M A = 1 ∧ toMat M M A * toMat M M (inverseSimple M A) = 1 := by
  have : 0 < M := by simp [accepted] at hM; omega
  exact inverse_correct M this A hdef


example : InvDefined 2 ({ get := fun i j => if i = j then (2 : ℚ) else 1 } : Mat ℚ) := by
  intro x hx
  rw [invDivs, dif_pos (by omega)] at hx
  simp only [List.mem_singleton] at hx
  subst hx
  norm_num [leafDet, flat]

/-- **ut_inverse_correct** — `tinverse<SimpleInv,UpLoType::Upper>` (`ut_inverse_dispatcher`, all size classes, `matmul`
    below 33 and `tmatmul` above): for every size and every exactly upper triangular `A` whose leaf blocks have
    non-zero determinant, `X·A = 1 ∧ A·X = 1`, and `X` is again exactly upper triangular (which is what makes the
    `tmatmul<General,Upper>` / `tmatmul<Upper,General>` calls of the larger classes legitimate). -/
theorem ut_inverse_correct (M : Nat) (hM : 0 < M) (A : Mat K) (hA : UpperTri M A) (hdef : UtDefined M A) :
    toMat M M (tinverseUpper M A) * toMat M M A = 1 ∧ toMat M M A * toMat M M (tinverseUpper M A) = 1
      ∧ UpperTri M (tinverseUpper M A) := by
  unfold tinverseUpper
  simp only [memo_eq]
  obtain ⟨hl, hu⟩ := ut_left M hM A hA hdef
  exact ⟨hl, mul_eq_one_comm.mp hl, hu⟩

example : UpperTri 3 ({ get := fun i j => if j < i then (0 : ℚ) else 2 } : Mat ℚ) := by
  intro i _ j _ h; simp [h]

/-- **lut_inverse_correct** — `tinverse<SimpleInv,UpLoType::UniLower>` (`lut_inverse_dispatcher` on top of
    `_lowunitri_inverse<T,1..4>`): for every size and every exactly unit lower triangular `A`, `X·A = 1 ∧ A·X = 1`
    and `X` has exact zeros above the diagonal.  (No division is performed: always defined.) -/
theorem lut_inverse_correct (M : Nat) (hM : 0 < M) (A : Mat K) (hA : UnitLower M A) :
    toMat M M (tinverseUniLower M A) * toMat M M A = 1 ∧ toMat M M A * toMat M M (tinverseUniLower M A) = 1
      ∧ LowerZ M (tinverseUniLower M A) := by
  unfold tinverseUniLower
  simp only [memo_eq]
  obtain ⟨hl, hz⟩ := lut_left M hM A hA
  exact ⟨hl, mul_eq_one_comm.mp hl, hz⟩

example : UnitLower 4 ({ get := fun i j => if i < j then (0 : ℚ) else if i = j then 1 else 3 } : Mat ℚ) := by
  refine ⟨fun i _ j _ h => by simp [h], fun i _ => by simp⟩

/-- **pivot_perm** — the vector filled by the swap loop of `pivot_inplace` is a permutation of `0..M-1` for every
    input matrix and every comparison -/
theorem pivot_perm {α : Type} (gt : α → α → Bool) (M : Nat) (A : Mat α) : IsPermOn M (pivotVec gt M A).get :=
  pivotVec_perm gt M A

/-- **inverse_piv_correct** — `inverse<InvCompType::SimpleInvPiv>`: `pivot_inplace`, `apply_pivot`,
    `inverse_dispatcher` on the row-pre-pivoted matrix, `reconstruct_colwise`: for every size, every comparison used
    by the pivot search and every `A` such that the recursion is defined on the row-pre-pivoted matrix,
    `X·A = 1 ∧ A·X = 1`. -/
theorem inverse_piv_correct (gt : K → K → Bool) (M : Nat) (hM : 0 < M) (A : Mat K)
    (hdef : InvDefined M (applyPivot A (pivotVec gt M A))) :
    toMat M M (inverseSimplePiv gt M A) * toMat M M A = 1 ∧ toMat M M A * toMat M M (inverseSimplePiv gt M A) = 1 := by
  have hl : toMat M M (inverseSimplePiv gt M A) * toMat M M A = 1 := by
    unfold inverseSimplePiv
    simp only [memo_eq]
    exact reconstruct_left M A _ _ (pivotVec_perm gt M A) (inv_left M hM _ hdef)
  exact ⟨hl, mul_eq_one_comm.mp hl⟩

/-- the permutation of the example below exchanges rows 0 and 1 (the matrix has a zero in position (0,0): the
    unpivoted recursion is undefined on it, the pivoted one is defined) -/
example : InvDefined 2 (applyPivot ({ get := fun i j => if i = j then (0 : ℚ) else 1 } : Mat ℚ)
    { get := fun k => if k = 0 then 1 else if k = 1 then 0 else k }) := by
  intro x hx
  rw [invDivs, dif_pos (by omega)] at hx
  simp only [List.mem_singleton] at hx
  subst hx
  norm_num [leafDet, flat, applyPivot]

/-- **batched_inverse_correct** — `inverse(const Tensor<T,Rest...,J,J>&)` (rank ≥ 3, `J ≤ 4`): slice `b` of the
    result is a left inverse of slice `b` of the operand whenever its determinant expression is non-zero -/
theorem batched_inverse_correct (J : Nat) (h1 : 1 ≤ J) (h4 : J ≤ 4) (a : Nat → K) (b : Nat)
    (hdet : leafDet J (fun q => a (b * (J * J) + q)) ≠ 0) :
    toMat J J (unflat J (fun q => (batchedInverse J a) (b * (J * J) + q)))
      * toMat J J (unflat J (fun q => a (b * (J * J) + q))) = 1 := by
  have hfl : flat J (unflat J (fun q => a (b * (J * J) + q))) = fun q => a (b * (J * J) + q) := by
    funext k
    show a (b * (J * J) + (k / J * J + k % J)) = a (b * (J * J) + k)
    rw [Nat.div_add_mod' k J]
  have hl := leaf_left J h1 h4 (unflat J (fun q => a (b * (J * J) + q))) (by rw [hfl]; exact hdet)
  rw [← hl]
  congr 1
  apply toMat_congr
  intro i hi j hj
  have hq := pos_lt hi hj
  show leafFlat J (fun q => a ((b * (J * J) + (i * J + j)) / (J * J) * (J * J) + q))
        ((b * (J * J) + (i * J + j)) % (J * J))
      = leafFlat J (flat J (unflat J (fun q => a (b * (J * J) + q)))) (i * J + j)
  rw [pos_div hq, pos_mod hq, hfl]


/-- **sse_leaf_kernels_correct** — the SSE intrinsic leaf kernels `_inverse<float,4>`, `_inverse<double,4>`,
    `_inverse<float,2>`, `_inverse<double,2>` (hand models `Sse.inv4f`, `Sse.inv4d`, `Sse.inv2f`, `Sse.inv2d` of Model/InverseSse.lean: registers as lane
    tuples, every shuffle immediate / `movelh` / `movehl` / `_ss` form / sign mask as in the source; the floating point
    operations read as field operations) return, on every matrix with non-zero determinant, exactly the matrix of the
    scalar closed form — the inverse. -/
theorem sse_leaf_kernels_correct (A : Mat K) :
    (leafDet 4 (flat 4 A) ≠ 0 →
      toMat 4 4 (unflat 4 (Sse.inv4f (flat 4 A))) = toMat 4 4 (leafInv 4 A)
      ∧ toMat 4 4 (unflat 4 (Sse.inv4d (flat 4 A))) = toMat 4 4 (leafInv 4 A)
      ∧ toMat 4 4 (unflat 4 (Sse.inv4f (flat 4 A))) * toMat 4 4 A = 1
      ∧ toMat 4 4 (unflat 4 (Sse.inv4d (flat 4 A))) * toMat 4 4 A = 1) ∧
    (leafDet 2 (flat 2 A) ≠ 0 →
      toMat 2 2 (unflat 2 (Sse.inv2f (flat 2 A))) = toMat 2 2 (leafInv 2 A)
      ∧ toMat 2 2 (unflat 2 (Sse.inv2d (flat 2 A))) = toMat 2 2 (leafInv 2 A)
      ∧ toMat 2 2 (unflat 2 (Sse.inv2f (flat 2 A))) * toMat 2 2 A = 1
      ∧ toMat 2 2 (unflat 2 (Sse.inv2d (flat 2 A))) * toMat 2 2 A = 1) := by
  have e4f : toMat 4 4 (unflat 4 (Sse.inv4f (flat 4 A))) = toMat 4 4 (leafInv 4 A) :=
    toMat_congr fun i hi j hj => Sse.inv4f_eq _ _ (pos_lt hi hj)
  have e4d : toMat 4 4 (unflat 4 (Sse.inv4d (flat 4 A))) = toMat 4 4 (leafInv 4 A) :=
    toMat_congr fun i hi j hj => Sse.inv4d_eq _ _ (pos_lt hi hj)
  have e2f : toMat 2 2 (unflat 2 (Sse.inv2f (flat 2 A))) = toMat 2 2 (leafInv 2 A) :=
    toMat_congr fun i hi j hj => Sse.inv2f_eq _ _ (pos_lt hi hj)
  have e2d : toMat 2 2 (unflat 2 (Sse.inv2d (flat 2 A))) = toMat 2 2 (leafInv 2 A) :=
    toMat_congr fun i hi j hj => Sse.inv2d_eq _ _ (pos_lt hi hj)
  refine ⟨fun h => ?_, fun h => ?_⟩
  · have h0 := leaf_left 4 (by omega) (by omega) A h
    exact ⟨e4f, e4d, e4f ▸ h0, e4d ▸ h0⟩
  · have h0 := leaf_left 2 (by omega) (by omega) A h
    exact ⟨e2f, e2d, e2f ▸ h0, e2d ▸ h0⟩


/-- **inverse_lu_correct** — the LU based strategies (`inverse<SimpleLU|BlockLU|SimpleLUPiv|BlockLUPiv>`), relative to
    the LU postcondition (property C11): for ANY `L`, `U` — whichever of `_lufact`, `lu_simple_dispatcher`,
    `recursive_lu_dispatcher`, `lu_block_dispatcher` produced them — such that (strict lower triangle of `L` with unit
    diagonal)·(upper triangle of `U`) = `apply_pivot(A,p)`, `p` a permutation (`pivot_perm`; the identity for the
    unpivoted strategies) and `U(i,i) ≠ 0`, the matrix returned by `get_lu_inverse(L,U,p)`
    (`forward_subs` then `backward_subs`, transcribed with their `_inner` sums and the reversed fill order) satisfies
    `X·A = 1 ∧ A·X = 1`, for every size.  Only the entries of `L`, `U` that the substitutions read are constrained
    (the public `inverse<SimpleLU>` passes uninitialised `L`, `U` tensors to `lu`). -/
theorem inverse_lu_correct (M : Nat) (A L U : Mat K) (p : Vec Nat) (hp : IsPermOn M p.get)
    (hU : ∀ i < M, U i i ≠ 0)
    (hLU : toMat M M (unitLowerPart L) * toMat M M (triu U) = toMat M M (applyPivot A p)) :
    toMat M M (getLuInverse M L U p) * toMat M M A = 1 ∧ toMat M M A * toMat M M (getLuInverse M L U p) = 1 :=
  getLuInverse_correct M A L U p hp hU hLU

/-- the hypotheses are met, e.g., by `L = [[1,0],[2,1]]`, `U = [[1,3],[0,1]]`, `A = L·U`, `p = id` -/
example : toMat 2 2 (unitLowerPart ({ get := fun i j => if i = 1 ∧ j = 0 then (2 : ℚ) else if i = j then 1 else 0 } : Mat ℚ))
      * toMat 2 2 (triu ({ get := fun i j => if i = 0 ∧ j = 1 then (3 : ℚ) else if i = j then 1 else 0 } : Mat ℚ))
    = toMat 2 2 (applyPivot ({ get := fun i j => if i = 0 then (if j = 0 then (1 : ℚ) else 3) else (if j = 0 then 2 else 7) } : Mat ℚ)
        { get := id }) := by
  ext i j
  fin_cases i <;> fin_cases j <;> simp [Matrix.mul_apply, Fin.sum_univ_succ, unitLowerPart, triu, applyPivot] <;> norm_num

/-- **inverse_lu_strategies_correct** — the four LU based strategies end to end, `hLU` discharged by the C11 export
    `Fastor.LU.lu_post_exec`: for EVERY strategy `s ∈ {BlockLU, SimpleLU, BlockLUPiv, SimpleLUPiv}`, every size `n` and every
    `A` on which the strategy's factorisation kernel is defined (`LUDefined`: non-zero pivots as met by `_lufact<T,1..8>`, the
    Doolittle loops, the recursive and the blocked dispatchers, on the row-pre-pivoted matrix for the pivoted forms) and whose `U`
    has no zero on the diagonal (the divisors of `backward_subs`; the same side condition as C12's solve theorems),
    `X = get_lu_inverse(L, U, p)` with `(L,U,p) = lu<LUCompType::s>(A)` satisfies `X·A = 1 ∧ A·X = 1`. -/
theorem inverse_lu_strategies_correct (gt : K → K → Bool) (s : Fastor.LU.Strategy) (n : Nat) (A : Mat K)
    (hdef : Fastor.LU.LUDefined (Fastor.LU.execOps : Fastor.LU.InvOps K) gt s n (toLU n A))
    (hd : ∀ i, i < n → Fastor.LU.Mat.get (Fastor.LU.luPublicV Fastor.LU.execOps gt s n (toLU n A)).U i i ≠ 0) :
    let r := Fastor.LU.luPublicV (Fastor.LU.execOps : Fastor.LU.InvOps K) gt s n (toLU n A)
    let X := getLuInverse n (ofLU r.L) (ofLU r.U) (ofPerm r.perm)
    toMat n n X * toMat n n A = 1 ∧ toMat n n A * toMat n n X = 1 :=
  getLuInverse_of_LUPost n A _ _ _ (Fastor.LU.lu_post_exec gt s n (toLU n A) hdef) hd

/-- **det_closed_form** — the determinant expression the closed forms divide by (`det` of `_inverse<T,n>`, the same
    cofactor expansions `_det<T,n,n>` of backend/determinant.h uses) is the Leibniz determinant, `n ≤ 4` -/
theorem det_closed_form (A : Mat K) :
    leafDet 1 (flat 1 A) = (toMat 1 1 A).det ∧ leafDet 2 (flat 2 A) = (toMat 2 2 A).det
      ∧ leafDet 3 (flat 3 A) = (toMat 3 3 A).det ∧ leafDet 4 (flat 4 A) = (toMat 4 4 A).det := by
  refine ⟨?_, ?_, ?_, ?_⟩
  · rw [Matrix.det_fin_one]
    rfl
  · rw [Matrix.det_fin_two]
    simp only [leafDet, flat, toMat, Matrix.of_apply, Fin.val_zero, Fin.val_one, Fin.isValue]
    ring
  · rw [Matrix.det_fin_three]
    simp only [leafDet, flat, toMat, Matrix.of_apply, Fin.val_zero, Fin.val_one, Fin.val_two, Fin.isValue]
    ring
  · rw [Matrix.det_succ_row_zero]
    simp [Fin.sum_univ_succ, Matrix.det_fin_three, Matrix.submatrix_apply, Fin.succAbove, leafDet, flat]
    ring

end Fastor.C10
