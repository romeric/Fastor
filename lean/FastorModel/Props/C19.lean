import FastorModel.Model.RandomViews
import FastorModel.Proofs.RandomViews
import FastorModel.Props.C04
import FastorModel.Props.C05
/-
# C19 — Index-tensor and boolean-mask views select and update exactly the indexed items

Property: indexing a tensor with integer index tensors (one flat-index tensor, or one per axis,
optionally mixed with a range or a fixed integer) reads the elements at exactly those positions in
index-tensor order (repeats allowed); assigning through such a view with duplicate-free indices
updates exactly those positions and no others.  Assigning through a boolean mask updates exactly the
positions where the mask is true, with the right-hand-side element at the same position, and leaves
all others unchanged.

Reading of the statements (model: `Model/RandomViews.lean`, which transcribes the loops of
`BlockIndexing.h`, `tensor_random_views.h`, `vector_setter` of `simd_vector_common.h`,
`trivial_assign*` and `tensor_filter_views.h`).

* `flat_index_*`: for each per-axis overload, whatever the temporary index tensor contained before,
  after the loop nest its entry `(a,b)` (flat `a*N+b`) is the row-major flat position of the selected
  element: `it0[a]*NCols + it1[b]`, `it0[a]*NCols + num`, `num*NCols + it0[a]`,
  `it0[a]*NCols + (first + step*b)`, `(first + step*a)*NCols + it0[b]` — all extents.
* `gather_lanes`: lane `l` of `eval(i)` of ANY operand tree containing views is `eval_s(i+l)`; for the
  view leaf this is `data[it[i+l]]` (the per-lane index array, the reversed argument list of
  `vector_setter` and the reversed lane order of `set` cancel) — all widths.
* `random_read`: reading an expression with views into a tensor of `n` elements (vector body over
  `ROUND_DOWN(n,V)`, scalar tail; `V = 2^e`) leaves `op(dst j, tree j)` at every `j < n` and nothing
  else; `random_read_view`: for the bare view, element `j` is `A[it[j]]`, repeats or not.
* `scatter_order`: with or without `FASTOR_USE_VECTORISED_EXPR_ASSIGN` the instructions issued by
  `A(it) op= rhs` are `A[it[j]] op= rhs_j` for `j = 0 .. n-1` in this order.
* `random_write`: if the index values are pairwise distinct, then afterwards `A[it[j]] = op(A[it[j]], rhs_j)`
  for every `j < n` and every position that is not an index value is unchanged (frame) — any binary
  operator (so `= += -= *= /=`), any right-hand-side tree, both assignment paths.
* `random_write_repeats_partial`: what the model (and the code) does for `=` when index values repeat:
  the last instruction for a position wins.  The property does not constrain this case.
* `filter_write`: after `A(mask) op= rhs`, every `p < n` holds `op(A p, rhs p)` if `mask p` and `A p`
  otherwise; positions `≥ n` are untouched.  `filter_read`: a mask view read gives `A p` where the
  mask is true and `0` elsewhere.
* `read_ii` / `write_ii`: the per-axis overload composed with reading / writing.
* `eval2_lanes`, `eval2_ii`, `teval_rank3`: what a 2-D / n-D range view asks its source for — element
  `(i,k)` by row and column, or a multi-index — is the element of the view at that position (flat
  `i*ncols+k`, row-major flat index of the multi-index), lanes = consecutive columns.  (This is the
  code after the `fix:` commit; before it these members used `i+k` and the sum of the multi-index.)
* `flatIndex_bumpLast`, `teval_lanes`: the same for every rank.
* `ctor2Gen_views`, `ctor2Gen_correct`, `ctor2_index_plus_range`: the two-index constructor loop (C04's `ctor2Writes` is
  the instance for a range-view source) evaluating `A(it0,it1) + B(r0,r1)` stores `A[it0[i]*NCols+it1[j]] + B[documented (i,j)]`
  at `i*N+j` and nothing else.
* `rangeview2d_from_index_view`: `B(r0,r1) op= A(it0,it1)` through C05's `rowIters` (value + frame).
* `index_view_from_range_view`, `mask_view_from_range_view`: `A(it) op= B(ranges)`, `A(mask) op= B(ranges)` with the offsets of
  C04's flat evaluator, which `C04.read_correct` identifies with the documented element.
* `staged_index_write`, `staged_mask_write`: right-hand sides that Fastor evaluates into a temporary first (`P % Q`, `trans(C)`,
  `P % Q + D`, also reading the parent): the temporary is computed from the memory before the statement, then the element-wise
  path runs — value + frame as above.  (The n-D index view class has no evaluating overload: such statements do not compile.)
* `filter_teval_rank3`: the multi-index members of a mask view (after the second `fix:` commit: lane `l` is the
  element at `(x,y,z+l)`; before it every lane held the element at `(x,y,z)`).

Not in the model: index narrowing to `int` and overflow of the index arithmetic (indices are natural
numbers), `noalias()` temporaries, right-hand sides that need evaluation into a temporary first,
`teval`, division by a scalar being a multiplication by the reciprocal (an instance of `ap`).
-/
namespace Fastor.C19
open Fastor Fastor.Expr Fastor.RandomViews

/-! ## flat-index precomputation -/

/-- the stores of a 2-level loop nest `tmp(i,j) = g i j` (`i < M`, `j < N`, row-major) leave `g a b` at `a*N+b` -/
theorem nest_correct (M N : Nat) (g : Nat → Nat → Nat) (junk : Nat → Nat) (a b : Nat) (ha : a < M) (hb : b < N) :
    storesTo junk ((forRange 0 M 1).flatMap fun i => (forRange 0 N 1).map fun j => (i * N + j, g i j)) (a * N + b)
      = g a b := by
  simp only [forRange_zero_one]
  have h := (applyWrites_of_exact (writesExactly_rows M N g) junk (a * N + b)).1 (pos_lt ha hb)
  rw [pos_div hb, pos_mod hb] at h
  exact h

/-- **index × index**: entry `(a,b)` of the precomputed tensor is `it0[a]*NCols + it1[b]` -/
theorem flat_index_ii (ncols M N : Nat) (it0 it1 junk : Nat → Nat) (a b : Nat) (ha : a < M) (hb : b < N) :
    storesTo junk (flatII ncols M N it0 it1) (a * N + b) = it0 a * ncols + it1 b :=
  nest_correct M N (fun i j => it0 i * ncols + it1 j) junk a b ha hb

/-- **index × fseq**: entry `(a,b)` is `it0[a]*NCols + (first + step*b)` -/
theorem flat_index_if (ncols M : Nat) (it0 junk : Nat → Nat) (first step csize : Nat) (a b : Nat) (ha : a < M) (hb : b < csize) :
    storesTo junk (flatIF ncols M it0 first step csize) (a * csize + b) = it0 a * ncols + (first + step * b) := by
  have := nest_correct M csize (fun i j => it0 i * ncols + step * j + first) junk a b ha hb
  unfold flatIF; rw [this]; omega

/-- **fseq × index**: entry `(a,b)` is `(first + step*a)*NCols + it0[b]` -/
theorem flat_index_fi (ncols N : Nat) (it0 junk : Nat → Nat) (first step rsize : Nat) (a b : Nat) (ha : a < rsize) (hb : b < N) :
    storesTo junk (flatFI ncols N first step rsize it0) (a * N + b) = (first + step * a) * ncols + it0 b := by
  have := nest_correct rsize N (fun i j => (step * i + first) * ncols + it0 j) junk a b ha hb
  unfold flatFI; rw [this, Nat.add_comm first]

/-- a single loop `tmp(i,0) = g i` over an `M x 1` tensor leaves `g a` at `a` -/
theorem column_correct (M : Nat) (g : Nat → Nat) (junk : Nat → Nat) (a : Nat) (ha : a < M) :
    storesTo junk ((forRange 0 M 1).map fun i => (i * 1 + 0, g i)) a = g a := by
  unfold storesTo
  simp only [forRange_zero_one, Nat.mul_one, Nat.add_zero]
  rw [applyWrites_range]
  exact if_pos ha

/-- **index × integer**: entry `a` is `it0[a]*NCols + num` -/
theorem flat_index_in (ncols M : Nat) (it0 junk : Nat → Nat) (num a : Nat) (ha : a < M) :
    storesTo junk (flatIN ncols M it0 num) a = it0 a * ncols + num :=
  column_correct M (fun i => it0 i * ncols + num) junk a ha

/-- **integer × index**: entry `a` is `num*NCols + it0[a]` -/
theorem flat_index_ni (ncols M : Nat) (it0 junk : Nat → Nat) (num a : Nat) (ha : a < M) :
    storesTo junk (flatNI ncols M num it0) a = num * ncols + it0 a :=
  column_correct M (fun i => num * ncols + it0 i) junk a ha

example : storesTo (fun _ => 99) (flatII 4 2 3 (fun i => [2, 0].getD i 0) (fun j => [1, 3, 0].getD j 0)) (1 * 3 + 1) = 0 * 4 + 3 := by decide
example : storesTo (fun _ => 99) (flatFI 3 2 1 2 2 (fun j => [2, 0].getD j 0)) (1 * 2 + 0) = (1 + 2 * 1) * 3 + 2 := by decide

/-! ## reads -/

variable {α : Type} [Zero α] [Add α] [Sub α] [Mul α]

/-- **gather lanes = scalar reads**: lane `l` of the vector evaluation at `i` is the scalar evaluation at `i+l` -/
theorem gather_lanes (ofInt : Int → α) (env : Nat → Nat → α) (it : Nat → Nat) (mask : Nat → Bool) (V : Nat) (e : Src)
    (i l : Nat) (hl : l < V) :
    (evalV ofInt env it mask V e i)[l]? = some (evalS ofInt env it mask e (i + l)) := by
  rw [evalV_eq]; simp [hl]

/-- the view leaf: lane `l` of `A(it).eval(i)` is `A[it[i+l]]` -/
theorem gather_lanes_view (ofInt : Int → α) (env : Nat → Nat → α) (it : Nat → Nat) (mask : Nat → Bool) (V w i l : Nat) (hl : l < V) :
    (vectorSetter (env w) (laneInds it V i))[l]? = some (env w (it (i + l))) :=
  gather_lanes ofInt env it mask V (.v w) i l hl

/-- the stores of reading a tree with views into a tensor, in program order -/
theorem read_order (ofInt : Int → α) (env : Nat → Nat → α) (it : Nat → Nat) (mask : Nat → Bool) (op : AOp) (dst : Nat → α)
    (e : Src) (n ex : Nat) (hn : n < 2 ^ 64) (hex : ex ≤ 64) :
    readWrites ofInt env it mask op dst e n (2 ^ ex)
      = (List.range n).map fun j => (j, op.ap (dst j) (evalS ofInt env it mask e j)) := by
  unfold readWrites
  apply vecThenTail_eq n ex hn hex
  intro i
  rw [evalV_eq, zip_map_self, List.map_map]
  rfl

/-- **C19 (reading)**: every `j < n` receives `op(dst j, tree j)`, nothing else is stored to -/
theorem random_read (ofInt : Int → α) (env : Nat → Nat → α) (it : Nat → Nat) (mask : Nat → Bool) (op : AOp) (dst : Nat → α)
    (e : Src) (n ex : Nat) (hn : n < 2 ^ 64) (hex : ex ≤ 64) (p : Nat) :
    applyWrites (readWrites ofInt env it mask op dst e n (2 ^ ex)) dst p
      = if p < n then op.ap (dst p) (evalS ofInt env it mask e p) else dst p := by
  rw [read_order ofInt env it mask op dst e n ex hn hex]
  exact congrFun (applyWrites_range n (fun j => op.ap (dst j) (evalS ofInt env it mask e j)) dst) p

/-- element `j` of `B = A(it)` is `A[it[j]]`, in index-tensor order, repeats allowed -/
theorem random_read_view (ofInt : Int → α) (env : Nat → Nat → α) (it : Nat → Nat) (mask : Nat → Bool) (dst : Nat → α)
    (w n ex : Nat) (hn : n < 2 ^ 64) (hex : ex ≤ 64) (j : Nat) (hj : j < n) :
    applyWrites (readWrites ofInt env it mask .set dst (.v w) n (2 ^ ex)) dst j = env w (it j) := by
  rw [random_read ofInt env it mask .set dst (.v w) n ex hn hex]; simp [hj, AOp.ap, RandomViews.evalS]

/-- a mask view read gives the element where the mask is true and zero elsewhere -/
theorem filter_read (ofInt : Int → α) (env : Nat → Nat → α) (it : Nat → Nat) (mask : Nat → Bool) (dst : Nat → α)
    (w n ex : Nat) (hn : n < 2 ^ 64) (hex : ex ≤ 64) (j : Nat) (hj : j < n) :
    applyWrites (readWrites ofInt env it mask .set dst (.f w) n (2 ^ ex)) dst j = if mask j then env w j else 0 := by
  rw [random_read ofInt env it mask .set dst (.f w) n ex hn hex]; simp [hj, AOp.ap, RandomViews.evalS]

/-- non-vacuity: 7 indices with repeats and arbitrary order, width 4 (one vector iteration + tail of 3) -/
example : (List.range 7).map (applyWrites (readWrites (fun k => k) (fun w p => (w : Int) * 100 + p)
    (fun j => [5, 0, 5, 3, 1, 1, 4].getD j 0) (fun _ => false) .set (fun _ => 0) (.v 1) 7 (2 ^ 2)) (fun _ => 0))
    = [105, 100, 105, 103, 101, 101, 104] := by decide

/-- per-axis overload composed with reading: element `(a,b)` of `A(it0,it1)` is `A[it0[a]*NCols + it1[b]]` -/
theorem read_ii (ofInt : Int → α) (env : Nat → Nat → α) (mask : Nat → Bool) (dst : Nat → α) (junk it0 it1 : Nat → Nat)
    (w ncols M N ex : Nat) (hn : M * N < 2 ^ 64) (hex : ex ≤ 64) (a b : Nat) (ha : a < M) (hb : b < N) :
    applyWrites (readWrites ofInt env (storesTo junk (flatII ncols M N it0 it1)) mask .set dst (.v w) (M * N) (2 ^ ex)) dst (a * N + b)
      = env w (it0 a * ncols + it1 b) := by
  rw [random_read_view ofInt env _ mask dst w (M * N) ex hn hex _ (pos_lt ha hb), flat_index_ii ncols M N it0 it1 junk a b ha hb]

/-! ## the view as a 2-D / n-D operand -/

omit [Zero α] [Add α] [Sub α] [Mul α] in
theorem evalV2_eq (data : Nat → α) (it : Nat → Nat) (V ncols i k : Nat) :
    evalV2 data it V ncols i k = (List.range V).map fun l => evalS2 data it ncols i (k + l) := by
  unfold evalV2 evalS2
  rw [vectorSetter_eq, laneInds, forRange_zero_one, List.map_map]
  simp only [Function.comp_def, Nat.add_assoc]

omit [Zero α] [Add α] [Sub α] [Mul α] in
/-- lane `l` of `eval(i,k)` is `eval_s(i,k+l)`: element `(i, k+l)` of the view -/
theorem eval2_lanes (data : Nat → α) (it : Nat → Nat) (V ncols i k l : Nat) (hl : l < V) :
    (evalV2 data it V ncols i k)[l]? = some (evalS2 data it ncols i (k + l)) := by
  rw [evalV2_eq, List.getElem?_map, List.getElem?_range hl, Option.map_some]

omit [Zero α] [Add α] [Sub α] [Mul α] in
/-- **element `(a,b)` of `A(it0,it1)` asked for by row and column is `A[it0[a]*NCols + it1[b]]`** -/
theorem eval2_ii (data : Nat → α) (junk it0 it1 : Nat → Nat) (ncols M N a b : Nat) (ha : a < M) (hb : b < N) :
    evalS2 data (storesTo junk (flatII ncols M N it0 it1)) N a b = data (it0 a * ncols + it1 b) := by
  unfold evalS2
  rw [flat_index_ii ncols M N it0 it1 junk a b ha hb]

/-- `get_flat_index` of a rank-3 multi-index is the row-major position -/
theorem flatIndex_rank3 (d0 d1 d2 x y z : Nat) : flatIndex [d0, d1, d2] [x, y, z] = (x * d1 + y) * d2 + z := by
  simp [flatIndex, Nat.add_mul, Nat.mul_assoc, Nat.add_assoc]

omit [Zero α] [Add α] [Sub α] [Mul α] in
/-- `teval_s(as)` of a rank-3 view is the element at row-major position `(x,y,z)` of the index tensor,
    and lane `l` of `teval(as)` is the element at `(x,y,z+l)` -/
theorem teval_rank3 (data : Nat → α) (it : Nat → Nat) (V d0 d1 d2 x y z l : Nat) (hl : l < V) :
    tevalS data it [d0, d1, d2] [x, y, z] = data (it ((x * d1 + y) * d2 + z)) ∧
    (tevalV data it V [d0, d1, d2] [x, y, z])[l]? = some (tevalS data it [d0, d1, d2] [x, y, z + l]) := by
  unfold tevalS tevalV
  rw [vectorSetter_eq, flatIndex_rank3, flatIndex_rank3]
  simp [laneInds, forRange_zero_one, hl, Nat.add_assoc]

example : evalV2 (fun p => (p : Int)) (fun q => [7, 3, 9, 1, 0, 5].getD q 0) 2 3 1 1 = [0, 5] := by decide

/-! ## writes through an index-tensor view -/

/-- **store order**: both assignment paths issue `A[it[j]] op= rhs_j` for `j = 0 .. n-1` in this order -/
theorem scatter_order (vea : Bool) (ofInt : Int → α) (env : Nat → Nat → α) (it : Nat → Nat) (mask : Nat → Bool) (rhs : Src)
    (n ex : Nat) (hn : n < 2 ^ 64) (hex : ex ≤ 64) :
    scatter vea ofInt env it mask rhs n (2 ^ ex)
      = (List.range n).map fun j => (it j, evalS ofInt env it mask rhs j) := by
  unfold scatter
  cases vea with
  | false => simp [scatterScalar, forRange_zero_one]
  | true =>
    simp only [if_true]
    unfold scatterVector
    apply vecThenTail_eq n ex hn hex
    intro i
    rw [evalV_eq, forRange_zero_one, zip_map_self, List.map_map]
    rfl

/-- **C19 (writing, duplicate-free indices)**: exactly the indexed positions change, position `it[j]`
    to `op(A[it[j]], rhs_j)`; every other position keeps its value. -/
theorem random_write (vea : Bool) (ap : α → α → α) (ofInt : Int → α) (env : Nat → Nat → α) (it : Nat → Nat) (mask : Nat → Bool)
    (rhs : Src) (A : Nat → α) (n ex : Nat) (hn : n < 2 ^ 64) (hex : ex ≤ 64)
    (hnd : ((List.range n).map it).Nodup) :
    (∀ j, j < n → exec ap (scatter vea ofInt env it mask rhs n (2 ^ ex)) A (it j)
        = ap (A (it j)) (evalS ofInt env it mask rhs j)) ∧
    (∀ p, (∀ j, j < n → it j ≠ p) → exec ap (scatter vea ofInt env it mask rhs n (2 ^ ex)) A p = A p) := by
  rw [scatter_order vea ofInt env it mask rhs n ex hn hex, exec_eq_rmw]
  have h := rmw_distinct ap (List.range n) it (fun j => evalS ofInt env it mask rhs j) A hnd
  exact ⟨fun j hj => h.1 j (List.mem_range.2 hj), fun p hp => h.2 p (fun hin => by
    obtain ⟨j, hj, rfl⟩ := List.mem_map.1 hin
    exact hp j (List.mem_range.1 hj) rfl)⟩

/-- what happens for plain `=` when index values repeat (not constrained by the property): the
    instruction with the largest `j` wins — `lastWrite` over the instructions in index-tensor order -/
theorem random_write_repeats_partial (vea : Bool) (ofInt : Int → α) (env : Nat → Nat → α) (it : Nat → Nat) (mask : Nat → Bool)
    (rhs : Src) (A : Nat → α) (n ex : Nat) (hn : n < 2 ^ 64) (hex : ex ≤ 64) (p : Nat) :
    exec (fun _ y => y) (scatter vea ofInt env it mask rhs n (2 ^ ex)) A p
      = (lastWrite ((List.range n).map fun j => (it j, evalS ofInt env it mask rhs j)) p).getD (A p) := by
  rw [scatter_order vea ofInt env it mask rhs n ex hn hex, exec_set_eq_applyWrites, applyWrites_eq_lastWrite]

/-- non-vacuity: duplicate-free, unsorted indices, `+=`, vectorised path of width 2 with a tail -/
example : (List.range 6).map (exec (· + ·) (scatter true (fun k => k) (fun w p => (w : Int) * 100 + p)
    (fun j => [4, 0, 3].getD j 0) (fun _ => false) (.t 2) 3 (2 ^ 1)) (fun p => (p : Int)))
    = [0 + 201, 1, 2, 3 + 202, 4 + 200, 5] := by decide
example : ((List.range 3).map fun j => [4, 0, 3].getD j 0).Nodup := by decide

/-- per-axis overload composed with writing: with duplicate-free `it0` and `it1` ... the entry for `(a,b)`
    is written to row-major position `it0[a]*NCols + it1[b]` -/
theorem write_ii (vea : Bool) (ap : α → α → α) (ofInt : Int → α) (env : Nat → Nat → α) (mask : Nat → Bool) (rhs : Src)
    (A : Nat → α) (junk it0 it1 : Nat → Nat) (ncols M N ex : Nat) (hn : M * N < 2 ^ 64) (hex : ex ≤ 64)
    (hnd : ((List.range (M * N)).map (storesTo junk (flatII ncols M N it0 it1))).Nodup)
    (a b : Nat) (ha : a < M) (hb : b < N) :
    exec ap (scatter vea ofInt env (storesTo junk (flatII ncols M N it0 it1)) mask rhs (M * N) (2 ^ ex)) A (it0 a * ncols + it1 b)
      = ap (A (it0 a * ncols + it1 b))
          (evalS ofInt env (storesTo junk (flatII ncols M N it0 it1)) mask rhs (a * N + b)) := by
  have h := (random_write vea ap ofInt env _ mask rhs A (M * N) ex hn hex hnd).1 (a * N + b) (pos_lt ha hb)
  rw [flat_index_ii ncols M N it0 it1 junk a b ha hb] at h
  exact h

/-! ## boolean-mask views -/

theorem filterInstrs_eq (ofInt : Int → α) (env : Nat → Nat → α) (it : Nat → Nat) (mask : Nat → Bool) (rhs : Src) (n : Nat) :
    filterInstrs ofInt env it mask rhs n
      = ((List.range n).filter fun i => mask i).map fun i => (i, evalS ofInt env it mask rhs i) := by
  unfold filterInstrs
  rw [forRange_zero_one]
  induction n with
  | zero => simp
  | succ k ih =>
    rw [List.range_succ, List.flatMap_append, ih, List.filter_append, List.map_append]
    cases h : mask k <;> simp [h]

/-- **C19 (mask views)**: `A(mask) op= rhs` leaves `op(A p, rhs p)` at every `p < n` with `mask p`, and
    `A p` everywhere else (false positions and positions `≥ n`). -/
theorem filter_write (ap : α → α → α) (ofInt : Int → α) (env : Nat → Nat → α) (it : Nat → Nat) (mask : Nat → Bool)
    (rhs : Src) (A : Nat → α) (n : Nat) (p : Nat) :
    exec ap (filterInstrs ofInt env it mask rhs n) A p
      = if p < n ∧ mask p = true then ap (A p) (evalS ofInt env it mask rhs p) else A p := by
  rw [filterInstrs_eq, exec_eq_rmw]
  have h := rmw_distinct ap ((List.range n).filter fun i => mask i) id (fun i => evalS ofInt env it mask rhs i) A
    (by rw [List.map_id]; exact List.Nodup.sublist List.filter_sublist List.nodup_range)
  simp only [List.map_id, List.mem_filter, List.mem_range] at h
  split
  · next hp => exact h.1 p hp
  · next hp => exact h.2 p hp

/-- advancing a multi-index by `j` along its last axis advances the row-major flat index by `j` — all ranks -/
theorem flatIndex_bumpLast (dims as : List Nat) (j : Nat) (hlen : as.length = dims.length) (hne : as ≠ []) :
    flatIndex dims (bumpLast as j) = flatIndex dims as + j := by
  induction as generalizing dims with
  | nil => exact absurd rfl hne
  | cons a rest ih =>
    cases dims with
    | nil => simp at hlen
    | cons d ds =>
      cases rest with
      | nil =>
        have hds : ds = [] := by
          cases ds with
          | nil => rfl
          | cons _ _ => simp at hlen
        subst hds
        simp [bumpLast, flatIndex]
      | cons b rest' =>
        have hlen' : (b :: rest').length = ds.length := by simpa using hlen
        have := ih ds hlen' (by simp)
        simp only [bumpLast, flatIndex] at this ⊢
        rw [this]; omega

omit [Zero α] [Add α] [Sub α] [Mul α] in
/-- **all ranks**: lane `l` of `teval(as)` of an index view is `teval_s` at the multi-index advanced by `l` along the last axis -/
theorem teval_lanes (data : Nat → α) (it : Nat → Nat) (V : Nat) (dims as : List Nat) (l : Nat) (hl : l < V)
    (hlen : as.length = dims.length) (hne : as ≠ []) :
    (tevalV data it V dims as)[l]? = some (tevalS data it dims (bumpLast as l)) := by
  unfold tevalV tevalS
  rw [vectorSetter_eq, flatIndex_bumpLast dims as l hlen hne]
  simp [laneInds, forRange_zero_one, hl]

/-- non-vacuity: rank 4, the vector form at `(1,0,1,1)` of a `2x2x2x4` index tensor, width 2 -/
example : tevalV (fun p => (p : Int)) (fun q => 100 - q) 2 [2, 2, 2, 4] [1, 0, 1, 1] = [100 - 21, 100 - 22] := by decide
example : ([1, 0, 1, 1] : List Nat).length = [2, 2, 2, 4].length ∧ ([1, 0, 1, 1] : List Nat) ≠ [] := by decide

omit [Add α] [Sub α] [Mul α] in
/-- `teval_s` / `teval` of a rank-3 mask view: the element at `(x,y,z)` where the mask is true and `0` elsewhere;
    lane `l` of the vector form is the scalar form at `(x,y,z+l)` -/
theorem filter_teval_rank3 (data : Nat → α) (mask : Nat → Bool) (V d0 d1 d2 x y z l : Nat) (hl : l < V) :
    ftevalS data mask [d0, d1, d2] [x, y, z]
      = (if mask ((x * d1 + y) * d2 + z) then data ((x * d1 + y) * d2 + z) else 0) ∧
    (ftevalV data mask V [d0, d1, d2] [x, y, z])[l]? = some (ftevalS data mask [d0, d1, d2] [x, y, z + l]) := by
  unfold ftevalV ftevalS
  rw [flatIndex_rank3]
  simp [forRange_zero_one, hl, bumpLast]

/-- non-vacuity: a mask that is neither all-true nor all-false, `*=` -/
example : (List.range 6).map (exec (· * ·) (filterInstrs (fun k => k) (fun w p => (w : Int) * 10 + p)
    (fun i => i) (fun i => [true, false, true, true, false].getD i false) (.bin .add (.t 2) (.c 1)) 5) (fun p => (p : Int) + 1))
    = [1 * 21, 2, 3 * 23, 4 * 24, 5, 6] := by decide

/-! ## composition with the range-view models of C04 (reads) and C05 (writes) -/

/-- C04's constructor loop is the instance of `ctor2Gen` whose source is a range view -/
theorem ctor2Gen_views (v : Views.View) (V M N : Nat) :
    ctor2Gen V M N (fun i j => (v.eval2V V i j).2) v.eval2S = v.ctor2Writes V M N := rfl

/-- the two-index constructor loop with any source whose vector member is lane-wise stores `eval_s(i,j)` at `i*N+j`,
    row by row, once each -/
theorem ctor2Gen_eq {β : Type} (V M N : Nat) (hV : 0 < V) (vec : Nat → Nat → List β) (sc : Nat → Nat → β)
    (hvec : ∀ i j, vec i j = (List.range V).map fun l => sc i (j + l)) :
    ctor2Gen V M N vec sc = (List.range M).flatMap fun i => (List.range N).map fun j => (i * N + j, sc i j) := by
  unfold ctor2Gen Views.roundDownV
  congr 1
  funext i
  exact vecTail_eq N V hV _ (fun j => (i * N + j, sc i j)) (fun j => by rw [hvec, laneW_range]; simp only [Nat.add_assoc])

/-- **the two-index constructor loop with any source whose vector member is lane-wise**: exactly the positions
    below `M*N` are stored to, position `i*N+j` receives `eval_s(i,j)` -/
theorem ctor2Gen_correct {β : Type} (V M N : Nat) (hV : 0 < V) (hN : 0 < N) (vec : Nat → Nat → List β) (sc : Nat → Nat → β)
    (hvec : ∀ i j, vec i j = (List.range V).map fun l => sc i (j + l)) :
    WritesExactly (ctor2Gen V M N vec sc) (fun p => p < M * N) (fun p => sc (p / N) (p % N)) := by
  rw [ctor2Gen_eq V M N hV vec sc hvec]
  exact writesExactly_rows M N sc

section
variable {α : Type} [Add α]
/-- **`Tensor<T,M,N> X = A(it0,it1) + B(r0,r1)`** (index view and 2-D range view in one 2-D expression, evaluated by the
    two-index constructor loop): `X(i,j) = A[it0[i]*NCols + it1[j]] + B[documented element (i,j) of the slice]`,
    nothing else is stored. -/
theorem ctor2_index_plus_range (cls : Views.Cls) (h2 : Views.is2D cls) (m n : Nat) (a0 a1 : Views.Ax)
    (A B : Nat → α) (junk it0 it1 : Nat → Nat) (ncols V M N : Nat) (hV : 0 < V) (hN : 0 < N) :
    let it := storesTo junk (flatII ncols M N it0 it1)
    let v := Views.View.mk cls [m, n] [a0, a1]
    let ws := ctor2Gen V M N
      (fun i j => List.zipWith (· + ·) (evalV2 A it V N i j) ((v.eval2V V i j).2.map B))
      (fun i j => evalS2 A it N i j + B (v.eval2S i j))
    WritesExactly ws (fun p => p < M * N)
      (fun p => A (it0 (p / N) * ncols + it1 (p % N)) + B (Views.specOff [m, n] [a0, a1] [p / N, p % N])) := by
  intro it v ws
  have hlanes : ∀ i j, List.zipWith (· + ·) (evalV2 A it V N i j) ((v.eval2V V i j).2.map B)
      = (List.range V).map fun l => evalS2 A it N i (j + l) + B (v.eval2S i (j + l)) := by
    intro i j
    rw [evalV2_eq, Views.eval2V_eq cls h2, List.map_map, List.zipWith_map, List.zipWith_self]
    rfl
  have h := ctor2Gen_correct V M N hV hN
    (fun i j => List.zipWith (· + ·) (evalV2 A it V N i j) ((v.eval2V V i j).2.map B))
    (fun i j => evalS2 A it N i j + B (v.eval2S i j)) hlanes
  intro p
  have hp := h p
  constructor
  · intro hlt
    rw [hp.1 hlt]
    have hi : p / N < M := (Nat.div_lt_iff_lt_mul hN).2 hlt
    have hj : p % N < N := Nat.mod_lt _ hN
    simp only [eval2_ii A junk it0 it1 ncols M N (p / N) (p % N) hi hj, it, v,
      Views.eval2S_correct cls h2 m n a0 a1]
  · exact hp.2
end

section compose
variable {α : Type} [Zero α] [Add α] [Sub α] [Mul α] [Div α]

omit [Zero α] in
/-- **`B(r0,r1) op= A(it0,it1)`** (C05's 2-D range-view write loop with a per-axis index view as the source):
    element `(i,k)` of the slice of `B`, at `(step0*i+first0)*NB + k*step1+first1`, ends as
    `op(old, A[it0[i]*NCols + it1[k]])`; every other position of `B` is unchanged. -/
theorem rangeview2d_from_index_view (e : Nat) (he : e ≤ 64) (vea : Bool) (NB : Nat) (a0 a1 : ViewWrite.Ax)
    (hn : a1.ext < 2 ^ 64) (hs0 : 0 < a0.step) (hs1 : 0 < a1.step) (hin : ∀ k < a1.ext, k * a1.step + a1.first < NB)
    (op : ViewWrite.WOp) (A : Nat → α) (junk it0 it1 : Nat → Nat) (ncols : Nat) (B : Nat → α) :
    let it := storesTo junk (flatII ncols a0.ext a1.ext it0 it1)
    let B' := ViewWrite.exec op (fun _ j => evalS2 A it a1.ext (j / a1.ext) (j % a1.ext)) (ViewWrite.rowIters (2 ^ e) vea NB a0 a1) B
    let pos := fun i k => (a0.step * i + a0.first) * NB + (k * a1.step + a1.first)
    (∀ i < a0.ext, ∀ k < a1.ext, B' (pos i k) = op.ap (B (pos i k)) (A (it0 i * ncols + it1 k))) ∧
    (∀ p, (∀ i < a0.ext, ∀ k < a1.ext, p ≠ pos i k) → B' p = B p) := by
  intro it B' pos
  have h := C05.write_correct_2d e he vea NB a0 a1 hn hs0 hs1 hin op
    (fun j => evalS2 A it a1.ext (j / a1.ext) (j % a1.ext)) B
  refine ⟨?_, h.2⟩
  intro i hi k hk
  have h1 := h.1 i hi k hk
  simp only [pos_div hk, pos_mod hk] at h1
  rw [eval2_ii A junk it0 it1 ncols a0.ext a1.ext i k hi hk] at h1
  exact h1

omit [Div α] in
/-- **`A(it) op= B(ranges)`** (a range view of any class as the right-hand side of an index view, both
    assignment paths): with duplicate-free indices `A[it[j]]` ends as `op(A[it[j]], B[off_j])`, where `off_j` is
    what C04's flat evaluator `eval_s(j)` of the range view reads; by `C04.read_correct` that is the documented
    element `jj` of the slice when `j` is the row-major position of the multi-index `jj`. -/
theorem index_view_from_range_view (vea : Bool) (ap : α → α → α) (ofInt : Int → α) (it : Nat → Nat) (mask : Nat → Bool)
    (A B : Nat → α) (v : Views.View) (hwf : v.WF) (ex : Nat) (hn : v.size < 2 ^ 64) (hex : ex ≤ 64)
    (hnd : ((List.range v.size).map it).Nodup) :
    let env : Nat → Nat → α := fun _ j => B (v.evalS j)
    let A' := exec ap (scatter vea ofInt env it mask (.t 2) v.size (2 ^ ex)) A
    (∀ jj, Views.InRange (Views.vdims v.axs) jj →
        A' (it (Views.rowMajor (Views.vdims v.axs) jj))
          = ap (A (it (Views.rowMajor (Views.vdims v.axs) jj))) (B (Views.specOff v.pdims v.axs jj))) ∧
    (∀ p, (∀ j, j < v.size → it j ≠ p) → A' p = A p) := by
  intro env A'
  have h := random_write vea ap ofInt env it mask (.t 2) A v.size ex hn hex hnd
  refine ⟨?_, h.2⟩
  intro jj hjj
  have hlt : Views.rowMajor (Views.vdims v.axs) jj < v.size := Views.rowMajor_lt hjj
  refine (h.1 _ hlt).trans ?_
  simp only [RandomViews.evalS, env, C04.read_correct v hwf jj hjj]

omit [Div α] in
/-- **`A(mask) op= B(ranges)`**: every `p < n` with `mask p` ends as `op(A p, B[off_p])`, `off_p` the offset C04's
    `eval_s(p)` of the range view reads (the documented element by `C04.read_correct`); all other positions keep
    their value. -/
theorem mask_view_from_range_view (ap : α → α → α) (ofInt : Int → α) (it : Nat → Nat) (mask : Nat → Bool)
    (A B : Nat → α) (v : Views.View) (hwf : v.WF) :
    let env : Nat → Nat → α := fun _ j => B (v.evalS j)
    let A' := exec ap (filterInstrs ofInt env it mask (.t 2) v.size) A
    (∀ jj, Views.InRange (Views.vdims v.axs) jj →
        A' (Views.rowMajor (Views.vdims v.axs) jj)
          = if mask (Views.rowMajor (Views.vdims v.axs) jj) = true
            then ap (A (Views.rowMajor (Views.vdims v.axs) jj)) (B (Views.specOff v.pdims v.axs jj))
            else A (Views.rowMajor (Views.vdims v.axs) jj)) ∧
    (∀ p, v.size ≤ p → A' p = A p) := by
  intro env A'
  constructor
  · intro jj hjj
    have hlt : Views.rowMajor (Views.vdims v.axs) jj < v.size := Views.rowMajor_lt hjj
    show exec ap _ A _ = _
    rw [filter_write]
    simp only [hlt, true_and, RandomViews.evalS, env, C04.read_correct v hwf jj hjj]
  · intro p hp
    show exec ap _ A _ = _
    rw [filter_write]
    have : ¬ p < v.size := by omega
    simp [this]

end compose

/-! ## right-hand sides that are evaluated first -/

section staged
variable {α : Type} [Zero α] [Add α] [Sub α] [Mul α]

/-- **`A(it) op= rhs`, `rhs` requiring evaluation** (`P % Q`, `trans(C)`, `P % Q + D`, also when `rhs` reads `A`): with
    duplicate-free indices `A[it[j]]` ends as `op(A[it[j]], rhs_j)` where `rhs_j` is computed from the contents of `A`
    BEFORE the statement; every other position keeps its value. -/
theorem staged_index_write (vea : Bool) (ap : α → α → α) (ofInt : Int → α) (env : Nat → Nat → α) (it : Nat → Nat) (mask : Nat → Bool)
    (rhsOf : (Nat → α) → Nat → α) (A : Nat → α) (n ex : Nat) (hn : n < 2 ^ 64) (hex : ex ≤ 64)
    (hnd : ((List.range n).map it).Nodup) :
    (∀ j, j < n → stagedScatter vea ap ofInt env it mask rhsOf n (2 ^ ex) A (it j) = ap (A (it j)) (rhsOf A j)) ∧
    (∀ p, (∀ j, j < n → it j ≠ p) → stagedScatter vea ap ofInt env it mask rhsOf n (2 ^ ex) A p = A p) := by
  unfold stagedScatter
  have h := random_write vea ap ofInt (stagedEnv env 7 (rhsOf A)) it mask (.t 7) A n ex hn hex hnd
  refine ⟨fun j hj => ?_, h.2⟩
  rw [h.1 j hj]
  simp [RandomViews.evalS, stagedEnv]

/-- **`A(mask) op= rhs`, `rhs` requiring evaluation**: `op(A p, rhs_p)` with `rhs` computed from the old `A` where the mask
    is true, `A p` everywhere else. -/
theorem staged_mask_write (ap : α → α → α) (ofInt : Int → α) (env : Nat → Nat → α) (it : Nat → Nat) (mask : Nat → Bool)
    (rhsOf : (Nat → α) → Nat → α) (A : Nat → α) (n p : Nat) :
    stagedFilter ap ofInt env it mask rhsOf n A p = if p < n ∧ mask p = true then ap (A p) (rhsOf A p) else A p := by
  unfold stagedFilter
  rw [filter_write]
  simp [RandomViews.evalS, stagedEnv]

/-- non-vacuity: `a(mask) -= a % B` on a 2x2 parent that the product reads (values from the OLD parent) -/
example : (List.range 4).map (stagedFilter (· - ·) (fun k => k) (fun _ _ => (0 : Int)) (fun i => i)
    (fun i => [true, false, true, true].getD i false) (fun m => mmAt m (fun q => [1, 2, 3, 4].getD q 0) 2 2) 4 (fun p => (p : Int) + 1))
    = [1 - (1 * 1 + 2 * 3), 2, 3 - (3 * 1 + 4 * 3), 4 - (3 * 2 + 4 * 4)] := by decide

end staged

end Fastor.C19
