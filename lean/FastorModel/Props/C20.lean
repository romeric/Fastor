import FastorModel.Proofs.Layout
import FastorModel.Proofs.MapAlias
import FastorModel.Proofs.MapAliasWide
/-
# C20 — wrapped / reshaped tensors are true aliases; layout conversions are exact inverses

Property: a tensor map over a buffer, and the maps returned by reshape, flatten and squeeze, denote the same storage
as their source: every operation applied through the map has exactly the effect on the buffer that the operation
would have on an owning tensor holding the same values, and is immediately visible through the source and vice
versa.  Converting between row-major and column-major layouts places element (i0,…,ik) at the column-major offset
and the two conversions compose to the identity for every rank and shape; constructing from a raw buffer,
initializer lists, std::array or std::vector stores the given values in row-major order.

Reading of the statements (models: Model/Layout.lean, Model/MapAlias.lean; they transcribe the loops of
tensor/TensorFunctions.h, tensor/IndexRetriever.h, tensor/Tensor.h, tensor/InitializerListConstructors.h and the
`trivial_assign*` passes of tensor/TensorAssignment.h as used by TensorMap.h).

* `Box dims i`: the multi-index `i` has the rank of `dims` and every component is below its extent.
  `rowOffset dims i = Σ_k i_k·Π_{l>k} dims_l`, `colOffset dims i = Σ_k i_k·Π_{l<k} dims_l` (running product).
* WHICH WAY each converter converts (read from the code; its two branches agree):
  `torowmajor_offset`  — `torowmajor(a)` puts element (i0..ik) of the row-major tensor `a` AT THE COLUMN-MAJOR OFFSET
  of the result; this is the sentence of the property.  `tocolumnmajor_offset` — `tocolumnmajor(a)` reads the element
  found at the column-major offset of `a` and stores it at the row-major offset: it turns a column-major buffer
  into the library's storage (that is how `Tensor(ptr, ColumnMajor)` uses it: `ctor_columnmajor`).
  The comment lines above the two functions in the source state the opposite direction; the names are to be read as
  "interpret the argument as …".  Both theorems hold for EVERY rank (0, 1: copy; 2: the 2-D loops; ≥ 3: the reversed
  odometer) and every shape, whatever the initial contents `init` of the (uninitialised) result.
* `layout_roundtrip_cr` / `layout_roundtrip_rc`: the two converters compose to the identity in both orders.
* `flatIndex_rowmajor`: scalar indexing `get_flat_index` (closed forms for ranks 1–4, `products_` loop above) is the
  row-major offset; `reshape_same_storage` / `flatten_same_storage` / `squeeze_same_storage`: element `p` (in row-major
  reading order) of the returned map is element `p` of the source — same base pointer, equal products.
* `map_step_eq_owning_step`, `map_is_alias`: one memory, two names.  For every program (any interleaving of
  operations issued through the map and through the source), running it on the shared buffer equals running it with
  the map replaced by an OWNING tensor of the map's shape (aligned or not) holding the same values: plain `=` of an
  element-wise expression evaluated in place (map) equals evaluation into a temporary followed by a copy (owning) —
  `MapAlias.passInPlace_spec` / `assignViaTemp_spec` are the substance —, assignment from the other name is a
  no-op for the map and a value-preserving round trip for the owning tensor, same-type copy assignment copies the
  values.  Visibility "through the source and vice versa" is the single `buf` component of the state.
* `aligned_flag_irrelevant`: the state after a step does not depend on `is_aligned()`; `map_never_aligned`: a step
  through a map issues no aligned access.
* `ctor_rowmajor`, `ctor_columnmajor`, `ilist1_rowmajor … ilist4_rowmajor` (value `(i,j,k,l)` of a rectangular nested
  list ends at `((i·N+j)·P+k)·Q+l`): constructors store row-major.
Not in the model: views / reductions / evaluation-requiring right-hand sides through maps (value runs on the real
types), `TensorMap<const T>` (compile acceptance).
-/
namespace Fastor.C20
open Fastor Fastor.Expr Fastor.Layout Fastor.MapAlias

variable {α : Type}

/-! ### layout converters -/

/-- `tocolumnmajor(a)`: the element found at the COLUMN-major offset of `(i0..ik)` in `a` lands at the ROW-major offset -/
theorem tocolumnmajor_offset (dims : List Nat) (a init : Nat → α) (i : List Nat) (hi : Box dims i) :
    toColumnMajor dims a init (rowOffset dims i) = a (colOffset dims i) := by
  rw [colOffset_eq]
  exact runMoves_at (mem_toColumnMajorMoves dims) rowFlat_inj a init hi

/-- **layout_offset**: `torowmajor(a)` places element `(i0..ik)` of `a` at the column-major offset -/
theorem torowmajor_offset (dims : List Nat) (a init : Nat → α) (i : List Nat) (hi : Box dims i) :
    toRowMajor dims a init (colOffset dims i) = a (rowOffset dims i) := by
  rw [colOffset_eq]
  exact runMoves_at (mem_toRowMajorMoves dims) colFlat_inj a init hi

example : Box [2, 3, 4] [1, 2, 3] ∧ rowOffset [2, 3, 4] [1, 2, 3] = 23 ∧ colOffset [2, 3, 4] [1, 0, 3] = 19 :=
  ⟨by simp [Box], by decide, by decide⟩

/-- **layout_roundtrip**: `torowmajor(tocolumnmajor(a)) = a`, every rank and shape -/
theorem layout_roundtrip_cr (dims : List Nat) (a i1 i2 : Nat → α) (p : Nat) (hp : p < prod dims) :
    toRowMajor dims (toColumnMajor dims a i1) i2 p = a p := by
  obtain ⟨hb, hv⟩ := unflatCol_spec hp
  have h := torowmajor_offset dims (toColumnMajor dims a i1) i2 _ hb
  rw [colOffset_eq, hv] at h
  rw [h, tocolumnmajor_offset dims a i1 _ hb, colOffset_eq, hv]

/-- `tocolumnmajor(torowmajor(a)) = a`, every rank and shape -/
theorem layout_roundtrip_rc (dims : List Nat) (a i1 i2 : Nat → α) (p : Nat) (hp : p < prod dims) :
    toColumnMajor dims (toRowMajor dims a i1) i2 p = a p := by
  obtain ⟨hb, hv⟩ := unflatRow_spec hp
  have h := tocolumnmajor_offset dims (toRowMajor dims a i1) i2 _ hb
  unfold rowOffset at h
  rw [hv] at h
  rw [h, torowmajor_offset dims a i1 _ hb]
  unfold rowOffset
  rw [hv]

example : toRowMajor [2, 3, 2] (toColumnMajor [2, 3, 2] (fun p => (p : Int) * 7) (fun _ => 0)) (fun _ => 0) 5 = 35 := by
  decide

/-- the odometer's store order: counter `c` of the n-D branch pairs the row-major offset of the multi-index whose
    column-major offset is `c` -/
theorem odometer_order (dims : List Nat) (hpos : 0 < prod dims) :
    odoMoves dims = (List.range (prod dims)).map fun c => (dot (strides dims).reverse (unflatRow dims.reverse c), c) :=
  odoMoves_eq dims hpos

/-! ### scalar indexing, reshape / flatten / squeeze -/

/-- `get_flat_index` is the row-major offset, for every rank -/
theorem flatIndex_rowmajor (dims idx : List Nat) (hl : idx.length = dims.length) :
    flatIndex dims idx = rowOffset dims idx := by
  unfold rowOffset
  match dims, idx, hl with
  | [], [], _ => simp [flatIndex, rowFlat, strides, dot]
  | [_], [i], _ => simp [flatIndex, rowFlat, prod]
  | [_, N], [i, j], _ => simp [flatIndex, rowFlat, prod]
  | [_, N, P], [i, j, k], _ => simp [flatIndex, rowFlat, prod, Nat.mul_assoc, Nat.add_assoc]
  | [_, N, P, Q], [i, j, k, l], _ => simp [flatIndex, rowFlat, prod, Nat.mul_assoc, Nat.add_assoc]
  | d0 :: d1 :: d2 :: d3 :: d4 :: ds, i0 :: i1 :: i2 :: i3 :: i4 :: is, _ =>
    simp only [flatIndex]; exact (rowFlat_eq_dot _ _).symm

/-- **reshape_same_storage**: element `p` (row-major reading order) of `reshape<shapes...>(a)` is element `p` of `a`
    — the `static_assert` of `reshape` is the hypothesis on the products -/
theorem reshape_same_storage (v : View) (shapes : List Nat) (mem : Nat → α) (p : Nat)
    (hprod : prod shapes = prod v.dims) (hp : p < prod v.dims) :
    (reshape v shapes).at mem (unflatRow shapes p) = v.at mem (unflatRow v.dims p) := by
  have h1 := unflatRow_spec (ds := shapes) (p := p) (by rw [hprod]; exact hp)
  have h2 := unflatRow_spec (ds := v.dims) (p := p) hp
  unfold View.at reshape
  simp only []
  rw [flatIndex_rowmajor _ _ h1.1.length_eq, flatIndex_rowmajor _ _ h2.1.length_eq]
  unfold rowOffset
  rw [h1.2, h2.2]

theorem flatten_same_storage (v : View) (mem : Nat → α) (p : Nat) (hp : p < prod v.dims) :
    (flatten v).at mem [p] = v.at mem (unflatRow v.dims p) := by
  have h := reshape_same_storage v [prod v.dims] mem p (by simp [prod]) hp
  simpa [reshape, flatten, unflatRow, prod] using h

theorem prod_filter_ne_one (ds : List Nat) : prod (ds.filter (· != 1)) = prod ds := by
  induction ds with
  | nil => rfl
  | cons d ds ih =>
    by_cases h : d = 1
    · subst h; simp [List.filter, prod, ih]
    · have : (d != 1) = true := by simp [h]
      simp [List.filter, this, prod, ih]

theorem squeeze_same_storage (v : View) (mem : Nat → α) (p : Nat) (hp : p < prod v.dims) :
    (squeeze v).at mem (unflatRow (squeeze v).dims p) = v.at mem (unflatRow v.dims p) :=
  reshape_same_storage v (v.dims.filter (· != 1)) mem p (prod_filter_ne_one _) hp

example : (reshape ⟨0, [2, 3, 2]⟩ [4, 3]).at (fun p => (p : Int)) [3, 1] = (⟨0, [2, 3, 2]⟩ : View).at (fun p => (p : Int)) [1, 2, 0] := by
  decide

/-! ### constructors -/

theorem ctor_rowmajor (dims : List Nat) (arr init : Nat → α) (p : Nat) (hp : p < prod dims) :
    ctorBuffer dims .rowMajor arr init p = arr p := by
  simp only [ctorBuffer, ctorBufferWrites, applyWrites_range, if_pos hp]

/-- `Tensor(ptr, ColumnMajor)`: element `(i0..ik)` of the tensor (row-major storage) is the element of the buffer at
    the column-major offset -/
theorem ctor_columnmajor (dims : List Nat) (arr init : Nat → α) (i : List Nat) (hi : Box dims i) :
    ctorBuffer dims .columnMajor arr init (rowOffset dims i) = arr (colOffset dims i) := by
  unfold ctorBuffer ctorBufferWrites
  simp only [applyWrites_append, applyWrites_range]
  rw [if_pos (show rowOffset dims i < prod dims from rowFlat_lt hi)]
  have h := tocolumnmajor_offset dims (fun q => if q < prod dims then arr q else init q) init i hi
  unfold toColumnMajor runMoves at h
  rw [h, if_pos (by rw [colOffset_eq]; exact colFlat_lt hi)]

example : ctorBuffer [2, 3] .columnMajor (fun p => (p : Int)) (fun _ => -1) (rowOffset [2, 3] [1, 2]) = 5 := by decide

/-- the stores `_data[counter] = x; counter++` over a flat sequence of values -/
def seqWrites (l : List α) (c : Nat) : List (Nat × α) := (List.range' c l.length).zip l

theorem seqWrites_cons (x : α) (l : List α) (c : Nat) : seqWrites (x :: l) c = (c, x) :: seqWrites l (c + 1) := by
  simp [seqWrites, List.range'_succ]

theorem seqWrites_append (a b : List α) (c : Nat) : seqWrites (a ++ b) c = seqWrites a c ++ seqWrites b (c + a.length) := by
  induction a generalizing c with
  | nil => simp [seqWrites]
  | cons x a ih =>
    simp only [List.cons_append, seqWrites_cons, ih, List.length_cons]
    congr 3; omega

/-- the counter loop over a list of groups, each stored consecutively: the concatenation is stored consecutively -/
theorem foldl_seqWrites {β : Type} (g : β → List α) (l : List β) (acc : List (Nat × α)) (c : Nat) :
    l.foldl (fun st row => (st.1 ++ seqWrites (g row) st.2, st.2 + (g row).length)) (acc, c) =
      (acc ++ seqWrites (l.flatMap g) c, c + (l.flatMap g).length) := by
  induction l generalizing acc c with
  | nil => simp [seqWrites]
  | cons row l ih => simp [ih, seqWrites_append, Nat.add_assoc]

/-- rank 1: the values are stored consecutively from `counter` in reading order -/
theorem ilist1_writes (l : List α) (c : Nat) : ilistWrites1 l c = (seqWrites l c, c + l.length) := by
  have := foldl_seqWrites (fun x : α => [x]) l [] c
  simpa [ilistWrites1, seqWrites_cons, seqWrites] using this

/-- rank 2: nested braces are stored in reading order, i.e. row by row -/
theorem ilist2_writes (ll : List (List α)) (c : Nat) :
    ilistWrites2 ll c = (seqWrites ll.flatten c, c + ll.flatten.length) := by
  simp only [ilistWrites2, ilist1_writes]
  simpa using foldl_seqWrites id ll [] c

theorem ilist3_writes (l3 : List (List (List α))) (c : Nat) :
    ilistWrites3 l3 c = (seqWrites l3.flatten.flatten c, c + l3.flatten.flatten.length) := by
  simp only [ilistWrites3, ilist2_writes]
  simpa [List.flatten_flatten, List.flatMap_def, Function.comp_def] using foldl_seqWrites List.flatten l3 [] c

theorem ilist4_writes (l4 : List (List (List (List α)))) (c : Nat) :
    ilistWrites4 l4 c = (seqWrites l4.flatten.flatten.flatten c, c + l4.flatten.flatten.flatten.length) := by
  simp only [ilistWrites4, ilist3_writes]
  simpa [List.flatten_flatten, List.flatMap_def, Function.comp_def] using foldl_seqWrites (fun a : List (List (List α)) => a.flatten.flatten) l4 [] c

/-- memory after the stores of a flat sequence: position `p` holds the `p`-th value in reading order -/
theorem seqWrites_memory (l : List α) (init : Nat → α) (p : Nat) (hp : p < l.length) :
    applyWrites (seqWrites l 0) init p = l[p] := by
  refine (applyWrites_indexed (ι := Fin l.length) (I := fun _ => True) (dst := (·.1)) (val := (l[·])) (fun w => ?_)
    (fun _ _ _ _ => Fin.ext) init).1 ⟨p, hp⟩ trivial
  simp only [seqWrites, List.mem_iff_getElem, List.getElem_zip, List.getElem_range', List.length_zip, List.length_range',
    Nat.min_self, Nat.zero_add, Nat.one_mul, true_and, eq_comm]
  exact ⟨fun ⟨k, hk, e⟩ => ⟨⟨k, hk⟩, e⟩, fun ⟨k, e⟩ => ⟨k.1, k.2, e⟩⟩

/-- row-major reading of a rectangular rank-2 list: row `i`, column `j` is at position `i*N + j` of the flattening -/
theorem flatten_rect_getElem? (ll : List (List α)) (N : Nat) (hrect : ∀ row ∈ ll, row.length = N) (i j : Nat)
    (hj : j < N) : ll.flatten[i * N + j]? = (ll[i]?).bind (·[j]?) := by
  induction ll generalizing i with
  | nil => simp
  | cons row ll ih =>
    have hrow : row.length = N := hrect row (by simp)
    have hrest : ∀ r ∈ ll, r.length = N := fun r hr => hrect r (List.mem_cons_of_mem _ hr)
    cases i with
    | zero => simp [List.getElem?_append_left, hrow, hj]
    | succ i =>
      have : (i + 1) * N + j = row.length + (i * N + j) := by rw [hrow, Nat.succ_mul]; omega
      simp only [List.flatten_cons, this, List.getElem?_cons_succ]
      rw [List.getElem?_append_right (by omega)]
      simp only [Nat.add_sub_cancel_left]
      exact ih hrest i

theorem length_flatten_rect (ll : List (List α)) (N : Nat) (hrect : ∀ row ∈ ll, row.length = N) :
    ll.flatten.length = ll.length * N := by
  induction ll with
  | nil => simp
  | cons row ll ih =>
    rw [List.flatten_cons, List.length_append, hrect row (by simp), ih fun r hr => hrect r (List.mem_cons_of_mem _ hr),
      List.length_cons, Nat.succ_mul, Nat.add_comm]

/-- **rank-2 initializer list stores row-major**: with `M` rows of `N` values, `_data[i*N+j]` is value `(i,j)` -/
theorem ilist2_rowmajor (ll : List (List α)) (N : Nat) (hrect : ∀ row ∈ ll, row.length = N) (init : Nat → α)
    (i j : Nat) (hi : i < ll.length) (hj : j < N) :
    some (applyWrites (ilistWrites2 ll 0).1 init (i * N + j)) = (ll[i]?).bind (·[j]?) := by
  have hlt : i * N + j < ll.flatten.length := by rw [length_flatten_rect ll N hrect]; exact pos_lt hi hj
  rw [ilist2_writes, seqWrites_memory _ init _ hlt, ← List.getElem?_eq_getElem hlt, flatten_rect_getElem? ll N hrect i j hj]

example : applyWrites (ilistWrites2 [[(1 : Int), 2, 3], [4, 5, 6]] 0).1 (fun _ => 0) (1 * 3 + 2) = 6 := by decide

/-- row-major reading of a rectangular rank-3 list -/
theorem ilist3_rowmajor (l3 : List (List (List α))) (N P : Nat)
    (hrect2 : ∀ m ∈ l3, m.length = N) (hrect3 : ∀ m ∈ l3, ∀ row ∈ m, row.length = P) (init : Nat → α)
    (i j k : Nat) (hi : i < l3.length) (hj : j < N) (hk : k < P) :
    some (applyWrites (ilistWrites3 l3 0).1 init ((i * N + j) * P + k)) = ((l3[i]?).bind (·[j]?)).bind (·[k]?) := by
  have hrows := List.forall_mem_flatten.2 hrect3
  have hlt : (i * N + j) * P + k < l3.flatten.flatten.length := by
    rw [length_flatten_rect _ P hrows, length_flatten_rect l3 N hrect2]; exact pos_lt (pos_lt hi hj) hk
  rw [ilist3_writes, seqWrites_memory _ init _ hlt, ← List.getElem?_eq_getElem hlt, flatten_rect_getElem? _ P hrows _ k hk,
    flatten_rect_getElem? l3 N hrect2 i j hj]

example : applyWrites (ilistWrites3 [[[(1 : Int), 2], [3, 4], [5, 6]], [[7, 8], [9, 10], [11, 12]]] 0).1 (fun _ => 0) ((1 * 3 + 2) * 2 + 1) = 12 := by
  decide

/-- row-major reading of a rectangular rank-4 list -/
theorem ilist4_rowmajor (l4 : List (List (List (List α)))) (N P Q : Nat)
    (hr2 : ∀ a ∈ l4, a.length = N) (hr3 : ∀ a ∈ l4, ∀ b ∈ a, b.length = P) (hr4 : ∀ a ∈ l4, ∀ b ∈ a, ∀ c ∈ b, c.length = Q)
    (init : Nat → α) (i j k l : Nat) (hi : i < l4.length) (hj : j < N) (hk : k < P) (hl : l < Q) :
    some (applyWrites (ilistWrites4 l4 0).1 init (((i * N + j) * P + k) * Q + l)) =
      (((l4[i]?).bind (·[j]?)).bind (·[k]?)).bind (·[l]?) := by
  have hrows2 := List.forall_mem_flatten.2 hr3
  have hrows3 := List.forall_mem_flatten.2 (List.forall_mem_flatten.2 hr4)
  have hlt : ((i * N + j) * P + k) * Q + l < l4.flatten.flatten.flatten.length := by
    rw [length_flatten_rect _ Q hrows3, length_flatten_rect _ P hrows2, length_flatten_rect l4 N hr2]
    exact pos_lt (pos_lt (pos_lt hi hj) hk) hl
  rw [ilist4_writes, seqWrites_memory _ init _ hlt, ← List.getElem?_eq_getElem hlt, flatten_rect_getElem? _ Q hrows3 _ l hl,
    flatten_rect_getElem? _ P hrows2 _ k hk, flatten_rect_getElem? l4 N hr2 i j hj]

/-- rank 1 -/
theorem ilist1_rowmajor (l : List α) (init : Nat → α) (i : Nat) (hi : i < l.length) :
    applyWrites (ilistWrites1 l 0).1 init i = l[i] := by
  rw [ilist1_writes]; exact seqWrites_memory l init i hi


/-! ### one memory, two names -/

variable [Add α] [Sub α] [Mul α] [Neg α]

/-- the owning tensor of the same shape (its `is_aligned()` is `al`) -/
def owning (nm : Name) (al : Bool) : Name := { dims := nm.dims, isMap := false, aligned := al }

/-- **one step**: an operation issued through a map leaves the state (buffer and read targets) that the same
    operation leaves when issued on an owning tensor of the map's shape holding the same values -/
theorem map_step_eq_owning_step (ofInt : Int → α) (cst : Nat → α) (opnd : Nat → Nat → α) (tmp0 : Nat → α)
    (ex : Nat) (hex : ex ≤ 64) (nm : Name) (hmap : nm.isMap = true) (hn : prod nm.dims < 2 ^ 64) (al : Bool)
    (via : Via) (o : Op) (s : MapAlias.St α) :
    (step ofInt cst opnd tmp0 (2 ^ ex) nm via o s).1 = (step ofInt cst opnd tmp0 (2 ^ ex) (owning nm al) via o s).1 := by
  have hpass := fun (opnd' : Nat → Nat → α) op e m => funext (passInPlace_spec ofInt opnd' op e (prod nm.dims) ex hn hex m)
  have htemp := fun e cur dst => funext (assignViaTemp_spec ofInt opnd e (prod nm.dims) ex hn hex cur dst tmp0)
  unfold passInPlace at hpass
  unfold assignViaTemp at htemp
  have e1 : (AOp.set == AOp.set) = true := rfl
  have e2 : (AOp.add == AOp.set) = false := rfl
  have e3 : (AOp.sub == AOp.set) = false := rfl
  have e4 : (AOp.mul == AOp.set) = false := rfl
  cases o with
  | write idx c => simp [step, owning]
  | fill c => simp [step, owning]
  | scal op c => simp [step, owning]
  | expr op e =>
    cases op with
    | set =>
      simp only [step, owning, hmap, e1, Bool.not_true, Bool.and_false, Bool.false_eq_true, if_false,
        Bool.not_false, Bool.and_true, if_true]
      congr 1
      rw [hpass, htemp]
      funext q; simp [AOp.ap]
    | add => simp [step, owning, hmap, e2]
    | sub => simp [step, owning, hmap, e3]
    | mul => simp [step, owning, hmap, e4]
  | other op =>
    cases op with
    | set =>
      simp only [step, owning, hmap, e1, if_true, Bool.false_eq_true, if_false]
      rw [htemp]
      cases s with
      | mk buf rd =>
        congr 1
        funext q; simp [evalS, envOf]
    | add => simp [step, owning, e2]
    | sub => simp [step, owning, e3]
    | mul => simp [step, owning, e4]
  | copy =>
    simp only [step, owning, hmap, if_true, Bool.false_eq_true, if_false]
    congr 1
    rw [hpass]
    rw [applyWrites_range]
    funext q
    simp [AOp.ap, evalS, envOf]
  | read e => simp [step, owning]

/-- **map_is_alias**: for every program (operations issued in any order through the map and through the source),
    running on the shared buffer equals running with the map replaced by an owning tensor of the map's shape
    holding the same values -/
theorem map_is_alias (ofInt : Int → α) (cst : Nat → α) (opnd : Via → Nat → Nat → α) (tmp0 : Nat → α)
    (ex : Nat) (hex : ex ≤ 64) (mapN srcN : Name) (hmap : mapN.isMap = true) (hn : prod mapN.dims < 2 ^ 64) (al : Bool)
    (prog : Prog) (s : MapAlias.St α) :
    runShared ofInt cst opnd tmp0 (2 ^ ex) mapN srcN prog s =
      runShared ofInt cst opnd tmp0 (2 ^ ex) (owning mapN al) srcN prog s := by
  induction prog generalizing s with
  | nil => rfl
  | cons vo rest ih =>
    obtain ⟨via, o⟩ := vo
    cases via with
    | map =>
      simp only [runShared]
      rw [map_step_eq_owning_step ofInt cst (opnd .map) tmp0 ex hex mapN hmap hn al .map o s, ih]
    | src => simp only [runShared]; rw [ih]

def Ev.isAligned : Ev → Bool
  | .store _ a => a
  | .vload _ a => a
  | .vstore _ a => a

/-- **aligned_flag_irrelevant**: the state after a step does not depend on the value of `is_aligned()` -/
theorem aligned_flag_irrelevant (ofInt : Int → α) (cst : Nat → α) (opnd : Nat → Nat → α) (tmp0 : Nat → α) (V : Nat)
    (nm : Name) (b : Bool) (via : Via) (o : Op) (s : MapAlias.St α) :
    (step ofInt cst opnd tmp0 V { nm with aligned := b } via o s).1 = (step ofInt cst opnd tmp0 V nm via o s).1 := by
  cases o <;> simp only [step] <;> (try split) <;> (try split) <;> rfl

/-- a step through a name whose `is_aligned()` is false (every map) issues no aligned access -/
theorem map_never_aligned (ofInt : Int → α) (cst : Nat → α) (opnd : Nat → Nat → α) (tmp0 : Nat → α) (V : Nat)
    (nm : Name) (hal : nm.aligned = false) (via : Via) (o : Op) (s : MapAlias.St α) :
    ∀ ev ∈ (step ofInt cst opnd tmp0 V nm via o s).2, Ev.isAligned ev = false := by
  have hpe : ∀ b n, ∀ ev ∈ passEvents b false n V, Ev.isAligned ev = false := by
    intro b n ev hev
    simp only [passEvents, List.mem_append, List.mem_flatMap, List.mem_map] at hev
    rcases hev with ⟨i, _, hi⟩ | ⟨i, _, rfl⟩
    · cases b <;> simp at hi
      · subst hi; rfl
      · rcases hi with rfl | rfl <;> rfl
    · rfl
  have hce : ∀ n, ∀ ev ∈ copyEvents n, Ev.isAligned ev = false := by
    intro n ev hev
    simp only [copyEvents, List.mem_map] at hev
    obtain ⟨p, _, rfl⟩ := hev; rfl
  intro ev hev
  cases o with
  | write idx c => simp [step] at hev; subst hev; rfl
  | fill c => simp only [step, hal] at hev; exact hpe _ _ ev hev
  | scal op c => simp only [step, hal] at hev; exact hpe _ _ ev hev
  | expr op e =>
    simp only [step, hal] at hev
    split at hev
    · exact hce _ ev hev
    · exact hpe _ _ ev hev
  | other op =>
    simp only [step, hal] at hev
    split at hev
    · split at hev
      · simp at hev
      · exact hce _ ev hev
    · exact hpe _ _ ev hev
  | copy =>
    simp only [step, hal] at hev
    split at hev
    · exact hpe _ _ ev hev
    · exact hce _ ev hev
  | read e => simp [step] at hev

/-- non-vacuity: `m = m * m - B` issued through a flat map of 7 elements, width 4, evaluated in place, gives at
    position 5 what the owning tensor gets -/
example : (step (α := Int) (fun k => k) (fun _ => 0) (fun w p => (w : Int) * 100 + p) (fun _ => 0) (2 ^ 2)
    { dims := [7], isMap := true, aligned := false } .map
    (.expr .set (.bin .sub (.bin .mul (.t 0) (.t 0)) (.t 1))) { buf := fun p => (p : Int) + 1, rd := fun _ _ => 0 }).1.buf 5
    = 6 * 6 - 105 := by decide

/-! ### the enlarged alphabet: any number of names, views, scalar assignment, reductions, staged right-hand sides -/

section wide
variable {α : Type} [Add α] [Sub α] [Mul α] [Neg α] [Div α] [Zero α]
open Fastor.ViewWrite

/-- side conditions of an operation issued on a tensor of extents `dims`: a view write selects in-bounds positions
    with positive steps and non-empty extents (C05's `InBounds`) -/
def Op2.Valid (dims : List Nat) : Op2 → Prop
  | .viewW axs _ _ => C05.InBounds dims axs ∧ dims.length = axs.length ∧ axs ≠ [] ∧ ∀ a ∈ axs, 0 < a.ext ∧ a.ext < 2 ^ 64
  | _ => True

theorem odo_nodup (ex : Nat) (dims : List Nat) (axs : List Ax) (hin : C05.InBounds dims axs) (hlen : dims.length = axs.length)
    (hne : axs ≠ []) (hext : ∀ a ∈ axs, 0 < a.ext) (cstep : Nat) (hcs : cstep = 2 ^ ex ∨ cstep = 1) :
    ((lanesOf (odoIters (2 ^ ex) dims axs false cstep)).map (·.1)).Nodup := by
  have hV : 0 < 2 ^ ex := Nat.pow_pos (by omega)
  rw [odo_lanes (2 ^ ex) hV dims axs hne hlen hext cstep hcs, incs_one, List.map_map]
  have := C05.pos_nodup dims axs hin 0
  simpa [Function.comp_def] using this

/-- generic n-D view class versus the class an owning tensor of that rank gets: same memory -/
theorem iters_cls_irrelevant (ex : Nat) (hex : ex ≤ 64) (dims : List Nat) (axs : List Ax) (cstep : Nat)
    (hcs : cstep = 2 ^ ex ∨ cstep = 1) (hin : C05.InBounds dims axs) (hlen : dims.length = axs.length) (hne : axs ≠ [])
    (hext : ∀ a ∈ axs, 0 < a.ext ∧ a.ext < 2 ^ 64) (op : WOp) (r : Nat → α) (m : Nat → α) :
    exec op (fun _ => r) (itersOf .dynN (2 ^ ex) false dims axs false cstep) m =
      exec op (fun _ => r) (itersOf (rankCls dims.length) (2 ^ ex) false dims axs false cstep) m := by
  have hpos : ∀ a ∈ axs, 0 < a.ext := fun a ha => (hext a ha).1
  have hnd := odo_nodup ex dims axs hin hlen hne hpos cstep hcs
  match dims, axs, hlen, hin, hne, hext, hpos, hnd with
  | [d], [a], _, _, _, hext, hpos, hnd =>
    have hl := lanes_rank1 ex hex d a (hext a (by simp)).2 (hpos a (by simp)) cstep hcs
    simp only [itersOf, rankCls, List.length_cons, List.length_nil]
    exact exec_eq_of_lanes op r _ _ m hl (by rw [← hl]; exact hnd)
  | [M, N], [a0, a1], _, _, _, hext, hpos, hnd =>
    have hl := lanes_rank2 ex hex M N a0 a1 (hext a1 (by simp)).2 (hpos a0 (by simp)) (hpos a1 (by simp)) cstep hcs
    simp only [itersOf, rankCls, List.length_cons, List.length_nil]
    exact exec_eq_of_lanes op r _ _ m hl (by rw [← hl]; exact hnd)
  | [], axs, hlen, _, hne, _, _, _ =>
    exact absurd (List.eq_nil_of_length_eq_zero hlen.symm) hne
  | d0 :: d1 :: d2 :: ds, axs, _, _, _, _, _, _ =>
    simp only [rankCls, List.length_cons]

/-- a write through a strided view of a map (generic n-D view class) leaves the memory that the same write leaves
    through the view class an owning tensor of that shape gets (1-D / 2-D specialisations) -/
theorem viewW_map_eq_owning (ex : Nat) (hex : ex ≤ 64) (nm : Name) (hmap : nm.isMap = true) (al : Bool)
    (axs : List Ax) (op : WOp) (rhs : VRhs) (r : Nat → α) (m : Nat → α)
    (hv : Op2.Valid nm.dims (.viewW axs op rhs)) :
    exec op (fun _ => r) (viewIters (2 ^ ex) nm axs rhs) m =
      exec op (fun _ => r) (viewIters (2 ^ ex) (owning nm al) axs rhs) m := by
  obtain ⟨hin, hlen, hne, hext⟩ := hv
  have hcs : rhs.cstep (2 ^ ex) = 2 ^ ex ∨ rhs.cstep (2 ^ ex) = 1 := by cases rhs <;> simp [VRhs.cstep]
  simp only [viewIters, viewCls, hmap, if_true, owning, Bool.false_eq_true, if_false]
  exact iters_cls_irrelevant ex hex nm.dims axs _ hcs hin hlen hne hext op r m

/-- **one step of the enlarged alphabet** through a map = the same step on an owning tensor of the map's shape -/
theorem step2_map_eq_owning (ofInt : Int → α) (cst : Nat → α) (opnd : Nat → Nat → α) (tmp0 : Nat → α)
    (ex : Nat) (hex : ex ≤ 64) (stagedFn : Nat → (Nat → α) → Nat → α) (nm : Name) (hmap : nm.isMap = true)
    (hn : prod nm.dims < 2 ^ 64) (al : Bool) (k : Nat) (o : Op2) (hv : Op2.Valid nm.dims o) (s : St2 α) :
    (step2 ofInt cst opnd tmp0 (2 ^ ex) stagedFn nm k o s).1 =
      (step2 ofInt cst opnd tmp0 (2 ^ ex) stagedFn (owning nm al) k o s).1 := by
  have hpass := fun (opnd' : Nat → Nat → α) op e m => funext (passInPlace_spec ofInt opnd' op e (prod nm.dims) ex hn hex m)
  unfold passInPlace at hpass
  cases o with
  | base b =>
    have h := map_step_eq_owning_step ofInt cst opnd tmp0 ex hex nm hmap hn al .map b { buf := s.buf, rd := fun _ => s.rd k }
    simp only [step2]
    rw [h]
  | sassign c =>
    simp only [step2, owning, hmap, if_true, Bool.false_eq_true, if_false]
    congr 1
    rw [hpass, applyWrites_range]
    funext q; simp [AOp.ap, evalS, envOf]
  | windex idx c => simp [step2, owning]
  | viewW axs op rhs =>
    simp only [step2]
    rw [viewW_map_eq_owning ex hex nm hmap al axs op rhs _ s.buf hv]
  | viewR axs => simp [step2, owning]
  | reduce => simp [step2, owning]
  | staged op tag =>
    cases op with
    | set =>
      have e1 : (AOp.set == AOp.set) = true := rfl
      simp only [step2, owning, hmap, e1, Bool.not_true, Bool.and_false, Bool.false_eq_true, if_false, Bool.not_false,
        Bool.and_true, if_true]
      congr 1
      rw [hpass, applyWrites_range]
      funext q; simp [AOp.ap, evalS, envOf]
    | add => have e : (AOp.add == AOp.set) = false := rfl; simp [step2, owning, hmap, e]
    | sub => have e : (AOp.sub == AOp.set) = false := rfl; simp [step2, owning, hmap, e]
    | mul => have e : (AOp.mul == AOp.set) = false := rfl; simp [step2, owning, hmap, e]

/-- **map_is_alias over the enlarged alphabet** (history theorem): for every program — operations of the enlarged
    alphabet issued in any order through any of the names of the one storage — replacing any subset of the maps by
    owning tensors of the same shape holding the same values leaves the same final state (buffer, read targets,
    reduction result) -/
theorem map_is_alias_wide (ofInt : Int → α) (cst : Nat → α) (opnd : Nat → Nat → Nat → α) (tmp0 : Nat → α)
    (ex : Nat) (hex : ex ≤ 64) (stagedFn : Nat → Nat → (Nat → α) → Nat → α) (names names' : Nat → Name) (al : Bool)
    (hnames : ∀ k, names' k = names k ∨ ((names k).isMap = true ∧ names' k = owning (names k) al))
    (hn : ∀ k, prod (names k).dims < 2 ^ 64)
    (prog : Prog2) (hvalid : ∀ ko ∈ prog, Op2.Valid (names ko.1).dims ko.2) (s : St2 α) :
    runNames ofInt cst opnd tmp0 (2 ^ ex) stagedFn names prog s =
      runNames ofInt cst opnd tmp0 (2 ^ ex) stagedFn names' prog s := by
  induction prog generalizing s with
  | nil => rfl
  | cons ko rest ih =>
    obtain ⟨k, o⟩ := ko
    simp only [runNames]
    have hv := hvalid (k, o) (by simp)
    have hrest : ∀ ko ∈ rest, Op2.Valid (names ko.1).dims ko.2 := fun ko h => hvalid ko (List.mem_cons_of_mem _ h)
    rcases hnames k with h | ⟨hm, h⟩
    · rw [h, ih hrest]
    · rw [h, ← step2_map_eq_owning ofInt cst (opnd k) tmp0 ex hex (stagedFn k) (names k) hm (hn k) al k o hv s, ih hrest]

/-- non-vacuity: `m(seq(0,4,2), all) += 3` through a 4x5 map is a valid view write -/
example : Op2.Valid [4, 5] (.viewW [⟨0, 2, 2⟩, ⟨0, 1, 5⟩] .add (.scalar 0)) := by
  refine ⟨?_, rfl, by simp, ?_⟩
  · simp only [C05.InBounds]; decide
  · intro a ha; simp at ha; rcases ha with rfl | rfl <;> decide

end wide

end Fastor.C20
