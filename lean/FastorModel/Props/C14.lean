import FastorModel.Proofs.Permute
import FastorModel.Proofs.PermuteMeta
import FastorModel.Proofs.PermuteOdometer
import FastorModel.Proofs.PermuteLabels
import FastorModel.Proofs.Transpose
import FastorModel.Generated.C14Kernels
/-
# C14 — permute, permutation and transpose move every element to its permuted position

Property: for every rank, every permutation `p` of the axes and every shape, `permute<Index<p...>>(A)` has
extents `shape[p[n]]` and satisfies `out(i[p[0]],…,i[p[k]]) = A(i[0],…,i[k])` for every multi-index; the legacy
`permutation<>` returns the axis permutation by `p` or by its inverse, the same one for its extents and for
its elements; `transpose`/`trans` is the rank-2 case and the conjugate transpose additionally conjugates.
Composing a permutation with its inverse returns the original tensor bit for bit, for tensors and for
unevaluated expressions.

Reading of the statements.
* `Permute.permuteMoves s v p dims` is the ordered list of moves `out[dst] = a[src]` executed by
  `permute<Index<p...>>(Tensor<T,dims...>)` under standard `s` (C++14: loop over the input box, forward map
  `resulting_index` on the output offset; C++17: loop over the output box, reverse map `permute_mapped_index_t` on the
  input offset) with loop skeleton `v` (`recursive` = default build, `odometer` = `CONTRACT_OPT==-1`).  The source
  `a : Nat → α` is the tensor's buffer or, for an unevaluated expression, `eval_s(index_a)`: the same list of
  moves (permute.h has the same body for both), so the theorems cover both argument kinds; only moves happen, so
  "equal" is equality of the moved elements themselves (bit for bit).
* `InBox dims i`: `i` is a multi-index of the shape; `flat dims i` its row-major offset; `gather p i` is
  `(i[p[0]], …, i[p[r-1]])`; `gather p dims` the extents `dims[p[n]]`.
* `Transpose.transposeWrites cfg sz nR nC a g1 g2 M N` is the ordered list of stores of `_transpose<T,M,N>` for an
  element of `sz` bytes under build configuration `cfg` and block-size macros `nR`, `nC`; `g1`, `g2` are the
  (arbitrary) previous contents of the two pack buffers.
-/
namespace Fastor.C14
open Fastor Fastor.Permute Fastor.Transpose

variable {α : Type}

/-! ## transpose -/

/-- the plain double loop (`_transpose` without `FASTOR_AVX_IMPL`, the generic `_transpose_dispatch` leaf):
    every cell of the `N×M` result is written, nothing else is, and `out[j*M+i] = a[i*N+j]` -/
theorem plain_transpose_correct (a : Nat → α) (M N : Nat) :
    WritesExactly (plainWrites id a M N) (fun p => p < N * M) (fun p => a ((p % M) * N + p / M)) :=
  plainWrites_exact id a M N

/-- `_ctranspose` (backend of `ctrans` / `ctranspose`): the same cells, each holding the conjugate:
    `out[j*M+i] = conj (a[i*N+j])` for every `i < M`, `j < N` and nothing outside `N*M` is touched -/
theorem ctrans_conjugates (conj : α → α) (a m : Nat → α) (M N : Nat) :
    (∀ i j, i < M → j < N → applyWrites (plainWrites conj a M N) m (j * M + i) = conj (a (i * N + j))) ∧
    (∀ p, N * M ≤ p → applyWrites (plainWrites conj a M N) m p = m p) :=
  let ⟨h1, _, h3⟩ := transposed_of_exact (plainWrites_exact conj a M N) m
  ⟨h1, h3⟩

/-- **transpose_correct** — the register-blocked nest, for ALL `M N`, every vector width `V > 0` and every pair of
    block-size macros `nR, nC > 0`, whatever the pack buffers held before: every cell `j*M+i` of the result ends up
    holding `a[i*N+j]`, every cell is written, nothing at or beyond `N*M` is written, and every load (the vector
    loads of the packing loop included) stays inside `a[0 .. M*N)` -/
theorem transpose_correct (a m : Nat → α) (g1 g2 : Nat → Nat → Nat → α) (M N V nR nC : Nat)
    (hV : 0 < V) (hR : 0 < nR) (hC : 0 < nC) :
    (∀ i j, i < M → j < N → applyWrites (blockedWrites a g1 g2 M N V nR nC) m (j * M + i) = a (i * N + j)) ∧
    (∀ p, p < N * M → ∃ w ∈ blockedWrites a g1 g2 M N V nR nC, w.1 = p) ∧
    (∀ p, N * M ≤ p → applyWrites (blockedWrites a g1 g2 M N V nR nC) m p = m p) ∧
    (∀ r ∈ blockedReads M N V nR nC, r < M * N) :=
  let ⟨h1, h2, h3⟩ := transposed_of_exact (f := id) (blockedWrites_exact a g1 g2 M N V nR nC hV hR hC) m
  ⟨h1, h2, h3, blockedReads_lt M N V nR nC hV hR hC⟩

theorem lanes_pos (abi : Abi) (sz : Nat) : 0 < abi.lanes sz := by
  unfold Abi.lanes
  by_cases h : abi.bits sz / sz / 8 = 0
  · simp [h]
  · simp only [bne_iff_ne, ne_eq, h, not_false_eq_true, if_true]; exact Nat.pos_of_ne_zero h

/-- the same for the entry point under any build configuration (plain loop or blocked nest as `FASTOR_AVX_IMPL`
    decides), any element size: the result does not depend on the configuration at all -/
theorem transpose_correct_cfg (cfg : Cfg) (sz nR nC : Nat) (hR : 0 < nR) (hC : 0 < nC)
    (a m : Nat → α) (g1 g2 : Nat → Nat → Nat → α) (M N : Nat) :
    (∀ i j, i < M → j < N → applyWrites (transposeWrites cfg sz nR nC a g1 g2 M N) m (j * M + i) = a (i * N + j)) ∧
    (∀ p, N * M ≤ p → applyWrites (transposeWrites cfg sz nR nC a g1 g2 M N) m p = m p) ∧
    (∀ r ∈ transposeReads cfg sz nR nC M N, r < M * N) := by
  unfold transposeWrites transposeReads
  cases route cfg with
  | plain =>
    obtain ⟨h1, _, h3⟩ := transposed_of_exact (plainWrites_exact id a M N) m
    exact ⟨h1, h3, plainReads_lt M N⟩
  | blocked =>
    obtain ⟨h1, _, h3, h4⟩ := transpose_correct a m g1 g2 M N (cfg.native.lanes sz) nR nC (lanes_pos _ _) hR hC
    exact ⟨h1, h3, h4⟩

/-- `TensorMap dst = trans(A)` as the code is now (materialise in a temporary, then copy linearly): the map ends up
    holding the transposed matrix, every cell of it is written, nothing beyond it -/
theorem map_assign_trans_correct (cfg : Cfg) (sz nR nC : Nat) (hR : 0 < nR) (hC : 0 < nC)
    (a m t0 : Nat → α) (g1 g2 : Nat → Nat → Nat → α) (M N : Nat) :
    (∀ i j, i < M → j < N → applyWrites (mapAssignWrites cfg sz nR nC a g1 g2 t0 M N) m (j * M + i) = a (i * N + j)) ∧
    (∀ p, N * M ≤ p → applyWrites (mapAssignWrites cfg sz nR nC a g1 g2 t0 M N) m p = m p) := by
  have hcopy : WritesExactly (mapAssignWrites cfg sz nR nC a g1 g2 t0 M N) (fun p => p < N * M)
      (applyWrites (transposeWrites cfg sz nR nC a g1 g2 M N) t0) := by
    apply writesExactly_of_all_right
    · intro w hw
      simp only [mapAssignWrites, List.mem_map, List.mem_range] at hw
      obtain ⟨p, hp, rfl⟩ := hw
      exact ⟨hp, rfl⟩
    · intro p hp
      exact ⟨(p, _), by simp only [mapAssignWrites, List.mem_map, List.mem_range]; exact ⟨p, hp, rfl⟩, rfl⟩
  obtain ⟨h1, _, _⟩ := transpose_correct_cfg cfg sz nR nC hR hC a t0 g1 g2 M N
  refine ⟨?_, ?_⟩
  · intro i j hi hj
    rw [(applyWrites_of_exact hcopy m (j * M + i)).1 (pos_lt hj hi), h1 i j hi hj]
  · intro p hp
    exact (applyWrites_of_exact hcopy m p).2 (by omega)

/-- non-vacuity: the default AVX2 float build on a 9×11 matrix runs 1 full block column and both edge loops -/
example : (blockedWrites (fun k => k) (fun _ _ _ => 0) (fun _ _ _ => 0) 9 11 8 1 1).length = 99 := by decide

/-- **intrinsic leaf kernels, for every element type** — every float/double kernel of transpose.h / transpose_kernels.h
    (`_transpose<float,2,2|3,3|4,4|8,8|16,16>`, `<double,2,2|3,3|4,4|8,8>`, with `_MM_TRANSPOSE4_PS`, `_MM_TRANSPOSE8_PS`,
    `_MM_TRANSPOSE4_PD`, `_MM_TRANSPOSE8_PD`, `_MM_TRANSPOSE16_PS` and the partial load/store helpers of extintrin.h inlined),
    as selected by the conditional compilation of the sse2, avx, avx2 and avx512 configurations and translated
    statement by statement into Lean over the lane semantics of `Model/Intrinsics.lean` (Generated/C14Kernels.lean,
    regenerated and compared on every run): for EVERY lane type `α`, every value `z` of a zeroed lane and every source
    `a`, its stores leave exactly the transposed matrix in `out[0..n*n)` (so it is the lane permutation the generic
    leaf loop of `transpose_correct` performs), no store falls outside the result, and the load positions the translator
    lists beside each kernel (`…_reads`: printed with the kernel, not derived from its definition) lie inside the source.
    Proof per kernel: `decide` on lane tokens + naturality (`Proofs/Intrinsics.lean`: every intrinsic commutes with
    mapping a function over the lanes; `Intr.of_tokens`). -/
theorem intrinsic_leaf_kernels : C14K.AllKernels := C14K.all_kernels

/-- **transpose_correct with any admissible leaf** — the blocked nest is correct whatever `_transpose_dispatch` runs, as
    long as that leaf leaves the transposed block in `pack_out` (`LeafOK`): same conclusions as `transpose_correct` -/
theorem transpose_correct_any_leaf (leaf : (Nat → α) → List (Nat × α)) (a m : Nat → α) (g1 g2 : Nat → Nat → Nat → α)
    (M N V nR nC : Nat) (hV : 0 < V) (hR : 0 < nR) (hC : 0 < nC) (hleaf : LeafOK leaf (V * nC) (V * nR)) :
    (∀ i j, i < M → j < N → applyWrites (blockedWritesWith leaf a g1 g2 M N V nR nC) m (j * M + i) = a (i * N + j)) ∧
    (∀ p, p < N * M → ∃ w ∈ blockedWritesWith leaf a g1 g2 M N V nR nC, w.1 = p) ∧
    (∀ p, N * M ≤ p → applyWrites (blockedWritesWith leaf a g1 g2 M N V nR nC) m p = m p) :=
  transposed_of_exact (f := id) (blockedWritesWith_exact leaf a g1 g2 M N V nR nC hV hR hC hleaf) m

/-- the float/double builds: `_transpose<T,M,N>` for ALL `M N` with the translated intrinsic kernel as leaf, in the
    block shapes in which the library dispatches to it — float under AVX/AVX2 (`V = 8`, 8x8 kernel) and AVX-512
    (`V = 16`, 16x16 kernel), double under AVX/AVX2 (`V = 4`: 4x4 kernel by default, the 8x8 kernel with both block
    macros 2) and AVX-512 (`V = 8`, 8x8 kernel) -/
theorem transpose_correct_intrinsic_leaf (z : α) (a m : Nat → α) (g1 g2 : Nat → Nat → Nat → α) (M N i j : Nat)
    (hi : i < M) (hj : j < N) :
    applyWrites (blockedWritesWith (C14K.k_float8_avx z) a g1 g2 M N 8 1 1) m (j * M + i) = a (i * N + j) ∧
    applyWrites (blockedWritesWith (C14K.k_float8_avx2 z) a g1 g2 M N 8 1 1) m (j * M + i) = a (i * N + j) ∧
    applyWrites (blockedWritesWith (C14K.k_float16_avx512 z) a g1 g2 M N 16 1 1) m (j * M + i) = a (i * N + j) ∧
    applyWrites (blockedWritesWith (C14K.k_double4_avx z) a g1 g2 M N 4 1 1) m (j * M + i) = a (i * N + j) ∧
    applyWrites (blockedWritesWith (C14K.k_double4_avx2 z) a g1 g2 M N 4 1 1) m (j * M + i) = a (i * N + j) ∧
    applyWrites (blockedWritesWith (C14K.k_double8_avx z) a g1 g2 M N 4 2 2) m (j * M + i) = a (i * N + j) ∧
    applyWrites (blockedWritesWith (C14K.k_double8_avx2 z) a g1 g2 M N 4 2 2) m (j * M + i) = a (i * N + j) ∧
    applyWrites (blockedWritesWith (C14K.k_double8_avx512 z) a g1 g2 M N 8 1 1) m (j * M + i) = a (i * N + j) := by
  have key : ∀ (K : (Nat → α) → List (Nat × α)) (n V b : Nat) (hV : 0 < V) (hb : 0 < b) (hn : V * b = n)
      (hK : ∀ pa, Intr.finalCells (K pa) (n * n) = Intr.transposed pa n),
      applyWrites (blockedWritesWith K a g1 g2 M N V b b) m (j * M + i) = a (i * N + j) := by
    intro K n V b hV hb hn hK
    have hl : LeafOK K (V * b) (V * b) := by rw [hn]; exact leafOK_of_kernel K n hK
    exact (transpose_correct_any_leaf K a m g1 g2 M N V b b hV hb hb hl).1 i j hi hj
  exact ⟨key _ 8 8 1 (by omega) (by omega) rfl (fun pa => (C14K.k_float8_avx_correct z pa).1),
         key _ 8 8 1 (by omega) (by omega) rfl (fun pa => (C14K.k_float8_avx2_correct z pa).1),
         key _ 16 16 1 (by omega) (by omega) rfl (fun pa => (C14K.k_float16_avx512_correct z pa).1),
         key _ 4 4 1 (by omega) (by omega) rfl (fun pa => (C14K.k_double4_avx_correct z pa).1),
         key _ 4 4 1 (by omega) (by omega) rfl (fun pa => (C14K.k_double4_avx2_correct z pa).1),
         key _ 8 4 2 (by omega) (by omega) rfl (fun pa => (C14K.k_double8_avx_correct z pa).1),
         key _ 8 4 2 (by omega) (by omega) rfl (fun pa => (C14K.k_double8_avx2_correct z pa).1),
         key _ 8 8 1 (by omega) (by omega) rfl (fun pa => (C14K.k_double8_avx512_correct z pa).1)⟩

/-! ## permute -/

theorem gather_pos {mi rev dims : List Nat} (h : IsInv mi rev dims.length) (hpos : ∀ d ∈ dims, 0 < d) :
    ∀ d ∈ gather mi dims, 0 < d := by
  intro d hd
  obtain ⟨k, hk, rfl⟩ := List.mem_map.1 hd
  obtain ⟨n, hn, rfl⟩ := List.getElem_of_mem hk
  have hn' : n < dims.length := by rw [← h.lmi]; exact hn
  have h1 := (h.left n hn').1
  rw [getD_eq_getElem' mi n hn] at h1
  rw [getD_eq_getElem' dims _ h1]
  exact hpos _ (List.getElem_mem _)

/-- **permute_correct** — for both standards (`s`), both loop skeletons (`v`), every rank ≥ 1, every permutation `p`
    of `0..r-1` and every shape with positive extents:
    the declared extents are `dims[p[n]]`; `out(i[p[0]],…,i[p[r-1]]) = A(i)` for every multi-index `i` of the shape;
    nothing at or beyond the size of the result is written; every cell of the result is written.
    (`a` is the argument's buffer for a tensor and `eval_s` for an unevaluated expression.) -/
theorem permute_correct (s : Std) (v : Variant) (p dims : List Nat) (hne : dims ≠ []) (hpos : ∀ d ∈ dims, 0 < d)
    (hp : p.Perm (List.range dims.length)) (a m : Nat → α) :
    newDims p dims = gather p dims ∧
    (∀ i, InBox dims i →
      applyWrites (movesWrites a (permuteMoves s v p dims)) m (flat (newDims p dims) (gather p i)) = a (flat dims i)) ∧
    (∀ pos, prod (newDims p dims) ≤ pos → applyWrites (movesWrites a (permuteMoves s v p dims)) m pos = m pos) ∧
    (∀ pos, pos < prod (newDims p dims) → ∃ i, InBox dims i ∧ flat (newDims p dims) (gather p i) = pos) := by
  have hd := newDims_eq hp dims
  have hr : 0 < dims.length := List.length_pos_iff.2 hne
  cases s with
  | cxx14 =>
    have := forward_correct v p (invOf p) dims hne (fun as => loopStates_mem v dims as hpos) (isInv_invOf hp) a m
    simp only [permuteMoves, newIdx_eq hp, hd]
    exact ⟨trivial, this⟩
  | cxx17 =>
    have hinv := isInv_mappedIndex hr hp
    have := reverse_correct v p (mappedIndex p) dims hne
      (fun as => loopStates_mem v (gather p dims) as (gather_pos hinv hpos)) hinv a m
    simp only [permuteMoves, hd]
    exact ⟨trivial, this⟩

/-- non-vacuity: `Index<1,2,0>` is a permutation of `0..2` and `(1,2,3)` a multi-index of the shape `2×3×4` -/
example : [1, 2, 0].Perm (List.range [2, 3, 4].length) ∧ InBox [2, 3, 4] [1, 2, 3] :=
  ⟨by decide, by simp [InBox]⟩

/-- the reverse map the C++17 branch computes (`permute_mapped_index_t`) and the index the legacy function
    computes (`meta_argsort`) are both the inverse permutation: `p[q[k]] = k` and `q[p[n]] = n` -/
theorem metafunctions_inverse (p : List Nat) (r : Nat) (hr : 0 < r) (hp : p.Perm (List.range r)) :
    IsInv p (mappedIndex p) r ∧ IsInv (legacyIdx p) p r ∧ mappedIndex p = legacyIdx p :=
  ⟨isInv_mappedIndex hr hp, isInv_legacyIdx hr hp,
   isInv_unique (isInv_mappedIndex hr hp) (isInv_legacyIdx hr hp).symm⟩

/-- **explicit-output einsum** (`einsum<…, OIndex<o...>>`, C++17): it ends with
    `permute<permute_mapped_index_t<Index<R...>, Index<O...>>>(res)` where `R` are the (distinct, arbitrary) labels of the
    contraction result and `O` the requested order.  For every such pair the computed pack is "position in `R` of the
    label `O[n]`" and is a permutation of `0..n-1`; by `permute_correct` the result therefore has, at place `n`, the axis of
    `res` that carries the label `O[n]` (extent and elements). -/
theorem einsum_output_index (R O : List Nat) (hn : R.Nodup) (hne : R ≠ []) (hO : O.Perm R) :
    mappedIndex2 R O = O.map (fun y => R.idxOf y) ∧ (mappedIndex2 R O).Perm (List.range R.length) :=
  ⟨mappedIndex2_spec hn hne hO, mappedIndex2_perm hn hne hO⟩

/-- non-vacuity: the labels `5,8,2` requested as `2,5,8` -/
example : [5, 8, 2].Nodup ∧ [2, 5, 8].Perm [5, 8, 2] ∧ mappedIndex2 [5, 8, 2] [2, 5, 8] = [2, 0, 1] := by decide

/-- **cxx14_eq_cxx17** — the final contents of the result are the same for both standards and both loop skeletons
    (which, moreover, visit their box in the same order: `odometer_eq_cartesian`) -/
theorem cxx14_eq_cxx17 (s s' : Std) (v v' : Variant) (p dims : List Nat) (hne : dims ≠ []) (hpos : ∀ d ∈ dims, 0 < d)
    (hp : p.Perm (List.range dims.length)) (a m : Nat → α) (pos : Nat) :
    applyWrites (movesWrites a (permuteMoves s v p dims)) m pos
      = applyWrites (movesWrites a (permuteMoves s' v' p dims)) m pos := by
  obtain ⟨_, h1, h2, h3⟩ := permute_correct s v p dims hne hpos hp a m
  obtain ⟨_, h1', h2', _⟩ := permute_correct s' v' p dims hne hpos hp a m
  by_cases h : pos < prod (newDims p dims)
  · obtain ⟨i, hi, rfl⟩ := h3 pos h
    rw [h1 i hi, h1' i hi]
  · rw [h2 pos (by omega), h2' pos (by omega)]

theorem loops_same_order (dims : List Nat) (hpos : ∀ d ∈ dims, 0 < d) :
    loopStates .odometer dims = loopStates .recursive dims := odometer_eq_cartesian dims hpos

/-- **permutation_consistent** — the legacy `permutation<Index<p...>>` permutes by the INVERSE `q = p⁻¹` of the
    pack (`p[q[k]] = k`), and it uses that same `q` for the declared extents (`dims[q[n]]`, since the repair of
    `permute_impl::resulting_tensor`) and for the elements: `out(i[q[0]],…,i[q[r-1]]) = A(i)`; every cell of the
    result is written and nothing else -/
theorem permutation_consistent (v : Variant) (p dims : List Nat) (hne : dims ≠ []) (hpos : ∀ d ∈ dims, 0 < d)
    (hp : p.Perm (List.range dims.length)) (a m : Nat → α) :
    IsInv (legacyIdx p) p dims.length ∧
    legacyDims p dims = gather (legacyIdx p) dims ∧
    (∀ i, InBox dims i →
      applyWrites (movesWrites a (legacyMoves v p dims)) m (flat (legacyDims p dims) (gather (legacyIdx p) i))
        = a (flat dims i)) ∧
    (∀ pos, prod (legacyDims p dims) ≤ pos → applyWrites (movesWrites a (legacyMoves v p dims)) m pos = m pos) ∧
    (∀ pos, pos < prod (legacyDims p dims) → ∃ i, InBox dims i ∧ flat (legacyDims p dims) (gather (legacyIdx p) i) = pos) := by
  have hr : 0 < dims.length := List.length_pos_iff.2 hne
  have hinv := isInv_legacyIdx hr hp
  have := forward_correct v (legacyIdx p) p dims hne (fun as => loopStates_mem v dims as hpos) hinv a m
  exact ⟨hinv, rfl, this⟩

/-- **permute_inverse_id** — permuting by `p` and then by its inverse `q` (any standards, any loop skeletons, the
    second leg reading the first result as a tensor or through `eval_s`) returns the original extents and, at
    every multi-index, the very element that was there: only moves happen, so the round trip is the identity
    bit for bit -/
theorem permute_inverse_id (s1 s2 : Std) (v1 v2 : Variant) (p q dims : List Nat) (hne : dims ≠ [])
    (hpos : ∀ d ∈ dims, 0 < d) (hp : p.Perm (List.range dims.length)) (hq : q.Perm (List.range dims.length))
    (hinv : IsInv p q dims.length) (a m1 m2 : Nat → α) :
    newDims q (newDims p dims) = dims ∧
    ∀ i, InBox dims i →
      applyWrites (movesWrites (applyWrites (movesWrites a (permuteMoves s1 v1 p dims)) m1)
        (permuteMoves s2 v2 q (newDims p dims))) m2 (flat dims i) = a (flat dims i) := by
  obtain ⟨hd, h1, _, _⟩ := permute_correct s1 v1 p dims hne hpos hp a m1
  have hl : (newDims p dims).length = dims.length := by rw [hd, gather_length, hinv.lmi]
  have hne' : newDims p dims ≠ [] := by
    intro h; rw [h] at hl; exact hne (List.length_eq_zero_iff.1 hl.symm)
  have hpos' : ∀ d ∈ newDims p dims, 0 < d := by rw [hd]; exact gather_pos hinv hpos
  obtain ⟨hd2, h2, _, _⟩ := permute_correct s2 v2 q (newDims p dims) hne' hpos' (hl ▸ hq)
    (applyWrites (movesWrites a (permuteMoves s1 v1 p dims)) m1) m2
  have hback : newDims q (newDims p dims) = dims := by
    rw [hd2, hd]; exact gather_gather hinv dims rfl
  refine ⟨hback, ?_⟩
  intro i hi
  have hgi : InBox (newDims p dims) (gather p i) := by rw [hd]; exact gather_inBox hinv rfl hi
  have := h2 (gather p i) hgi
  rw [hback, gather_gather hinv i hi.length_eq, h1 i hi] at this
  exact this

/-- non-vacuity of `permute_inverse_id`: `Index<1,2,0>` and `Index<2,0,1>` are mutually inverse permutations -/
example : [1, 2, 0].Perm (List.range 3) ∧ [2, 0, 1].Perm (List.range 3) ∧ IsInv [1, 2, 0] [2, 0, 1] 3 := by
  refine ⟨by decide, by decide, rfl, rfl, ?_, ?_⟩ <;> intro n hn <;>
    (have : n = 0 ∨ n = 1 ∨ n = 2 := by omega) <;> rcases this with rfl | rfl | rfl <;> simp

/-- the model on the harness' running example `permute<Index<1,2,0>>(Tensor<T,2,3,4>)`: same moves under both
    standards' index maps up to order, 24 of them -/
example : (permuteMoves .cxx14 .recursive [1, 2, 0] [2, 3, 4]).length = 24 ∧
    (permuteMoves .cxx17 .odometer [1, 2, 0] [2, 3, 4]).length = 24 := by decide

end Fastor.C14
