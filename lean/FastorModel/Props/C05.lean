import FastorModel.Proofs.ViewWrite
import FastorModel.Proofs.Odometer
import FastorModel.Model.ScalarWrite
import FastorModel.Proofs.ViewsRead
import Mathlib.Data.List.Nodup
import Mathlib.Data.List.Range
/-
  C05 — writing through a slice changes exactly the selected elements and nothing else.

  Model: `Model/ViewWrite.lean` (`segIters` = the innermost loop of the 1-D and 2-D view operators with its
  three routes, `linIters`, `rowIters`, `odoIters` = the n-D odometer, `execIter`/`exec` = memory semantics
  in which every iteration reads the current memory).  The right-hand side of C05 does not refer to the
  destination tensor, so it is a function `r` of the logical element index.

  * `write_correct_of_distinct`  any program of iterations with pairwise distinct stored positions:
                                 each lane `(p,j)` ends as `op(old p, r j)`; FRAME: every other position of
                                 memory (inside or outside the parent tensor) is unchanged.
  * `write_correct_1d`           1-D views (dynamic and fixed), all extents / first / step ≥ 1 / V = 2^e /
                                 both settings of FASTOR_USE_VECTORISED_EXPR_ASSIGN / five operators.
  * `write_correct_2d`           2-D views (dynamic and fixed), likewise, rows of the parent of any length N
                                 that contains the selected columns.
  * `vector_route_no_spill`      a vector store is issued only on a unit-step run and all its lanes are
                                 elements of that run (never past the end of the selected row).
  * `odo_vector_only_if`         the n-D views store vectors only when `_is_vectorisable`.
  * `write_correct_nd`           n-D views of EVERY rank (odometer; equal-order binders and scalar right-hand sides; vector and
                                 scalar branch): via `steps_box` (the odometer visits the box exactly once in row-major
                                 order, induction on the rank), `odo_lanes`, `pos_nodup` (mixed-radix injectivity).
  * `write_correct_nd_flat`      the binders of unequal order (rhs read through the running `counter`): `odo_flat_eq` shows the
                                 counter is the flat index of the visited multi-index, so it is the same program.
  * `norm_admissible`            every view class maps every admissible encoding (plain, `last`-relative, both ends from the end) of
                                 `0 ≤ f < l ≤ n, s ≥ 1` to the axis (f, s, ⌈(l-f)/s⌉) whose elements lie inside the parent axis
                                 (`seq::size` with C++ truncating `/ %`): the hypotheses of the write theorems hold for them.
  * `scalar_write_correct`       scalar element assignment `A(i,j,…) op= x` for every rank (C04's `scalarIndex` composed with one
                                 read-modify-write): the documented element gets op(old,x), frame everywhere else.
  * `writes_seq`                 sequences of writes compose: the memory after a history is the fold of the
                                 per-write specifications.
-/
namespace Fastor.C05
open Fastor Fastor.ViewWrite

variable {α : Type} [Add α] [Sub α] [Mul α] [Div α]

/-- the specification of one write: lanes `(p, j)` get `op(old p, r j)`, everything else is kept -/
def specWrite (op : WOp) (r : Nat → α) (lanes : List (Nat × Nat)) (m : Nat → α) : Nat → α :=
  fun p => match lanes.find? (fun l => l.1 = p) with
    | some l => op.ap (m p) (r l.2)
    | none => m p

/-- **write_correct, program level** (all view classes): distinct stored positions ⇒ value + frame -/
theorem write_correct_of_distinct (op : WOp) (r : Nat → α) (its : List Iter) (m : Nat → α)
    (hnd : ((lanesOf its).map (·.1)).Nodup) :
    (∀ l ∈ lanesOf its, exec op (fun _ => r) its m l.1 = op.ap (m l.1) (r l.2)) ∧
    (∀ p, p ∉ (lanesOf its).map (·.1) → exec op (fun _ => r) its m p = m p) :=
  exec_spec op r its m hnd

theorem exec_eq_spec (op : WOp) (r : Nat → α) (its : List Iter) (m : Nat → α)
    (hnd : ((lanesOf its).map (·.1)).Nodup) :
    exec op (fun _ => r) its m = specWrite op r (lanesOf its) m := by
  funext p
  have h := exec_spec op r its m hnd
  unfold specWrite
  cases hf : (lanesOf its).find? (fun l => l.1 = p) with
  | none =>
    refine h.2 p (fun hin => ?_)
    obtain ⟨l, hl, hlp⟩ := List.mem_map.1 hin
    simpa [hlp] using List.find?_eq_none.1 hf l hl
  | some l =>
    have hp : l.1 = p := by simpa using List.find?_some hf
    rw [← hp]
    exact h.1 l (List.mem_of_find?_eq_some hf)

/-- positions of a run are pairwise distinct when the step is positive -/
theorem run_nodup (pb f s n : Nat) (hs : 0 < s) : ((List.range n).map fun k => pb + (k * s + f)).Nodup :=
  List.Nodup.map_on (fun _ _ _ _ hxy => Nat.eq_of_mul_eq_mul_right hs (by omega)) List.nodup_range

/-- the lanes of the 1-D loops: element `k` of the slice, in order -/
theorem lin_lanes (e : Nat) (he : e ≤ 64) (vea : Bool) (a : Ax) (hn : a.ext < 2 ^ 64) :
    lanesOf (linIters (2 ^ e) vea a) = (List.range a.ext).map fun k => (k * a.step + a.first, k) := by
  unfold linIters
  rw [seg_lanes e he vea .rmw 0 0 a hn]
  simp only [Nat.zero_add]

/-- **write_correct, 1-D views** (`TensorViewExpr<Tensor<T,N>,1>`, `TensorFixedViewExpr1D`): after
    `A(first + k*step, k < n) op= rhs` element `k` of the slice holds `op(old, rhs k)` and every other
    position is unchanged — for every width `2^e`, both settings of the vectorised-assign macro. -/
theorem write_correct_1d (e : Nat) (he : e ≤ 64) (vea : Bool) (a : Ax) (hn : a.ext < 2 ^ 64) (hs : 0 < a.step)
    (op : WOp) (r : Nat → α) (m : Nat → α) :
    let m' := exec op (fun _ => r) (linIters (2 ^ e) vea a) m
    (∀ k < a.ext, m' (k * a.step + a.first) = op.ap (m (k * a.step + a.first)) (r k)) ∧
    (∀ p, (∀ k < a.ext, p ≠ k * a.step + a.first) → m' p = m p) := by
  have h := exec_indexed op r _ m (List.range a.ext) (fun k => k * a.step + a.first) (fun k => k)
    (lin_lanes e he vea a hn) (by simpa using run_nodup 0 a.first a.step a.ext hs)
  exact ⟨fun k hk => h.1 k (List.mem_range.2 hk), fun p hp => h.2 p (fun k hk => hp k (List.mem_range.1 hk))⟩

example : (⟨1, 2, 5⟩ : Ax).ext < 2 ^ 64 ∧ 0 < (⟨1, 2, 5⟩ : Ax).step := by decide

/-- the lanes of the 2-D loops: row `i`, column element `k`, in row-major order -/
theorem row_lanes (e : Nat) (he : e ≤ 64) (vea : Bool) (N : Nat) (a0 a1 : Ax) (hn : a1.ext < 2 ^ 64) :
    lanesOf (rowIters (2 ^ e) vea N a0 a1) =
      (List.range a0.ext).flatMap fun i => (List.range a1.ext).map fun k =>
        ((a0.step * i + a0.first) * N + (k * a1.step + a1.first), i * a1.ext + k) := by
  unfold rowIters lanesOf
  rw [List.flatMap_assoc]
  congr 1
  funext i
  exact seg_lanes e he vea .scatter _ _ a1 hn

/-- a row-major nest over `e0 × e1` indexed by the pairs `(i, k)` -/
theorem flatMap_range_product {β : Type} (e0 e1 : Nat) (F : Nat → Nat → β) :
    (List.range e0).flatMap (fun i => (List.range e1).map (F i)) =
      ((List.range e0).product (List.range e1)).map fun x => F x.1 x.2 := by
  rw [List.product, List.map_flatMap]
  simp only [List.map_map]
  rfl

theorem row_nodup (N : Nat) (a0 a1 : Ax) (hs0 : 0 < a0.step) (hs1 : 0 < a1.step)
    (hin : ∀ k < a1.ext, k * a1.step + a1.first < N) :
    (((List.range a0.ext).flatMap fun i => (List.range a1.ext).map fun k =>
        ((a0.step * i + a0.first) * N + (k * a1.step + a1.first), i * a1.ext + k)).map (·.1)).Nodup := by
  rw [List.map_flatMap, List.nodup_flatMap]
  refine ⟨fun i _ => ?_, ?_⟩
  · rw [List.map_map]
    exact run_nodup _ a1.first a1.step a1.ext hs1
  · -- rows `i < j` of the parent are `N` apart and the selected columns lie below `N`
    apply List.Pairwise.imp _ (List.pairwise_lt_range (n := a0.ext))
    intro i j hij
    simp only [Function.onFun, List.disjoint_left, List.map_map, List.mem_map, List.mem_range, Function.comp]
    rintro p ⟨k, hk, rfl⟩ ⟨k', hk', hpe⟩
    have h1 : a0.step * i + a0.first + 1 ≤ a0.step * j + a0.first := by
      have := Nat.mul_lt_mul_of_pos_left hij hs0; omega
    have h2 := Nat.mul_le_mul_right N h1
    rw [Nat.add_mul, Nat.one_mul] at h2
    have := hin k hk
    have := hin k' hk'
    omega

/-- **write_correct, 2-D views** (`TensorViewExpr<Tensor<T,M,N>,2>`, `TensorFixedViewExpr2D`): element
    `(i,k)` of the slice, stored at `(step0*i+first0)*N + k*step1+first1`, holds `op(old, rhs (i*ext1+k))`;
    every other position is unchanged. -/
theorem write_correct_2d (e : Nat) (he : e ≤ 64) (vea : Bool) (N : Nat) (a0 a1 : Ax) (hn : a1.ext < 2 ^ 64)
    (hs0 : 0 < a0.step) (hs1 : 0 < a1.step) (hin : ∀ k < a1.ext, k * a1.step + a1.first < N)
    (op : WOp) (r : Nat → α) (m : Nat → α) :
    let m' := exec op (fun _ => r) (rowIters (2 ^ e) vea N a0 a1) m
    let pos := fun i k => (a0.step * i + a0.first) * N + (k * a1.step + a1.first)
    (∀ i < a0.ext, ∀ k < a1.ext, m' (pos i k) = op.ap (m (pos i k)) (r (i * a1.ext + k))) ∧
    (∀ p, (∀ i < a0.ext, ∀ k < a1.ext, p ≠ pos i k) → m' p = m p) := by
  intro m' pos
  have hl := row_lanes e he vea N a0 a1 hn
  have hnd := row_nodup N a0 a1 hs0 hs1 hin
  rw [flatMap_range_product, List.map_map] at hnd
  rw [flatMap_range_product] at hl
  have h := exec_indexed op r _ m _ (fun x : Nat × Nat => pos x.1 x.2) (fun x => x.1 * a1.ext + x.2) hl hnd
  exact ⟨fun i hi k hk => h.1 (i, k) (List.pair_mem_product.2 ⟨List.mem_range.2 hi, List.mem_range.2 hk⟩),
    fun p hp => h.2 p (fun x hx => hp x.1 (List.mem_range.1 (List.pair_mem_product.1 hx).1) x.2
      (List.mem_range.1 (List.pair_mem_product.1 hx).2))⟩

example : ∀ k < (⟨1, 2, 3⟩ : Ax).ext, k * (⟨1, 2, 3⟩ : Ax).step + (⟨1, 2, 3⟩ : Ax).first < 7 := by decide

/-- **vector_route_no_spill**: in the 1-D / 2-D loops a vector store happens only on a unit-step run,
    and every lane it stores is an element `k < n` of that run — it never reaches past the end of the row -/
theorem vector_route_no_spill (e : Nat) (he : e ≤ 64) (vea : Bool) (strided : IKind) (hst : strided ≠ .vstore)
    (pb jb : Nat) (a : Ax) (hn : a.ext < 2 ^ 64) (it : Iter)
    (hit : it ∈ segIters (2 ^ e) vea strided pb jb a) (hk : it.kind = .vstore) :
    a.step = 1 ∧ ∀ l ∈ it.lanes, ∃ k < a.ext, l = (pb + (k * a.step + a.first), jb + k) := by
  refine ⟨?_, ?_⟩
  · by_contra hs
    unfold segIters at hit
    simp only [hs, if_false] at hit
    cases vea with
    | true =>
      simp only [if_true, List.mem_append, List.mem_map] at hit
      rcases hit with ⟨_, _, rfl⟩ | ⟨_, _, rfl⟩
      · exact hst hk
      · simp at hk
    | false =>
      simp only [Bool.false_eq_true, if_false, List.mem_map] at hit
      obtain ⟨_, _, rfl⟩ := hit
      simp at hk
  · intro l hl
    have hmem : l ∈ lanesOf (segIters (2 ^ e) vea strided pb jb a) :=
      List.mem_flatMap.2 ⟨it, hit, hl⟩
    rw [seg_lanes e he vea strided pb jb a hn] at hmem
    obtain ⟨k, hk', rfl⟩ := List.mem_map.1 hmem
    exact ⟨k, List.mem_range.1 hk', rfl⟩

/-- the n-D views issue vector stores only when `_is_vectorisable`: last extent a multiple of the width
    and unit last step -/
theorem odo_vector_only_if (V : Nat) (dims : List Nat) (axs : List Ax) (flatRhs : Bool) (cstep : Nat) (it : Iter)
    (hit : it ∈ odoIters V dims axs flatRhs cstep) (hk : it.kind = .vstore) :
    (lastAx axs).ext % V = 0 ∧ (lastAx axs).step = 1 := by
  by_contra hc
  unfold odoIters at hit
  simp only [hc, if_false, List.mem_map] at hit
  obtain ⟨_, _, rfl⟩ := hit
  simp at hk

/-! ### n-D views: every rank -/

/-- every selected coordinate of every axis lies inside the parent's axis, steps are positive -/
def InBounds : List Nat → List Ax → Prop
  | d :: ds, a :: axs => 0 < a.step ∧ (∀ k < a.ext, k * a.step + a.first < d) ∧ InBounds ds axs
  | [], [] => True
  | _, _ => False

theorem posOf_lt : ∀ (dims : List Nat) (axs : List Ax), InBounds dims axs →
    ∀ j ∈ box ((axs.map (·.ext)).map fun e => (e, 1)), posOf dims axs j < dims.prod := by
  intro dims
  induction dims with
  | nil =>
    intro axs hin j _
    cases axs with
    | nil => simp [posOf]
    | cons a r => simp [InBounds] at hin
  | cons d ds ih =>
    intro axs hin j hj
    cases axs with
    | nil => simp [InBounds] at hin
    | cons a rest =>
      obtain ⟨_, hb, hrest⟩ := hin
      rw [List.map_cons, box_ones_cons] at hj
      obtain ⟨x, hx, hj⟩ := List.mem_flatMap.1 hj
      obtain ⟨js, hjs, rfl⟩ := List.mem_map.1 hj
      have h1 := ih rest hrest js hjs
      have h2 := hb x (List.mem_range.1 hx)
      show (x * a.step + a.first) * ds.prod + posOf ds rest js < (d :: ds).prod
      rw [List.prod_cons]
      exact pos_lt h2 h1

/-- distinct multi-indices of the slice are stored at distinct positions (mixed-radix argument) -/
theorem pos_nodup : ∀ (dims : List Nat) (axs : List Ax), InBounds dims axs → ∀ pb : Nat,
    ((box ((axs.map (·.ext)).map fun e => (e, 1))).map fun j => pb + posOf dims axs j).Nodup := by
  intro dims
  induction dims with
  | nil =>
    intro axs hin pb
    cases axs with
    | nil => simp [box]
    | cons a r => simp [InBounds] at hin
  | cons d ds ih =>
    intro axs hin pb
    cases axs with
    | nil => simp [InBounds] at hin
    | cons a rest =>
      obtain ⟨hs, hb, hrest⟩ := hin
      rw [List.map_cons, box_ones_cons, List.map_flatMap, List.nodup_flatMap]
      refine ⟨?_, ?_⟩
      · intro x _
        rw [List.map_map]
        have := ih rest hrest (pb + (x * a.step + a.first) * ds.prod)
        simpa [Function.comp_def, posOf, Nat.add_assoc] using this
      · apply List.Pairwise.imp _ (List.pairwise_lt_range (n := a.ext))
        intro x y hxy
        simp only [Function.onFun, List.disjoint_left, List.map_map, List.mem_map, Function.comp]
        rintro p ⟨js, hjs, rfl⟩ ⟨js', hjs', hpe⟩
        have h1 := posOf_lt ds rest hrest js (by simpa [List.map_map] using hjs)
        have h2 := posOf_lt ds rest hrest js' (by simpa [List.map_map] using hjs')
        have hX : x * a.step + a.first + 1 ≤ y * a.step + a.first := by
          have := Nat.mul_lt_mul_of_pos_right hxy hs; omega
        have hXP := Nat.mul_le_mul_right ds.prod hX
        rw [Nat.add_mul, Nat.one_mul] at hXP
        simp only [posOf] at hpe
        omega

/-- **write_correct, n-D views, every rank** (`TensorViewExpr<…,DIMS>`, `TensorFixedViewExprnD`, binders of equal
    order and scalar right-hand sides): the odometer visits every multi-index `j` of the slice exactly once; element
    `j`, stored at `posOf dims axs j = Σ_k products_k (j_k step_k + first_k)`, ends as `op(old, rhs (flat j))`, and every
    other position of memory is unchanged — for every width, vector branch or scalar branch. -/
theorem write_correct_nd (V : Nat) (hV : 0 < V) (dims : List Nat) (axs : List Ax) (hne : axs ≠ [])
    (hin : InBounds dims axs) (hlen : dims.length = axs.length) (hext : ∀ a ∈ axs, 0 < a.ext)
    (cstep : Nat) (hcs : cstep = V ∨ cstep = 1) (op : WOp) (r : Nat → α) (m : Nat → α) :
    let exts := axs.map (·.ext)
    let m' := exec op (fun _ => r) (odoIters V dims axs false cstep) m
    (∀ j ∈ box (exts.map fun e => (e, 1)), m' (posOf dims axs j) = op.ap (m (posOf dims axs j)) (r (flat exts j))) ∧
    (∀ p, (∀ j ∈ box (exts.map fun e => (e, 1)), p ≠ posOf dims axs j) → m' p = m p) := by
  intro exts m'
  have hl := odo_lanes V hV dims axs hne hlen hext cstep hcs
  rw [incs_one] at hl
  exact exec_indexed op r _ m _ (posOf dims axs) (flat exts) hl (by simpa only [Nat.zero_add] using pos_nodup dims axs hin 0)

/-- **write_correct, n-D views, binders of unequal order** (the right-hand side is read through the running `counter`):
    the same statement, element `j` taking rhs element number `flat j` -/
theorem write_correct_nd_flat (V : Nat) (hV : 0 < V) (dims : List Nat) (axs : List Ax) (hne : axs ≠ [])
    (hin : InBounds dims axs) (hlen : dims.length = axs.length) (hext : ∀ a ∈ axs, 0 < a.ext)
    (op : WOp) (r : Nat → α) (m : Nat → α) :
    let exts := axs.map (·.ext)
    let m' := exec op (fun _ => r) (odoIters V dims axs true V) m
    (∀ j ∈ box (exts.map fun e => (e, 1)), m' (posOf dims axs j) = op.ap (m (posOf dims axs j)) (r (flat exts j))) ∧
    (∀ p, (∀ j ∈ box (exts.map fun e => (e, 1)), p ≠ posOf dims axs j) → m' p = m p) := by
  rw [odo_flat_eq V hV dims axs hne hext]
  exact write_correct_nd V hV dims axs hne hin hlen hext V (Or.inl rfl) op r m

/-- non-vacuity: a 3-D slice `A(seq(0,2), seq(1,4,2), seq(2,6))` of a 2x4x6 tensor -/
example : InBounds [2, 4, 6] [⟨0, 1, 2⟩, ⟨1, 2, 2⟩, ⟨2, 1, 4⟩] := by
  simp only [InBounds]; decide

/-! ### range normalisation: from the caller's triple to the normalised axis -/

/-- the admissible encodings of the slice `f, f+s, … < l` (`0 ≤ f < l ≤ n`, `s ≥ 1`) of an axis of `n` elements:
    plain, end counted from the end (`last`-relative), both ends counted from the end -/
inductive Enc (n f l s : Nat) : Seq → Prop
  | plain : Enc n f l s ⟨f, l, s⟩
  | lastRel : Enc n f l s ⟨f, (l : Int) - (n + 1), s⟩
  | bothRel : Enc n f l s ⟨(f : Int) - (n + 1), (l : Int) - (n + 1), s⟩

theorem size_nat (f l s : Nat) (hfl : f < l) (hs : 0 < s) :
    (Seq.size ⟨f, l, s⟩).toNat = (l - f + (s - 1)) / s := by
  -- `seq::size` is transcribed by the same expression in the read model
  have h : Seq.size ⟨f, l, s⟩ = _ := Views.size_nat f l s hs (Nat.le_of_lt hfl)
  rw [h, Int.toNat_natCast]
  congr 1
  omega

theorem normN_enc (n f l s : Nat) (hfl : f < l) (hln : l ≤ n) (q : Seq) (h : Enc n f l s q) :
    normN n q = ⟨f, l, s⟩ := by
  cases h <;> unfold normN <;> dsimp only
  · rw [if_neg (by omega), if_neg (by omega), if_neg (by omega)]
  · rw [if_pos (by omega)]
    congr 1
    omega
  · rw [if_neg (by omega), if_neg (by omega), if_pos (by omega)]
    congr 1 <;> omega

theorem norm1_enc (n f l s : Nat) (hfl : f < l) (hln : l ≤ n) (q : Seq) (h : Enc n f l s q) :
    norm1 n q = ⟨f, l, s⟩ := by
  cases h <;> unfold norm1 <;> dsimp only
  · rw [if_neg (by omega), if_neg (by omega)]
  · rw [if_neg (by omega), if_pos (by omega)]
    congr 1
    omega
  · rw [if_pos (by omega), if_pos (by omega)]
    congr 1 <;> omega

/-- **norm_admissible**: every view class maps every admissible encoding to the axis `first = f`, `step = s`,
    `ext = ⌈(l-f)/s⌉`, all of whose elements lie below `l ≤ n` -/
theorem norm_admissible (c : Cls) (n f l s : Nat) (hfl : f < l) (hln : l ≤ n) (hs : 0 < s) (q : Seq) (h : Enc n f l s q) :
    let a := Ax.ofSeq (c.norm n q)
    a.first = f ∧ a.step = s ∧ a.ext = (l - f + (s - 1)) / s ∧ 0 < a.ext ∧ ∀ k < a.ext, k * a.step + a.first < n := by
  intro a
  have hq : c.norm n q = ⟨f, l, s⟩ := by
    cases c
    case dyn1 => exact norm1_enc n f l s hfl hln q h
    all_goals exact normN_enc n f l s hfl hln q h
  have ha : a = ⟨f, s, (l - f + (s - 1)) / s⟩ := by
    show Ax.ofSeq (c.norm n q) = _
    rw [hq, Ax.ofSeq, size_nat f l s hfl hs]
    rfl
  rw [ha]
  refine ⟨rfl, rfl, rfl, Nat.div_pos (by omega) hs, fun k hk => ?_⟩
  -- `(k + 1) * s ≤ l - f + (s - 1)`: the last selected element is below `l`
  have h2 := (Nat.le_div_iff_mul_le hs).1 (Nat.succ_le_of_lt hk)
  rw [Nat.add_one_mul] at h2
  show k * s + f < n
  omega

example : Enc 9 2 9 3 ⟨2, -1, 3⟩ := Enc.lastRel
/-! ### scalar element assignment -/

/-- **scalar_write_correct** (last sentence of the property), all ranks (1–4 written out in IndexRetriever.h, >= 5 the
    loop), `Tensor` and `TensorMap`, with or without FASTOR_BOUNDS_CHECK: for indices in `[-d_k, d_k)` the statement
    `A(i,j,…) op= x` leaves `op(old, x)` in the element whose every negative index is counted from the end of ITS axis
    (row-major offset) and changes no other position of memory. -/
theorem scalar_write_correct (chk : Bool) (dims : List Nat) (args : List Int) (h : Views.ValidArgs dims args)
    (op : WOp) (x : α) (m : Nat → α) :
    scalarWrite chk dims args op x m =
      fun p => if p = Views.rowMajor dims (List.zipWith Views.wrapNat dims args) then op.ap (m p) x else m p := by
  unfold scalarWrite
  rw [Views.scalarIndex_valid chk dims args h]
  simp

/-- with the assertion compiled in, an out-of-range index changes nothing -/
theorem scalar_write_checked (dims : List Nat) (args : List Int)
    (h : Views.inBounds dims (List.zipWith Views.wrapIdx dims args) = false) (op : WOp) (x : α) (m : Nat → α) :
    scalarWrite true dims args op x m = m := by
  unfold scalarWrite
  rw [Views.scalarIndex_checked_oob dims args h]

example : Views.ValidArgs [2, 3, 4] [1, -3, -1] := by simp [Views.ValidArgs]
example : scalarWritePos true [2, 3, 4] [1, -3, -1] = some 15 := by decide

/-- **writes_seq**: a history of writes, each with pairwise distinct stored positions, leaves the memory
    obtained by folding the per-write specifications -/
theorem writes_seq (ws : List (WOp × (Nat → α) × List Iter)) (m : Nat → α)
    (hnd : ∀ w ∈ ws, ((lanesOf w.2.2).map (·.1)).Nodup) :
    ws.foldl (fun m w => exec w.1 (fun _ => w.2.1) w.2.2 m) m =
    ws.foldl (fun m w => specWrite w.1 w.2.1 (lanesOf w.2.2) m) m := by
  induction ws generalizing m with
  | nil => rfl
  | cons w ws ih =>
    simp only [List.foldl_cons]
    rw [exec_eq_spec w.1 w.2.1 w.2.2 m (hnd w (by simp))]
    exact ih _ (fun w' hw' => hnd w' (List.mem_cons_of_mem _ hw'))

/-- non-vacuity / sanity of the odometer on a concrete box: extents (2,3,4), vector stepping 2 on the last
    axis visits the multi-indices in row-major order with the running counter equal to the flat index -/
example : (odoLoop (incs [2, 3, 4] 2) 24 2 24 0 [0, 0, 0]).map (fun st => (flat [2, 3, 4] st.1, st.2)) =
    (List.range 12).map (fun t => (2 * t, 2 * t)) := by decide

/-- a concrete strided 1-D write over `Int`: `A(seq(1,6,2)) += rhs` with width 2, macro on -/
example : (List.range 7).map (exec .add (fun _ j => (10 : Int) * j) (linIters 2 true ⟨1, 2, 3⟩) (fun p => (p : Int))) =
    [0, 1, 2, 13, 4, 25, 6] := by decide

end Fastor.C05
