import FastorModel.Proofs.SimdLanes
import FastorModel.Generated.Simd_sse2
import Mathlib.Tactic.IntervalCases
/-! GENERATED by tools/gen_c08_ops.py — lane theorems of C08 for the member definitions of configuration `sse2`.
    The right-hand side depends only on (element type, ABI, operation name): `lane i (v OP w) = lane i v OP lane i w`,
    scalar operands on the side they were written; integer division, a scalar loop in the source, is `BitVec.sdiv` of the
    lanes.  Every lane theorem has the binders `(fo : FOps) … (i : Nat) (hi : i < lanes)`, needed or not; a store theorem is
    about every word of the memory.  A horizontal operation is the left fold over the lanes, for float / double under
    `hassoc`, `hcomm` (the code fixes one association tree, compared with the fold by `ac_rfl`; Props/C08.lean states the
    trees).  The complex classes carry `hfma` (a fused multiply-add is the product, then the sum) and `hneg` (adding the
    sign-flipped value is subtracting) for the members that call fused operations.  A proof unfolds the member and reads
    lane `i` of each intrinsic (`lane`, Proofs/SimdLanes.lean); the SSE2 64-bit `abs` opens `lane64` into its halves. -/
namespace Fastor.C08Ops.sse2
open Fastor.Simd Fastor.Gen
set_option linter.unusedVariables false

theorem float_sse_ctor (fo : FOps) (i : Nat) (hi : i < 4) :
    (sse2.float_sse.ctor) i = 0#32 := by
  simp only [sse2.float_sse.ctor, lane]
theorem float_sse_ctor_s (fo : FOps) (num : BitVec 32) (i : Nat) (hi : i < 4) :
    (sse2.float_sse.ctor_s num) i = num := by
  simp only [sse2.float_sse.ctor_s, lane]
theorem float_sse_ctor_r (fo : FOps) (regi : Reg) (i : Nat) (hi : i < 4) :
    (sse2.float_sse.ctor_r regi) i = regi i := by
  simp only [sse2.float_sse.ctor_r]
theorem float_sse_load_pb (fo : FOps) (self : Reg) (data : Reg) (Aligned : Bool) (i : Nat) (hi : i < 4) :
    (sse2.float_sse.load_pb self data Aligned) i = data i := by
  simp only [sse2.float_sse.load_pb, lane, Nat.zero_add]
theorem float_sse_store_pb (fo : FOps) (self : Reg) (data : Reg) (Aligned : Bool) (i : Nat) :
    (sse2.float_sse.store_pb self data Aligned) i = (if i < 4 then self i else data i) := by
  simp only [sse2.float_sse.store_pb, lane, Nat.zero_le, Nat.zero_add, Nat.sub_zero]
theorem float_sse_aligned_load_p (fo : FOps) (self : Reg) (data : Reg) (i : Nat) (hi : i < 4) :
    (sse2.float_sse.aligned_load_p self data) i = data i := by
  simp only [sse2.float_sse.aligned_load_p, lane, Nat.zero_add]
theorem float_sse_aligned_store_p (fo : FOps) (self : Reg) (data : Reg) (i : Nat) :
    (sse2.float_sse.aligned_store_p self data) i = (if i < 4 then self i else data i) := by
  simp only [sse2.float_sse.aligned_store_p, lane, Nat.zero_le, Nat.zero_add, Nat.sub_zero]
theorem float_sse_set_s (fo : FOps) (self : Reg) (num : BitVec 32) (i : Nat) (hi : i < 4) :
    (sse2.float_sse.set_s self num) i = num := by
  simp only [sse2.float_sse.set_s, lane]
theorem float_sse_set_ssss (fo : FOps) (self : Reg) (num0 : BitVec 32) (num1 : BitVec 32) (num2 : BitVec 32) (num3 : BitVec 32) (i : Nat) (hi : i < 4) :
    (sse2.float_sse.set_ssss self num0 num1 num2 num3) i = [num3, num2, num1, num0].getD i 0 := by
  simp only [sse2.float_sse.set_ssss, lane]
theorem float_sse_set_sequential_s (fo : FOps) (self : Reg) (num0 : BitVec 32) (i : Nat) (hi : i < 4) :
    (sse2.float_sse.set_sequential_s fo self num0) i = [num0, fo.add32 num0 1065353216#32, fo.add32 num0 1073741824#32, fo.add32 num0 1077936128#32].getD i 0 := by
  simp only [sse2.float_sse.set_sequential_s, lane]
theorem float_sse_iadd_s (fo : FOps) (self : Reg) (num : BitVec 32) (i : Nat) (hi : i < 4) :
    (sse2.float_sse.iadd_s fo self num) i = fo.add32 (self i) (num) := by
  simp only [sse2.float_sse.iadd_s, lane]
theorem float_sse_iadd_r (fo : FOps) (self : Reg) (regi : Reg) (i : Nat) (hi : i < 4) :
    (sse2.float_sse.iadd_r fo self regi) i = fo.add32 (self i) (regi i) := by
  simp only [sse2.float_sse.iadd_r, lane]
theorem float_sse_iadd_v (fo : FOps) (self : Reg) (a : Reg) (i : Nat) (hi : i < 4) :
    (sse2.float_sse.iadd_v fo self a) i = fo.add32 (self i) (a i) := by
  simp only [sse2.float_sse.iadd_v, lane]
theorem float_sse_isub_s (fo : FOps) (self : Reg) (num : BitVec 32) (i : Nat) (hi : i < 4) :
    (sse2.float_sse.isub_s fo self num) i = fo.sub32 (self i) (num) := by
  simp only [sse2.float_sse.isub_s, lane]
theorem float_sse_isub_r (fo : FOps) (self : Reg) (regi : Reg) (i : Nat) (hi : i < 4) :
    (sse2.float_sse.isub_r fo self regi) i = fo.sub32 (self i) (regi i) := by
  simp only [sse2.float_sse.isub_r, lane]
theorem float_sse_isub_v (fo : FOps) (self : Reg) (a : Reg) (i : Nat) (hi : i < 4) :
    (sse2.float_sse.isub_v fo self a) i = fo.sub32 (self i) (a i) := by
  simp only [sse2.float_sse.isub_v, lane]
theorem float_sse_imul_s (fo : FOps) (self : Reg) (num : BitVec 32) (i : Nat) (hi : i < 4) :
    (sse2.float_sse.imul_s fo self num) i = fo.mul32 (self i) (num) := by
  simp only [sse2.float_sse.imul_s, lane]
theorem float_sse_imul_r (fo : FOps) (self : Reg) (regi : Reg) (i : Nat) (hi : i < 4) :
    (sse2.float_sse.imul_r fo self regi) i = fo.mul32 (self i) (regi i) := by
  simp only [sse2.float_sse.imul_r, lane]
theorem float_sse_imul_v (fo : FOps) (self : Reg) (a : Reg) (i : Nat) (hi : i < 4) :
    (sse2.float_sse.imul_v fo self a) i = fo.mul32 (self i) (a i) := by
  simp only [sse2.float_sse.imul_v, lane]
theorem float_sse_idiv_s (fo : FOps) (self : Reg) (num : BitVec 32) (i : Nat) (hi : i < 4) :
    (sse2.float_sse.idiv_s fo self num) i = fo.div32 (self i) (num) := by
  simp only [sse2.float_sse.idiv_s, lane]
theorem float_sse_idiv_r (fo : FOps) (self : Reg) (regi : Reg) (i : Nat) (hi : i < 4) :
    (sse2.float_sse.idiv_r fo self regi) i = fo.div32 (self i) (regi i) := by
  simp only [sse2.float_sse.idiv_r, lane]
theorem float_sse_idiv_v (fo : FOps) (self : Reg) (a : Reg) (i : Nat) (hi : i < 4) :
    (sse2.float_sse.idiv_v fo self a) i = fo.div32 (self i) (a i) := by
  simp only [sse2.float_sse.idiv_v, lane]
theorem float_sse_sum (fo : FOps) (hassoc : ∀ x y z, fo.add32 (fo.add32 x y) z = fo.add32 x (fo.add32 y z)) (hcomm : ∀ x y, fo.add32 x y = fo.add32 y x) (self : Reg) :
    sse2.float_sse.sum fo self = [(self 1), (self 2), (self 3)].foldl fo.add32 ((self 0)) := by
  have : Std.Associative fo.add32 := ⟨hassoc⟩
  have : Std.Commutative fo.add32 := ⟨hcomm⟩
  simp only [sse2.float_sse.sum, sse2.mm_sum_ps, lane, List.foldl, simprocAttr]
  ac_rfl
theorem float_sse_product (fo : FOps) (hassoc : ∀ x y z, fo.mul32 (fo.mul32 x y) z = fo.mul32 x (fo.mul32 y z)) (hcomm : ∀ x y, fo.mul32 x y = fo.mul32 y x) (self : Reg) :
    sse2.float_sse.product fo self = [(self 1), (self 2), (self 3)].foldl fo.mul32 ((self 0)) := by
  have : Std.Associative fo.mul32 := ⟨hassoc⟩
  have : Std.Commutative fo.mul32 := ⟨hcomm⟩
  simp only [sse2.float_sse.product, sse2.mm_prod_ps, lane, List.foldl, simprocAttr]
  ac_rfl
theorem float_sse_reverse (fo : FOps) (self : Reg) (i : Nat) (hi : i < 4) :
    (sse2.float_sse.reverse self) i = self (3 - i) := by
  simp only [sse2.float_sse.reverse, sse2.mm_reverse_ps, lane]
  interval_cases i <;> rfl
theorem float_sse_minimum (fo : FOps) (hassoc : ∀ x y z, fo.min32 (fo.min32 x y) z = fo.min32 x (fo.min32 y z)) (hcomm : ∀ x y, fo.min32 x y = fo.min32 y x) (self : Reg) :
    sse2.float_sse.minimum fo self = [(self 1), (self 2), (self 3)].foldl fo.min32 ((self 0)) := by
  have : Std.Associative fo.min32 := ⟨hassoc⟩
  have : Std.Commutative fo.min32 := ⟨hcomm⟩
  simp only [sse2.float_sse.minimum, sse2.mm_hmin_ps, sse2.mm_reverse_ps, lane, List.foldl, simprocAttr]
  ac_rfl
theorem float_sse_maximum (fo : FOps) (hassoc : ∀ x y z, fo.max32 (fo.max32 x y) z = fo.max32 x (fo.max32 y z)) (hcomm : ∀ x y, fo.max32 x y = fo.max32 y x) (self : Reg) :
    sse2.float_sse.maximum fo self = [(self 1), (self 2), (self 3)].foldl fo.max32 ((self 0)) := by
  have : Std.Associative fo.max32 := ⟨hassoc⟩
  have : Std.Commutative fo.max32 := ⟨hcomm⟩
  simp only [sse2.float_sse.maximum, sse2.mm_hmax_ps, sse2.mm_reverse_ps, lane, List.foldl, simprocAttr]
  ac_rfl
theorem float_sse_dot (fo : FOps) (hassoc : ∀ x y z, fo.add32 (fo.add32 x y) z = fo.add32 x (fo.add32 y z)) (hcomm : ∀ x y, fo.add32 x y = fo.add32 y x) (self : Reg) (other : Reg) :
    sse2.float_sse.dot fo self other = [fo.mul32 (self 1) (other 1), fo.mul32 (self 2) (other 2), fo.mul32 (self 3) (other 3)].foldl fo.add32 (fo.mul32 (self 0) (other 0)) := by
  have : Std.Associative fo.add32 := ⟨hassoc⟩
  have : Std.Commutative fo.add32 := ⟨hcomm⟩
  simp only [sse2.float_sse.dot, sse2.mm_sum_ps, lane, List.foldl, simprocAttr]
  ac_rfl
theorem float_sse_add_vv (fo : FOps) (a : Reg) (b : Reg) (i : Nat) (hi : i < 4) :
    (sse2.float_sse.add_vv fo a b) i = fo.add32 (a i) (b i) := by
  simp only [sse2.float_sse.add_vv, lane]
theorem float_sse_add_vs (fo : FOps) (a : Reg) (b : BitVec 32) (i : Nat) (hi : i < 4) :
    (sse2.float_sse.add_vs fo a b) i = fo.add32 (a i) (b) := by
  simp only [sse2.float_sse.add_vs, lane]
theorem float_sse_add_sv (fo : FOps) (a : BitVec 32) (b : Reg) (i : Nat) (hi : i < 4) :
    (sse2.float_sse.add_sv fo a b) i = fo.add32 (a) (b i) := by
  simp only [sse2.float_sse.add_sv, lane]
theorem float_sse_pos (fo : FOps) (b : Reg) (i : Nat) (hi : i < 4) :
    (sse2.float_sse.pos b) i = b i := by
  simp only [sse2.float_sse.pos]
theorem float_sse_sub_vv (fo : FOps) (a : Reg) (b : Reg) (i : Nat) (hi : i < 4) :
    (sse2.float_sse.sub_vv fo a b) i = fo.sub32 (a i) (b i) := by
  simp only [sse2.float_sse.sub_vv, lane]
theorem float_sse_sub_vs (fo : FOps) (a : Reg) (b : BitVec 32) (i : Nat) (hi : i < 4) :
    (sse2.float_sse.sub_vs fo a b) i = fo.sub32 (a i) (b) := by
  simp only [sse2.float_sse.sub_vs, lane]
theorem float_sse_sub_sv (fo : FOps) (a : BitVec 32) (b : Reg) (i : Nat) (hi : i < 4) :
    (sse2.float_sse.sub_sv fo a b) i = fo.sub32 (a) (b i) := by
  simp only [sse2.float_sse.sub_sv, lane]
theorem float_sse_neg (fo : FOps) (b : Reg) (i : Nat) (hi : i < 4) :
    (sse2.float_sse.neg b) i = fneg32 (b i) := by
  simp only [sse2.float_sse.neg, sse2.mm_neg_ps, lane, fneg32, sign32]
theorem float_sse_mul_vv (fo : FOps) (a : Reg) (b : Reg) (i : Nat) (hi : i < 4) :
    (sse2.float_sse.mul_vv fo a b) i = fo.mul32 (a i) (b i) := by
  simp only [sse2.float_sse.mul_vv, lane]
theorem float_sse_mul_vs (fo : FOps) (a : Reg) (b : BitVec 32) (i : Nat) (hi : i < 4) :
    (sse2.float_sse.mul_vs fo a b) i = fo.mul32 (a i) (b) := by
  simp only [sse2.float_sse.mul_vs, lane]
theorem float_sse_mul_sv (fo : FOps) (a : BitVec 32) (b : Reg) (i : Nat) (hi : i < 4) :
    (sse2.float_sse.mul_sv fo a b) i = fo.mul32 (a) (b i) := by
  simp only [sse2.float_sse.mul_sv, lane]
theorem float_sse_div_vv (fo : FOps) (a : Reg) (b : Reg) (i : Nat) (hi : i < 4) :
    (sse2.float_sse.div_vv fo a b) i = fo.div32 (a i) (b i) := by
  simp only [sse2.float_sse.div_vv, lane]
theorem float_sse_div_vs (fo : FOps) (a : Reg) (b : BitVec 32) (i : Nat) (hi : i < 4) :
    (sse2.float_sse.div_vs fo a b) i = fo.div32 (a i) (b) := by
  simp only [sse2.float_sse.div_vs, lane]
theorem float_sse_div_sv (fo : FOps) (a : BitVec 32) (b : Reg) (i : Nat) (hi : i < 4) :
    (sse2.float_sse.div_sv fo a b) i = fo.div32 (a) (b i) := by
  simp only [sse2.float_sse.div_sv, lane]
theorem float_sse_sqrt (fo : FOps) (a : Reg) (i : Nat) (hi : i < 4) :
    (sse2.float_sse.sqrt fo a) i = fo.sqrt32 (a i) := by
  simp only [sse2.float_sse.sqrt, lane]
theorem float_sse_abs (fo : FOps) (a : Reg) (i : Nat) (hi : i < 4) :
    (sse2.float_sse.abs a) i = fabs32 (a i) := by
  simp only [sse2.float_sse.abs, sse2.mm_abs_ps, lane, fabs32, sign32]
theorem double_sse_ctor (fo : FOps) (i : Nat) (hi : i < 2) :
    lane64 (sse2.double_sse.ctor) i = 0#64 := by
  simp only [sse2.double_sse.ctor, lane]
theorem double_sse_ctor_s (fo : FOps) (num : BitVec 64) (i : Nat) (hi : i < 2) :
    lane64 (sse2.double_sse.ctor_s num) i = num := by
  simp only [sse2.double_sse.ctor_s, lane]
theorem double_sse_ctor_r (fo : FOps) (regi : Reg) (i : Nat) (hi : i < 2) :
    lane64 (sse2.double_sse.ctor_r regi) i = lane64 regi i := by
  simp only [sse2.double_sse.ctor_r]
theorem double_sse_load_pb (fo : FOps) (self : Reg) (data : Reg) (Aligned : Bool) (i : Nat) (hi : i < 2) :
    lane64 (sse2.double_sse.load_pb self data Aligned) i = lane64 data i := by
  simp only [sse2.double_sse.load_pb, lane, Nat.zero_mod, Nat.zero_div, Nat.zero_add]
theorem double_sse_store_pb (fo : FOps) (self : Reg) (data : Reg) (Aligned : Bool) (i : Nat) :
    (sse2.double_sse.store_pb self data Aligned) i = (if i < 4 then self i else data i) := by
  simp only [sse2.double_sse.store_pb, lane, Nat.zero_le, Nat.zero_add, Nat.sub_zero]
theorem double_sse_aligned_load_p (fo : FOps) (self : Reg) (data : Reg) (i : Nat) (hi : i < 2) :
    lane64 (sse2.double_sse.aligned_load_p self data) i = lane64 data i := by
  simp only [sse2.double_sse.aligned_load_p, lane, Nat.zero_mod, Nat.zero_div, Nat.zero_add]
theorem double_sse_aligned_store_p (fo : FOps) (self : Reg) (data : Reg) (i : Nat) :
    (sse2.double_sse.aligned_store_p self data) i = (if i < 4 then self i else data i) := by
  simp only [sse2.double_sse.aligned_store_p, lane, Nat.zero_le, Nat.zero_add, Nat.sub_zero]
theorem double_sse_set_s (fo : FOps) (self : Reg) (num : BitVec 64) (i : Nat) (hi : i < 2) :
    lane64 (sse2.double_sse.set_s self num) i = num := by
  simp only [sse2.double_sse.set_s, lane]
theorem double_sse_set_ss (fo : FOps) (self : Reg) (num0 : BitVec 64) (num1 : BitVec 64) (i : Nat) (hi : i < 2) :
    lane64 (sse2.double_sse.set_ss self num0 num1) i = [num1, num0].getD i 0 := by
  simp only [sse2.double_sse.set_ss, lane]
theorem double_sse_set_sequential_s (fo : FOps) (self : Reg) (num0 : BitVec 64) (i : Nat) (hi : i < 2) :
    lane64 (sse2.double_sse.set_sequential_s fo self num0) i = [num0, fo.add64 num0 4607182418800017408#64].getD i 0 := by
  simp only [sse2.double_sse.set_sequential_s, lane]
theorem double_sse_iadd_s (fo : FOps) (self : Reg) (num : BitVec 64) (i : Nat) (hi : i < 2) :
    lane64 (sse2.double_sse.iadd_s fo self num) i = fo.add64 (lane64 self i) (num) := by
  simp only [sse2.double_sse.iadd_s, lane]
theorem double_sse_iadd_r (fo : FOps) (self : Reg) (regi : Reg) (i : Nat) (hi : i < 2) :
    lane64 (sse2.double_sse.iadd_r fo self regi) i = fo.add64 (lane64 self i) (lane64 regi i) := by
  simp only [sse2.double_sse.iadd_r, lane]
theorem double_sse_iadd_v (fo : FOps) (self : Reg) (a : Reg) (i : Nat) (hi : i < 2) :
    lane64 (sse2.double_sse.iadd_v fo self a) i = fo.add64 (lane64 self i) (lane64 a i) := by
  simp only [sse2.double_sse.iadd_v, lane]
theorem double_sse_isub_s (fo : FOps) (self : Reg) (num : BitVec 64) (i : Nat) (hi : i < 2) :
    lane64 (sse2.double_sse.isub_s fo self num) i = fo.sub64 (lane64 self i) (num) := by
  simp only [sse2.double_sse.isub_s, lane]
theorem double_sse_isub_r (fo : FOps) (self : Reg) (regi : Reg) (i : Nat) (hi : i < 2) :
    lane64 (sse2.double_sse.isub_r fo self regi) i = fo.sub64 (lane64 self i) (lane64 regi i) := by
  simp only [sse2.double_sse.isub_r, lane]
theorem double_sse_isub_v (fo : FOps) (self : Reg) (a : Reg) (i : Nat) (hi : i < 2) :
    lane64 (sse2.double_sse.isub_v fo self a) i = fo.sub64 (lane64 self i) (lane64 a i) := by
  simp only [sse2.double_sse.isub_v, lane]
theorem double_sse_imul_s (fo : FOps) (self : Reg) (num : BitVec 64) (i : Nat) (hi : i < 2) :
    lane64 (sse2.double_sse.imul_s fo self num) i = fo.mul64 (lane64 self i) (num) := by
  simp only [sse2.double_sse.imul_s, lane]
theorem double_sse_imul_r (fo : FOps) (self : Reg) (regi : Reg) (i : Nat) (hi : i < 2) :
    lane64 (sse2.double_sse.imul_r fo self regi) i = fo.mul64 (lane64 self i) (lane64 regi i) := by
  simp only [sse2.double_sse.imul_r, lane]
theorem double_sse_imul_v (fo : FOps) (self : Reg) (a : Reg) (i : Nat) (hi : i < 2) :
    lane64 (sse2.double_sse.imul_v fo self a) i = fo.mul64 (lane64 self i) (lane64 a i) := by
  simp only [sse2.double_sse.imul_v, lane]
theorem double_sse_idiv_s (fo : FOps) (self : Reg) (num : BitVec 64) (i : Nat) (hi : i < 2) :
    lane64 (sse2.double_sse.idiv_s fo self num) i = fo.div64 (lane64 self i) (num) := by
  simp only [sse2.double_sse.idiv_s, lane]
theorem double_sse_idiv_r (fo : FOps) (self : Reg) (regi : Reg) (i : Nat) (hi : i < 2) :
    lane64 (sse2.double_sse.idiv_r fo self regi) i = fo.div64 (lane64 self i) (lane64 regi i) := by
  simp only [sse2.double_sse.idiv_r, lane]
theorem double_sse_idiv_v (fo : FOps) (self : Reg) (a : Reg) (i : Nat) (hi : i < 2) :
    lane64 (sse2.double_sse.idiv_v fo self a) i = fo.div64 (lane64 self i) (lane64 a i) := by
  simp only [sse2.double_sse.idiv_v, lane]
theorem double_sse_sum (fo : FOps) (hassoc : ∀ x y z, fo.add64 (fo.add64 x y) z = fo.add64 x (fo.add64 y z)) (hcomm : ∀ x y, fo.add64 x y = fo.add64 y x) (self : Reg) :
    sse2.double_sse.sum fo self = [(lane64 self 1)].foldl fo.add64 ((lane64 self 0)) := by
  simp only [sse2.double_sse.sum, sse2.mm_sum_pd, lane, List.foldl, ↓reduceIte]
theorem double_sse_product (fo : FOps) (hassoc : ∀ x y z, fo.mul64 (fo.mul64 x y) z = fo.mul64 x (fo.mul64 y z)) (hcomm : ∀ x y, fo.mul64 x y = fo.mul64 y x) (self : Reg) :
    sse2.double_sse.product fo self = [(lane64 self 1)].foldl fo.mul64 ((lane64 self 0)) := by
  simp only [sse2.double_sse.product, sse2.mm_prod_pd, lane, List.foldl, ↓reduceIte]
theorem double_sse_reverse (fo : FOps) (self : Reg) (i : Nat) (hi : i < 2) :
    lane64 (sse2.double_sse.reverse self) i = lane64 self (1 - i) := by
  simp only [sse2.double_sse.reverse, sse2.mm_reverse_pd, lane]
  interval_cases i <;> rfl
theorem double_sse_minimum (fo : FOps) (hassoc : ∀ x y z, fo.min64 (fo.min64 x y) z = fo.min64 x (fo.min64 y z)) (hcomm : ∀ x y, fo.min64 x y = fo.min64 y x) (self : Reg) :
    sse2.double_sse.minimum fo self = [(lane64 self 1)].foldl fo.min64 ((lane64 self 0)) := by
  simp only [sse2.double_sse.minimum, sse2.mm_hmin_pd, sse2.mm_reverse_pd, lane, List.foldl, simprocAttr]
theorem double_sse_maximum (fo : FOps) (hassoc : ∀ x y z, fo.max64 (fo.max64 x y) z = fo.max64 x (fo.max64 y z)) (hcomm : ∀ x y, fo.max64 x y = fo.max64 y x) (self : Reg) :
    sse2.double_sse.maximum fo self = [(lane64 self 1)].foldl fo.max64 ((lane64 self 0)) := by
  simp only [sse2.double_sse.maximum, sse2.mm_hmax_pd, sse2.mm_reverse_pd, lane, List.foldl, simprocAttr]
theorem double_sse_dot (fo : FOps) (hassoc : ∀ x y z, fo.add64 (fo.add64 x y) z = fo.add64 x (fo.add64 y z)) (hcomm : ∀ x y, fo.add64 x y = fo.add64 y x) (self : Reg) (other : Reg) :
    sse2.double_sse.dot fo self other = [fo.mul64 (lane64 self 1) (lane64 other 1)].foldl fo.add64 (fo.mul64 (lane64 self 0) (lane64 other 0)) := by
  simp only [sse2.double_sse.dot, sse2.mm_sum_pd, lane, List.foldl, ↓reduceIte]
theorem double_sse_add_vv (fo : FOps) (a : Reg) (b : Reg) (i : Nat) (hi : i < 2) :
    lane64 (sse2.double_sse.add_vv fo a b) i = fo.add64 (lane64 a i) (lane64 b i) := by
  simp only [sse2.double_sse.add_vv, lane]
theorem double_sse_add_vs (fo : FOps) (a : Reg) (b : BitVec 64) (i : Nat) (hi : i < 2) :
    lane64 (sse2.double_sse.add_vs fo a b) i = fo.add64 (lane64 a i) (b) := by
  simp only [sse2.double_sse.add_vs, lane]
theorem double_sse_add_sv (fo : FOps) (a : BitVec 64) (b : Reg) (i : Nat) (hi : i < 2) :
    lane64 (sse2.double_sse.add_sv fo a b) i = fo.add64 (a) (lane64 b i) := by
  simp only [sse2.double_sse.add_sv, lane]
theorem double_sse_pos (fo : FOps) (b : Reg) (i : Nat) (hi : i < 2) :
    lane64 (sse2.double_sse.pos b) i = lane64 b i := by
  simp only [sse2.double_sse.pos]
theorem double_sse_sub_vv (fo : FOps) (a : Reg) (b : Reg) (i : Nat) (hi : i < 2) :
    lane64 (sse2.double_sse.sub_vv fo a b) i = fo.sub64 (lane64 a i) (lane64 b i) := by
  simp only [sse2.double_sse.sub_vv, lane]
theorem double_sse_sub_vs (fo : FOps) (a : Reg) (b : BitVec 64) (i : Nat) (hi : i < 2) :
    lane64 (sse2.double_sse.sub_vs fo a b) i = fo.sub64 (lane64 a i) (b) := by
  simp only [sse2.double_sse.sub_vs, lane]
theorem double_sse_sub_sv (fo : FOps) (a : BitVec 64) (b : Reg) (i : Nat) (hi : i < 2) :
    lane64 (sse2.double_sse.sub_sv fo a b) i = fo.sub64 (a) (lane64 b i) := by
  simp only [sse2.double_sse.sub_sv, lane]
theorem double_sse_neg (fo : FOps) (b : Reg) (i : Nat) (hi : i < 2) :
    lane64 (sse2.double_sse.neg b) i = fneg64 (lane64 b i) := by
  simp only [sse2.double_sse.neg, sse2.mm_neg_pd, lane, fneg64, sign64]
theorem double_sse_mul_vv (fo : FOps) (a : Reg) (b : Reg) (i : Nat) (hi : i < 2) :
    lane64 (sse2.double_sse.mul_vv fo a b) i = fo.mul64 (lane64 a i) (lane64 b i) := by
  simp only [sse2.double_sse.mul_vv, lane]
theorem double_sse_mul_vs (fo : FOps) (a : Reg) (b : BitVec 64) (i : Nat) (hi : i < 2) :
    lane64 (sse2.double_sse.mul_vs fo a b) i = fo.mul64 (lane64 a i) (b) := by
  simp only [sse2.double_sse.mul_vs, lane]
theorem double_sse_mul_sv (fo : FOps) (a : BitVec 64) (b : Reg) (i : Nat) (hi : i < 2) :
    lane64 (sse2.double_sse.mul_sv fo a b) i = fo.mul64 (a) (lane64 b i) := by
  simp only [sse2.double_sse.mul_sv, lane]
theorem double_sse_div_vv (fo : FOps) (a : Reg) (b : Reg) (i : Nat) (hi : i < 2) :
    lane64 (sse2.double_sse.div_vv fo a b) i = fo.div64 (lane64 a i) (lane64 b i) := by
  simp only [sse2.double_sse.div_vv, lane]
theorem double_sse_div_vs (fo : FOps) (a : Reg) (b : BitVec 64) (i : Nat) (hi : i < 2) :
    lane64 (sse2.double_sse.div_vs fo a b) i = fo.div64 (lane64 a i) (b) := by
  simp only [sse2.double_sse.div_vs, lane]
theorem double_sse_div_sv (fo : FOps) (a : BitVec 64) (b : Reg) (i : Nat) (hi : i < 2) :
    lane64 (sse2.double_sse.div_sv fo a b) i = fo.div64 (a) (lane64 b i) := by
  simp only [sse2.double_sse.div_sv, lane]
theorem double_sse_sqrt (fo : FOps) (a : Reg) (i : Nat) (hi : i < 2) :
    lane64 (sse2.double_sse.sqrt fo a) i = fo.sqrt64 (lane64 a i) := by
  simp only [sse2.double_sse.sqrt, lane]
theorem double_sse_abs (fo : FOps) (a : Reg) (i : Nat) (hi : i < 2) :
    lane64 (sse2.double_sse.abs a) i = fabs64 (lane64 a i) := by
  simp only [sse2.double_sse.abs, sse2.mm_abs_pd, lane, fabs64, sign64]
theorem int32_sse_ctor (fo : FOps) (i : Nat) (hi : i < 4) :
    (sse2.int32_sse.ctor) i = 0#32 := by
  simp only [sse2.int32_sse.ctor, lane]
theorem int32_sse_ctor_s (fo : FOps) (num : BitVec 32) (i : Nat) (hi : i < 4) :
    (sse2.int32_sse.ctor_s num) i = num := by
  simp only [sse2.int32_sse.ctor_s, lane]
theorem int32_sse_ctor_r (fo : FOps) (regi : Reg) (i : Nat) (hi : i < 4) :
    (sse2.int32_sse.ctor_r regi) i = regi i := by
  simp only [sse2.int32_sse.ctor_r]
theorem int32_sse_load_pb (fo : FOps) (self : Reg) (data : Reg) (Aligned : Bool) (i : Nat) (hi : i < 4) :
    (sse2.int32_sse.load_pb self data Aligned) i = data i := by
  simp only [sse2.int32_sse.load_pb, lane, Nat.zero_add]
theorem int32_sse_store_pb (fo : FOps) (self : Reg) (data : Reg) (Aligned : Bool) (i : Nat) :
    (sse2.int32_sse.store_pb self data Aligned) i = (if i < 4 then self i else data i) := by
  simp only [sse2.int32_sse.store_pb, lane, Nat.zero_le, Nat.zero_add, Nat.sub_zero]
theorem int32_sse_aligned_load_p (fo : FOps) (self : Reg) (data : Reg) (i : Nat) (hi : i < 4) :
    (sse2.int32_sse.aligned_load_p self data) i = data i := by
  simp only [sse2.int32_sse.aligned_load_p, lane, Nat.zero_add]
theorem int32_sse_aligned_store_p (fo : FOps) (self : Reg) (data : Reg) (i : Nat) :
    (sse2.int32_sse.aligned_store_p self data) i = (if i < 4 then self i else data i) := by
  simp only [sse2.int32_sse.aligned_store_p, lane, Nat.zero_le, Nat.zero_add, Nat.sub_zero]
theorem int32_sse_set_s (fo : FOps) (self : Reg) (num : BitVec 32) (i : Nat) (hi : i < 4) :
    (sse2.int32_sse.set_s self num) i = num := by
  simp only [sse2.int32_sse.set_s, lane]
theorem int32_sse_set_ssss (fo : FOps) (self : Reg) (num0 : BitVec 32) (num1 : BitVec 32) (num2 : BitVec 32) (num3 : BitVec 32) (i : Nat) (hi : i < 4) :
    (sse2.int32_sse.set_ssss self num0 num1 num2 num3) i = [num3, num2, num1, num0].getD i 0 := by
  simp only [sse2.int32_sse.set_ssss, lane]
theorem int32_sse_set_sequential_s (fo : FOps) (self : Reg) (num0 : BitVec 32) (i : Nat) (hi : i < 4) :
    (sse2.int32_sse.set_sequential_s self num0) i = num0 + BitVec.ofNat 32 i := by
  simp only [sse2.int32_sse.set_sequential_s, lane]
  interval_cases i
  · exact (BitVec.add_zero num0).symm
  all_goals rfl
theorem int32_sse_iadd_s (fo : FOps) (self : Reg) (num : BitVec 32) (i : Nat) (hi : i < 4) :
    (sse2.int32_sse.iadd_s self num) i = (self i) + (num) := by
  simp only [sse2.int32_sse.iadd_s, lane]
theorem int32_sse_iadd_r (fo : FOps) (self : Reg) (regi : Reg) (i : Nat) (hi : i < 4) :
    (sse2.int32_sse.iadd_r self regi) i = (self i) + (regi i) := by
  simp only [sse2.int32_sse.iadd_r, lane]
theorem int32_sse_iadd_v (fo : FOps) (self : Reg) (a : Reg) (i : Nat) (hi : i < 4) :
    (sse2.int32_sse.iadd_v self a) i = (self i) + (a i) := by
  simp only [sse2.int32_sse.iadd_v, lane]
theorem int32_sse_isub_s (fo : FOps) (self : Reg) (num : BitVec 32) (i : Nat) (hi : i < 4) :
    (sse2.int32_sse.isub_s self num) i = (self i) - (num) := by
  simp only [sse2.int32_sse.isub_s, lane]
theorem int32_sse_isub_r (fo : FOps) (self : Reg) (regi : Reg) (i : Nat) (hi : i < 4) :
    (sse2.int32_sse.isub_r self regi) i = (self i) - (regi i) := by
  simp only [sse2.int32_sse.isub_r, lane]
theorem int32_sse_isub_v (fo : FOps) (self : Reg) (a : Reg) (i : Nat) (hi : i < 4) :
    (sse2.int32_sse.isub_v self a) i = (self i) - (a i) := by
  simp only [sse2.int32_sse.isub_v, lane]
theorem int32_sse_imul_s (fo : FOps) (self : Reg) (num : BitVec 32) (i : Nat) (hi : i < 4) :
    (sse2.int32_sse.imul_s self num) i = (self i) * (num) := by
  interval_cases i <;> simp only [sse2.int32_sse.imul_s, sse2.mm_mul_epi32x, lane, simprocAttr]
theorem int32_sse_imul_r (fo : FOps) (self : Reg) (regi : Reg) (i : Nat) (hi : i < 4) :
    (sse2.int32_sse.imul_r self regi) i = (self i) * (regi i) := by
  interval_cases i <;> simp only [sse2.int32_sse.imul_r, sse2.mm_mul_epi32x, lane, simprocAttr]
theorem int32_sse_imul_v (fo : FOps) (self : Reg) (a : Reg) (i : Nat) (hi : i < 4) :
    (sse2.int32_sse.imul_v self a) i = (self i) * (a i) := by
  interval_cases i <;> simp only [sse2.int32_sse.imul_v, sse2.mm_mul_epi32x, lane, simprocAttr]
theorem int32_sse_idiv_s (fo : FOps) (self : Reg) (num : BitVec 32) (i : Nat) (hi : i < 4) :
    (sse2.int32_sse.idiv_s self num) i = BitVec.sdiv (self i) (num) := by
  simp only [sse2.int32_sse.idiv_s, loadw_apply, Nat.zero_add]
  refine (scalar_loop32 (fun _ x => BitVec.sdiv x num) 4 (storew junk 0 4 self) i).trans ?_
  simp only [hi, if_true, lane, Nat.zero_le, Nat.zero_add, Nat.sub_zero]
theorem int32_sse_idiv_r (fo : FOps) (self : Reg) (regi : Reg) (i : Nat) (hi : i < 4) :
    (sse2.int32_sse.idiv_r self regi) i = BitVec.sdiv (self i) (regi i) := by
  simp only [sse2.int32_sse.idiv_r, loadw_apply, Nat.zero_add]
  refine (scalar_loop32 (fun k x => BitVec.sdiv x ((storew junk 0 4 regi) k)) 4 (storew junk 0 4 self) i).trans ?_
  simp only [hi, if_true, lane, Nat.zero_le, Nat.zero_add, Nat.sub_zero]
theorem int32_sse_idiv_v (fo : FOps) (self : Reg) (a : Reg) (i : Nat) (hi : i < 4) :
    (sse2.int32_sse.idiv_v self a) i = BitVec.sdiv (self i) (a i) := by
  simp only [sse2.int32_sse.idiv_v, loadw_apply, Nat.zero_add]
  refine (scalar_loop32 (fun k x => BitVec.sdiv x ((storew junk 0 4 a) k)) 4 (storew junk 0 4 self) i).trans ?_
  simp only [hi, if_true, lane, Nat.zero_le, Nat.zero_add, Nat.sub_zero]
theorem int32_sse_minimum (self : Reg) :
    sse2.int32_sse.minimum self = [self 0, self 1, self 2, self 3].foldl (fun q x => smin32 x q) (self 0) := by
  simp (config := {zeta := false}) only [sse2.int32_sse.minimum, ite_slt_eq_smin32]
  simp only [List.foldl]
theorem int32_sse_maximum (self : Reg) :
    sse2.int32_sse.maximum self = [self 0, self 1, self 2, self 3].foldl (fun q x => smax32 x q) (self 0) := by
  simp (config := {zeta := false}) only [sse2.int32_sse.maximum, ite_slt_eq_smax32]
  simp only [List.foldl]
theorem int32_sse_reverse (fo : FOps) (self : Reg) (i : Nat) (hi : i < 4) :
    (sse2.int32_sse.reverse self) i = self (3 - i) := by
  simp only [sse2.int32_sse.reverse, sse2.mm_reverse_epi32, lane]
  interval_cases i <;> rfl
theorem int32_sse_sum (self : Reg) :
    sse2.int32_sse.sum self = [self 0, self 1, self 2, self 3].foldl (· + ·) 0 := by
  simp only [sse2.int32_sse.sum, sse2.mm_sum_epi32, lane, List.foldl, simprocAttr]
  ac_rfl
theorem int32_sse_product (self : Reg) :
    sse2.int32_sse.product self = [self 0, self 1, self 2, self 3].foldl (· * ·) 1 := by
  simp only [sse2.int32_sse.product, sse2.mm_prod_epi32, lane, List.foldl, simprocAttr]
  ac_rfl
theorem int32_sse_dot (self : Reg) (other : Reg) :
    sse2.int32_sse.dot self other = [self 0 * other 0, self 1 * other 1, self 2 * other 2, self 3 * other 3].foldl (· + ·) 0 := by
  simp only [sse2.int32_sse.dot, sse2.mm_mul_epi32x, sse2.mm_sum_epi32, lane, List.foldl, simprocAttr]
  ac_rfl
theorem int32_sse_add_vv (fo : FOps) (a : Reg) (b : Reg) (i : Nat) (hi : i < 4) :
    (sse2.int32_sse.add_vv a b) i = (a i) + (b i) := by
  simp only [sse2.int32_sse.add_vv, lane]
theorem int32_sse_add_vs (fo : FOps) (a : Reg) (b : BitVec 32) (i : Nat) (hi : i < 4) :
    (sse2.int32_sse.add_vs a b) i = (a i) + (b) := by
  simp only [sse2.int32_sse.add_vs, lane]
theorem int32_sse_add_sv (fo : FOps) (a : BitVec 32) (b : Reg) (i : Nat) (hi : i < 4) :
    (sse2.int32_sse.add_sv a b) i = (a) + (b i) := by
  simp only [sse2.int32_sse.add_sv, lane]
theorem int32_sse_pos (fo : FOps) (b : Reg) (i : Nat) (hi : i < 4) :
    (sse2.int32_sse.pos b) i = b i := by
  simp only [sse2.int32_sse.pos]
theorem int32_sse_sub_vv (fo : FOps) (a : Reg) (b : Reg) (i : Nat) (hi : i < 4) :
    (sse2.int32_sse.sub_vv a b) i = (a i) - (b i) := by
  simp only [sse2.int32_sse.sub_vv, lane]
theorem int32_sse_sub_vs (fo : FOps) (a : Reg) (b : BitVec 32) (i : Nat) (hi : i < 4) :
    (sse2.int32_sse.sub_vs a b) i = (a i) - (b) := by
  simp only [sse2.int32_sse.sub_vs, lane]
theorem int32_sse_sub_sv (fo : FOps) (a : BitVec 32) (b : Reg) (i : Nat) (hi : i < 4) :
    (sse2.int32_sse.sub_sv a b) i = (a) - (b i) := by
  simp only [sse2.int32_sse.sub_sv, lane]
theorem int32_sse_neg (fo : FOps) (b : Reg) (i : Nat) (hi : i < 4) :
    (sse2.int32_sse.neg b) i = - (b i) := by
  simp only [sse2.int32_sse.neg, lane, BitVec.zero_sub]
theorem int32_sse_mul_vv (fo : FOps) (a : Reg) (b : Reg) (i : Nat) (hi : i < 4) :
    (sse2.int32_sse.mul_vv a b) i = (a i) * (b i) := by
  interval_cases i <;> simp only [sse2.int32_sse.mul_vv, sse2.mm_mul_epi32x, lane, simprocAttr]
theorem int32_sse_mul_vs (fo : FOps) (a : Reg) (b : BitVec 32) (i : Nat) (hi : i < 4) :
    (sse2.int32_sse.mul_vs a b) i = (a i) * (b) := by
  interval_cases i <;> simp only [sse2.int32_sse.mul_vs, sse2.mm_mul_epi32x, lane, simprocAttr]
theorem int32_sse_mul_sv (fo : FOps) (a : BitVec 32) (b : Reg) (i : Nat) (hi : i < 4) :
    (sse2.int32_sse.mul_sv a b) i = (a) * (b i) := by
  interval_cases i <;> simp only [sse2.int32_sse.mul_sv, sse2.mm_mul_epi32x, lane, simprocAttr]
theorem int32_sse_div_vv (fo : FOps) (a : Reg) (b : Reg) (i : Nat) (hi : i < 4) :
    (sse2.int32_sse.div_vv a b) i = BitVec.sdiv (a i) (b i) := by
  simp only [sse2.int32_sse.div_vv, loadw_apply, Nat.zero_add]
  refine (scalar_loop32 (fun k _ => BitVec.sdiv ((storew junk 0 4 a) k) ((storew junk 0 4 b) k)) 4 (storew junk 0 4 setzero) i).trans ?_
  simp only [hi, if_true, lane, Nat.zero_le, Nat.zero_add, Nat.sub_zero]
theorem int32_sse_div_vs (fo : FOps) (a : Reg) (b : BitVec 32) (i : Nat) (hi : i < 4) :
    (sse2.int32_sse.div_vs a b) i = BitVec.sdiv (a i) (b) := by
  simp only [sse2.int32_sse.div_vs, loadw_apply, Nat.zero_add]
  refine (scalar_loop32 (fun k _ => BitVec.sdiv ((storew junk 0 4 a) k) b) 4 (storew junk 0 4 setzero) i).trans ?_
  simp only [hi, if_true, lane, Nat.zero_le, Nat.zero_add, Nat.sub_zero]
theorem int32_sse_div_sv (fo : FOps) (a : BitVec 32) (b : Reg) (i : Nat) (hi : i < 4) :
    (sse2.int32_sse.div_sv a b) i = BitVec.sdiv (a) (b i) := by
  simp only [sse2.int32_sse.div_sv, loadw_apply, Nat.zero_add]
  refine (scalar_loop32 (fun k _ => BitVec.sdiv a ((storew junk 0 4 b) k)) 4 (storew junk 0 4 setzero) i).trans ?_
  simp only [hi, if_true, lane, Nat.zero_le, Nat.zero_add, Nat.sub_zero]
theorem int32_sse_abs (fo : FOps) (a : Reg) (i : Nat) (hi : i < 4) :
    (sse2.int32_sse.abs a) i = abs32 (a i) := by
  simp only [sse2.int32_sse.abs, lane, Nat.min_self, abs32_by_sign]
theorem int64_sse_ctor (fo : FOps) (i : Nat) (hi : i < 2) :
    lane64 (sse2.int64_sse.ctor) i = 0#64 := by
  simp only [sse2.int64_sse.ctor, lane]
theorem int64_sse_ctor_r (fo : FOps) (regi : Reg) (i : Nat) (hi : i < 2) :
    lane64 (sse2.int64_sse.ctor_r regi) i = lane64 regi i := by
  simp only [sse2.int64_sse.ctor_r]
theorem int64_sse_load_pb (fo : FOps) (self : Reg) (data : Reg) (Aligned : Bool) (i : Nat) (hi : i < 2) :
    lane64 (sse2.int64_sse.load_pb self data Aligned) i = lane64 data i := by
  simp only [sse2.int64_sse.load_pb, lane, Nat.zero_mod, Nat.zero_div, Nat.zero_add]
theorem int64_sse_store_pb (fo : FOps) (self : Reg) (data : Reg) (Aligned : Bool) (i : Nat) :
    (sse2.int64_sse.store_pb self data Aligned) i = (if i < 4 then self i else data i) := by
  simp only [sse2.int64_sse.store_pb, lane, Nat.zero_le, Nat.zero_add, Nat.sub_zero]
theorem int64_sse_aligned_load_p (fo : FOps) (self : Reg) (data : Reg) (i : Nat) (hi : i < 2) :
    lane64 (sse2.int64_sse.aligned_load_p self data) i = lane64 data i := by
  simp only [sse2.int64_sse.aligned_load_p, lane, Nat.zero_mod, Nat.zero_div, Nat.zero_add]
theorem int64_sse_aligned_store_p (fo : FOps) (self : Reg) (data : Reg) (i : Nat) :
    (sse2.int64_sse.aligned_store_p self data) i = (if i < 4 then self i else data i) := by
  simp only [sse2.int64_sse.aligned_store_p, lane, Nat.zero_le, Nat.zero_add, Nat.sub_zero]
theorem int64_sse_set_s (fo : FOps) (self : Reg) (num : BitVec 64) (i : Nat) (hi : i < 2) :
    lane64 (sse2.int64_sse.set_s self num) i = num := by
  simp only [sse2.int64_sse.set_s, lane]
  interval_cases i <;> rfl
theorem int64_sse_set_ss (fo : FOps) (self : Reg) (num0 : BitVec 64) (num1 : BitVec 64) (i : Nat) (hi : i < 2) :
    lane64 (sse2.int64_sse.set_ss self num0 num1) i = [num1, num0].getD i 0 := by
  simp only [sse2.int64_sse.set_ss, lane]
theorem int64_sse_set_sequential_s (fo : FOps) (self : Reg) (num0 : BitVec 64) (i : Nat) (hi : i < 2) :
    lane64 (sse2.int64_sse.set_sequential_s self num0) i = num0 + BitVec.ofNat 64 i := by
  simp only [sse2.int64_sse.set_sequential_s, lane]
  interval_cases i
  · exact (BitVec.add_zero num0).symm
  all_goals rfl
theorem int64_sse_iadd_s (fo : FOps) (self : Reg) (num : BitVec 64) (i : Nat) (hi : i < 2) :
    lane64 (sse2.int64_sse.iadd_s self num) i = (lane64 self i) + (num) := by
  simp only [sse2.int64_sse.iadd_s, lane]
  interval_cases i <;> rfl
theorem int64_sse_iadd_r (fo : FOps) (self : Reg) (regi : Reg) (i : Nat) (hi : i < 2) :
    lane64 (sse2.int64_sse.iadd_r self regi) i = (lane64 self i) + (lane64 regi i) := by
  simp only [sse2.int64_sse.iadd_r, lane]
theorem int64_sse_iadd_v (fo : FOps) (self : Reg) (a : Reg) (i : Nat) (hi : i < 2) :
    lane64 (sse2.int64_sse.iadd_v self a) i = (lane64 self i) + (lane64 a i) := by
  simp only [sse2.int64_sse.iadd_v, lane]
theorem int64_sse_isub_s (fo : FOps) (self : Reg) (num : BitVec 64) (i : Nat) (hi : i < 2) :
    lane64 (sse2.int64_sse.isub_s self num) i = (lane64 self i) - (num) := by
  simp only [sse2.int64_sse.isub_s, lane]
  interval_cases i <;> rfl
theorem int64_sse_isub_r (fo : FOps) (self : Reg) (regi : Reg) (i : Nat) (hi : i < 2) :
    lane64 (sse2.int64_sse.isub_r self regi) i = (lane64 self i) - (lane64 regi i) := by
  simp only [sse2.int64_sse.isub_r, lane]
theorem int64_sse_isub_v (fo : FOps) (self : Reg) (a : Reg) (i : Nat) (hi : i < 2) :
    lane64 (sse2.int64_sse.isub_v self a) i = (lane64 self i) - (lane64 a i) := by
  simp only [sse2.int64_sse.isub_v, lane]
theorem int64_sse_imul_s (fo : FOps) (self : Reg) (num : BitVec 64) (i : Nat) (hi : i < 2) :
    lane64 (sse2.int64_sse.imul_s self num) i = (lane64 self i) * (num) := by
  simp only [sse2.int64_sse.imul_s, sse2.mm_mul_epi64]
  interval_cases i <;> simp only [lane, simprocAttr]
theorem int64_sse_imul_r (fo : FOps) (self : Reg) (regi : Reg) (i : Nat) (hi : i < 2) :
    lane64 (sse2.int64_sse.imul_r self regi) i = (lane64 self i) * (lane64 regi i) := by
  simp only [sse2.int64_sse.imul_r, sse2.mm_mul_epi64]
  interval_cases i <;> simp only [lane, simprocAttr]
theorem int64_sse_imul_v (fo : FOps) (self : Reg) (a : Reg) (i : Nat) (hi : i < 2) :
    lane64 (sse2.int64_sse.imul_v self a) i = (lane64 self i) * (lane64 a i) := by
  simp only [sse2.int64_sse.imul_v, sse2.mm_mul_epi64]
  interval_cases i <;> simp only [lane, simprocAttr]
theorem int64_sse_idiv_s (fo : FOps) (self : Reg) (num : BitVec 64) (i : Nat) (hi : i < 2) :
    lane64 (sse2.int64_sse.idiv_s self num) i = BitVec.sdiv (lane64 self i) (num) := by
  simp only [sse2.int64_sse.idiv_s, lane64_loadw, Nat.zero_mod, Nat.zero_div, Nat.zero_add]
  refine (scalar_loop64 (fun _ x => BitVec.sdiv x num) 2 (storew junk 0 4 self) i).trans ?_
  simp only [hi, if_true, lane, Nat.zero_mod, Nat.zero_div, Nat.reduceMod, Nat.reduceDiv, Nat.zero_le, Nat.zero_add, Nat.sub_zero]
theorem int64_sse_idiv_r (fo : FOps) (self : Reg) (regi : Reg) (i : Nat) (hi : i < 2) :
    lane64 (sse2.int64_sse.idiv_r self regi) i = BitVec.sdiv (lane64 self i) (lane64 regi i) := by
  simp only [sse2.int64_sse.idiv_r, lane64_loadw, Nat.zero_mod, Nat.zero_div, Nat.zero_add]
  refine (scalar_loop64 (fun k x => BitVec.sdiv x (lane64 (storew junk 0 4 regi) k)) 2 (storew junk 0 4 self) i).trans ?_
  simp only [hi, if_true, lane, Nat.zero_mod, Nat.zero_div, Nat.reduceMod, Nat.reduceDiv, Nat.zero_le, Nat.zero_add, Nat.sub_zero]
theorem int64_sse_idiv_v (fo : FOps) (self : Reg) (a : Reg) (i : Nat) (hi : i < 2) :
    lane64 (sse2.int64_sse.idiv_v self a) i = BitVec.sdiv (lane64 self i) (lane64 a i) := by
  simp only [sse2.int64_sse.idiv_v, lane64_loadw, Nat.zero_mod, Nat.zero_div, Nat.zero_add]
  refine (scalar_loop64 (fun k x => BitVec.sdiv x (lane64 (storew junk 0 4 a) k)) 2 (storew junk 0 4 self) i).trans ?_
  simp only [hi, if_true, lane, Nat.zero_mod, Nat.zero_div, Nat.reduceMod, Nat.reduceDiv, Nat.zero_le, Nat.zero_add, Nat.sub_zero]
theorem int64_sse_reverse (fo : FOps) (self : Reg) (i : Nat) (hi : i < 2) :
    lane64 (sse2.int64_sse.reverse self) i = lane64 self (1 - i) := by
  simp only [sse2.int64_sse.reverse, sse2.mm_reverse_epi64, sse2.mm_reverse_pd, lane]
  interval_cases i <;> rfl
theorem int64_sse_add_vv (fo : FOps) (a : Reg) (b : Reg) (i : Nat) (hi : i < 2) :
    lane64 (sse2.int64_sse.add_vv a b) i = (lane64 a i) + (lane64 b i) := by
  simp only [sse2.int64_sse.add_vv, lane]
theorem int64_sse_add_vs (fo : FOps) (a : Reg) (b : BitVec 64) (i : Nat) (hi : i < 2) :
    lane64 (sse2.int64_sse.add_vs a b) i = (lane64 a i) + (b) := by
  simp only [sse2.int64_sse.add_vs, lane]
  interval_cases i <;> rfl
theorem int64_sse_add_sv (fo : FOps) (a : BitVec 64) (b : Reg) (i : Nat) (hi : i < 2) :
    lane64 (sse2.int64_sse.add_sv a b) i = (a) + (lane64 b i) := by
  simp only [sse2.int64_sse.add_sv, lane]
  interval_cases i <;> rfl
theorem int64_sse_pos (fo : FOps) (b : Reg) (i : Nat) (hi : i < 2) :
    lane64 (sse2.int64_sse.pos b) i = lane64 b i := by
  simp only [sse2.int64_sse.pos]
theorem int64_sse_sub_vv (fo : FOps) (a : Reg) (b : Reg) (i : Nat) (hi : i < 2) :
    lane64 (sse2.int64_sse.sub_vv a b) i = (lane64 a i) - (lane64 b i) := by
  simp only [sse2.int64_sse.sub_vv, lane]
theorem int64_sse_sub_vs (fo : FOps) (a : Reg) (b : BitVec 64) (i : Nat) (hi : i < 2) :
    lane64 (sse2.int64_sse.sub_vs a b) i = (lane64 a i) - (b) := by
  simp only [sse2.int64_sse.sub_vs, lane]
  interval_cases i <;> rfl
theorem int64_sse_sub_sv (fo : FOps) (a : BitVec 64) (b : Reg) (i : Nat) (hi : i < 2) :
    lane64 (sse2.int64_sse.sub_sv a b) i = (a) - (lane64 b i) := by
  simp only [sse2.int64_sse.sub_sv, lane]
  interval_cases i <;> rfl
theorem int64_sse_neg (fo : FOps) (b : Reg) (i : Nat) (hi : i < 2) :
    lane64 (sse2.int64_sse.neg b) i = - (lane64 b i) := by
  simp only [sse2.int64_sse.neg, lane, BitVec.zero_sub]
theorem int64_sse_mul_vv (fo : FOps) (a : Reg) (b : Reg) (i : Nat) (hi : i < 2) :
    lane64 (sse2.int64_sse.mul_vv a b) i = (lane64 a i) * (lane64 b i) := by
  simp only [sse2.int64_sse.mul_vv, sse2.mm_mul_epi64]
  interval_cases i <;> simp only [lane, simprocAttr]
theorem int64_sse_mul_vs (fo : FOps) (a : Reg) (b : BitVec 64) (i : Nat) (hi : i < 2) :
    lane64 (sse2.int64_sse.mul_vs a b) i = (lane64 a i) * (b) := by
  simp only [sse2.int64_sse.mul_vs, sse2.mm_mul_epi64]
  interval_cases i <;> simp only [lane, simprocAttr]
theorem int64_sse_mul_sv (fo : FOps) (a : BitVec 64) (b : Reg) (i : Nat) (hi : i < 2) :
    lane64 (sse2.int64_sse.mul_sv a b) i = (a) * (lane64 b i) := by
  simp only [sse2.int64_sse.mul_sv, sse2.mm_mul_epi64]
  interval_cases i <;> simp only [lane, simprocAttr]
theorem int64_sse_div_vv (fo : FOps) (a : Reg) (b : Reg) (i : Nat) (hi : i < 2) :
    lane64 (sse2.int64_sse.div_vv a b) i = BitVec.sdiv (lane64 a i) (lane64 b i) := by
  simp only [sse2.int64_sse.div_vv, lane64_loadw, Nat.zero_mod, Nat.zero_div, Nat.zero_add]
  refine (scalar_loop64 (fun k _ => BitVec.sdiv (lane64 (storew junk 0 4 a) k) (lane64 (storew junk 0 4 b) k)) 2 (storew junk 0 4 setzero) i).trans ?_
  simp only [hi, if_true, lane, Nat.zero_mod, Nat.zero_div, Nat.reduceMod, Nat.reduceDiv, Nat.zero_le, Nat.zero_add, Nat.sub_zero]
theorem int64_sse_div_vs (fo : FOps) (a : Reg) (b : BitVec 64) (i : Nat) (hi : i < 2) :
    lane64 (sse2.int64_sse.div_vs a b) i = BitVec.sdiv (lane64 a i) (b) := by
  simp only [sse2.int64_sse.div_vs, lane64_loadw, Nat.zero_mod, Nat.zero_div, Nat.zero_add]
  refine (scalar_loop64 (fun k _ => BitVec.sdiv (lane64 (storew junk 0 4 a) k) b) 2 (storew junk 0 4 setzero) i).trans ?_
  simp only [hi, if_true, lane, Nat.zero_mod, Nat.zero_div, Nat.reduceMod, Nat.reduceDiv, Nat.zero_le, Nat.zero_add, Nat.sub_zero]
theorem int64_sse_div_sv (fo : FOps) (a : BitVec 64) (b : Reg) (i : Nat) (hi : i < 2) :
    lane64 (sse2.int64_sse.div_sv a b) i = BitVec.sdiv (a) (lane64 b i) := by
  simp only [sse2.int64_sse.div_sv, lane64_loadw, Nat.zero_mod, Nat.zero_div, Nat.zero_add]
  refine (scalar_loop64 (fun k _ => BitVec.sdiv a (lane64 (storew junk 0 4 b) k)) 2 (storew junk 0 4 setzero) i).trans ?_
  simp only [hi, if_true, lane, Nat.zero_mod, Nat.zero_div, Nat.reduceMod, Nat.reduceDiv, Nat.zero_le, Nat.zero_add, Nat.sub_zero]
theorem int64_sse_abs (fo : FOps) (a : Reg) (i : Nat) (hi : i < 2) :
    lane64 (sse2.int64_sse.abs a) i = abs64 (lane64 a i) := by
  simp only [sse2.int64_sse.abs, lane]
  interval_cases i <;> simp only [lane64, lane, Nat.reduceMul, Nat.reduceAdd, Nat.reduceDiv, Nat.reduceMod, Nat.reduceShiftRight, Nat.min_self, abs64_by_sign_xor]
theorem cfloat_sse_ctor (fo : FOps) (hfma : ∀ x y z, fo.fma32 x y z = fo.add32 (fo.mul32 x y) z) (hneg : ∀ x y, fo.add32 x (y ^^^ sign32) = fo.sub32 x y) (i : Nat) (hi : i < 4) :
    ((sse2.cfloat_sse.ctor).1) i = 0#32 ∧
    ((sse2.cfloat_sse.ctor).2) i = 0#32 := by
  simp only [sse2.cfloat_sse.ctor, lane]
theorem cfloat_sse_ctor_rr (fo : FOps) (reg0 : Reg) (reg1 : Reg) (hfma : ∀ x y z, fo.fma32 x y z = fo.add32 (fo.mul32 x y) z) (hneg : ∀ x y, fo.add32 x (y ^^^ sign32) = fo.sub32 x y) (i : Nat) (hi : i < 4) :
    ((sse2.cfloat_sse.ctor_rr reg0 reg1).1) i = reg0 i ∧
    ((sse2.cfloat_sse.ctor_rr reg0 reg1).2) i = reg1 i := by
  simp only [sse2.cfloat_sse.ctor_rr, lane]
theorem cfloat_sse_real (fo : FOps) (self : Reg × Reg) (hfma : ∀ x y z, fo.fma32 x y z = fo.add32 (fo.mul32 x y) z) (hneg : ∀ x y, fo.add32 x (y ^^^ sign32) = fo.sub32 x y) (i : Nat) (hi : i < 4) :
    (sse2.cfloat_sse.real self) i = self.1 i := by
  simp only [sse2.cfloat_sse.real, lane]
theorem cfloat_sse_imag (fo : FOps) (self : Reg × Reg) (hfma : ∀ x y z, fo.fma32 x y z = fo.add32 (fo.mul32 x y) z) (hneg : ∀ x y, fo.add32 x (y ^^^ sign32) = fo.sub32 x y) (i : Nat) (hi : i < 4) :
    (sse2.cfloat_sse.imag self) i = self.2 i := by
  simp only [sse2.cfloat_sse.imag, lane]
theorem cfloat_sse_iadd_v (fo : FOps) (self : Reg × Reg) (a : Reg × Reg) (hfma : ∀ x y z, fo.fma32 x y z = fo.add32 (fo.mul32 x y) z) (hneg : ∀ x y, fo.add32 x (y ^^^ sign32) = fo.sub32 x y) (i : Nat) (hi : i < 4) :
    ((sse2.cfloat_sse.iadd_v fo self a).1) i = fo.add32 (self.1 i) (a.1 i) ∧
    ((sse2.cfloat_sse.iadd_v fo self a).2) i = fo.add32 (self.2 i) (a.2 i) := by
  simp only [sse2.cfloat_sse.iadd_v, lane]
theorem cfloat_sse_isub_v (fo : FOps) (self : Reg × Reg) (a : Reg × Reg) (hfma : ∀ x y z, fo.fma32 x y z = fo.add32 (fo.mul32 x y) z) (hneg : ∀ x y, fo.add32 x (y ^^^ sign32) = fo.sub32 x y) (i : Nat) (hi : i < 4) :
    ((sse2.cfloat_sse.isub_v fo self a).1) i = fo.sub32 (self.1 i) (a.1 i) ∧
    ((sse2.cfloat_sse.isub_v fo self a).2) i = fo.sub32 (self.2 i) (a.2 i) := by
  simp only [sse2.cfloat_sse.isub_v, lane]
theorem cfloat_sse_imul_v (fo : FOps) (self : Reg × Reg) (a : Reg × Reg) (hfma : ∀ x y z, fo.fma32 x y z = fo.add32 (fo.mul32 x y) z) (hneg : ∀ x y, fo.add32 x (y ^^^ sign32) = fo.sub32 x y) (i : Nat) (hi : i < 4) :
    ((sse2.cfloat_sse.imul_v fo self a).1) i = fo.sub32 (fo.mul32 (self.1 i) (a.1 i)) (fo.mul32 (self.2 i) (a.2 i)) ∧
    ((sse2.cfloat_sse.imul_v fo self a).2) i = fo.add32 (fo.mul32 (self.1 i) (a.2 i)) (fo.mul32 (self.2 i) (a.1 i)) := by
  simp only [sse2.cfloat_sse.imul_v, lane]
theorem cfloat_sse_idiv_v (fo : FOps) (self : Reg × Reg) (a : Reg × Reg) (hfma : ∀ x y z, fo.fma32 x y z = fo.add32 (fo.mul32 x y) z) (hneg : ∀ x y, fo.add32 x (y ^^^ sign32) = fo.sub32 x y) (i : Nat) (hi : i < 4) :
    ((sse2.cfloat_sse.idiv_v fo self a).1) i = fo.div32 (fo.add32 (fo.mul32 (self.1 i) (a.1 i)) (fo.mul32 (self.2 i) (a.2 i))) (fo.add32 (fo.mul32 (a.1 i) (a.1 i)) (fo.mul32 (a.2 i) (a.2 i))) ∧
    ((sse2.cfloat_sse.idiv_v fo self a).2) i = fo.div32 (fo.sub32 (fo.mul32 (self.2 i) (a.1 i)) (fo.mul32 (self.1 i) (a.2 i))) (fo.add32 (fo.mul32 (a.1 i) (a.1 i)) (fo.mul32 (a.2 i) (a.2 i))) := by
  simp only [sse2.cfloat_sse.idiv_v, lane]
theorem cfloat_sse_reverse (fo : FOps) (self : Reg × Reg) (hfma : ∀ x y z, fo.fma32 x y z = fo.add32 (fo.mul32 x y) z) (hneg : ∀ x y, fo.add32 x (y ^^^ sign32) = fo.sub32 x y) (i : Nat) (hi : i < 4) :
    ((sse2.cfloat_sse.reverse self).1) i = self.1 (3 - i) ∧
    ((sse2.cfloat_sse.reverse self).2) i = self.2 (3 - i) := by
  simp only [sse2.cfloat_sse.reverse, sse2.mm_reverse_ps, lane]
  interval_cases i <;> exact ⟨rfl, rfl⟩
theorem cfloat_sse_magnitude (fo : FOps) (self : Reg × Reg) (hfma : ∀ x y z, fo.fma32 x y z = fo.add32 (fo.mul32 x y) z) (hneg : ∀ x y, fo.add32 x (y ^^^ sign32) = fo.sub32 x y) (i : Nat) (hi : i < 4) :
    (sse2.cfloat_sse.magnitude fo self) i = fo.sqrt32 (fo.add32 (fo.mul32 (self.1 i) (self.1 i)) (fo.mul32 (self.2 i) (self.2 i))) := by
  simp only [sse2.cfloat_sse.magnitude, lane]
theorem cfloat_sse_norm (fo : FOps) (self : Reg × Reg) (hfma : ∀ x y z, fo.fma32 x y z = fo.add32 (fo.mul32 x y) z) (hneg : ∀ x y, fo.add32 x (y ^^^ sign32) = fo.sub32 x y) (i : Nat) (hi : i < 4) :
    (sse2.cfloat_sse.norm fo self) i = fo.add32 (fo.mul32 (self.1 i) (self.1 i)) (fo.mul32 (self.2 i) (self.2 i)) := by
  simp only [sse2.cfloat_sse.norm, lane]
theorem cfloat_sse_add_vv (fo : FOps) (a : Reg × Reg) (b : Reg × Reg) (hfma : ∀ x y z, fo.fma32 x y z = fo.add32 (fo.mul32 x y) z) (hneg : ∀ x y, fo.add32 x (y ^^^ sign32) = fo.sub32 x y) (i : Nat) (hi : i < 4) :
    ((sse2.cfloat_sse.add_vv fo a b).1) i = fo.add32 (a.1 i) (b.1 i) ∧
    ((sse2.cfloat_sse.add_vv fo a b).2) i = fo.add32 (a.2 i) (b.2 i) := by
  simp only [sse2.cfloat_sse.add_vv, lane]
theorem cfloat_sse_pos (fo : FOps) (b : Reg × Reg) (hfma : ∀ x y z, fo.fma32 x y z = fo.add32 (fo.mul32 x y) z) (hneg : ∀ x y, fo.add32 x (y ^^^ sign32) = fo.sub32 x y) (i : Nat) (hi : i < 4) :
    ((sse2.cfloat_sse.pos b).1) i = b.1 i ∧
    ((sse2.cfloat_sse.pos b).2) i = b.2 i := by
  simp only [sse2.cfloat_sse.pos, lane]
theorem cfloat_sse_sub_vv (fo : FOps) (a : Reg × Reg) (b : Reg × Reg) (hfma : ∀ x y z, fo.fma32 x y z = fo.add32 (fo.mul32 x y) z) (hneg : ∀ x y, fo.add32 x (y ^^^ sign32) = fo.sub32 x y) (i : Nat) (hi : i < 4) :
    ((sse2.cfloat_sse.sub_vv fo a b).1) i = fo.sub32 (a.1 i) (b.1 i) ∧
    ((sse2.cfloat_sse.sub_vv fo a b).2) i = fo.sub32 (a.2 i) (b.2 i) := by
  simp only [sse2.cfloat_sse.sub_vv, lane]
theorem cfloat_sse_neg (fo : FOps) (a : Reg × Reg) (hfma : ∀ x y z, fo.fma32 x y z = fo.add32 (fo.mul32 x y) z) (hneg : ∀ x y, fo.add32 x (y ^^^ sign32) = fo.sub32 x y) (i : Nat) (hi : i < 4) :
    ((sse2.cfloat_sse.neg a).1) i = fneg32 (a.1 i) ∧
    ((sse2.cfloat_sse.neg a).2) i = fneg32 (a.2 i) := by
  simp only [sse2.cfloat_sse.neg, sse2.mm_neg_ps, lane, fneg32, sign32]
theorem cfloat_sse_mul_vv (fo : FOps) (a : Reg × Reg) (b : Reg × Reg) (hfma : ∀ x y z, fo.fma32 x y z = fo.add32 (fo.mul32 x y) z) (hneg : ∀ x y, fo.add32 x (y ^^^ sign32) = fo.sub32 x y) (i : Nat) (hi : i < 4) :
    ((sse2.cfloat_sse.mul_vv fo a b).1) i = fo.sub32 (fo.mul32 (a.1 i) (b.1 i)) (fo.mul32 (a.2 i) (b.2 i)) ∧
    ((sse2.cfloat_sse.mul_vv fo a b).2) i = fo.add32 (fo.mul32 (a.1 i) (b.2 i)) (fo.mul32 (a.2 i) (b.1 i)) := by
  simp only [sse2.cfloat_sse.mul_vv, lane]
theorem cfloat_sse_div_vv (fo : FOps) (a : Reg × Reg) (b : Reg × Reg) (hfma : ∀ x y z, fo.fma32 x y z = fo.add32 (fo.mul32 x y) z) (hneg : ∀ x y, fo.add32 x (y ^^^ sign32) = fo.sub32 x y) (i : Nat) (hi : i < 4) :
    ((sse2.cfloat_sse.div_vv fo a b).1) i = fo.div32 (fo.add32 (fo.mul32 (a.1 i) (b.1 i)) (fo.mul32 (a.2 i) (b.2 i))) (fo.add32 (fo.mul32 (b.1 i) (b.1 i)) (fo.mul32 (b.2 i) (b.2 i))) ∧
    ((sse2.cfloat_sse.div_vv fo a b).2) i = fo.div32 (fo.sub32 (fo.mul32 (a.2 i) (b.1 i)) (fo.mul32 (a.1 i) (b.2 i))) (fo.add32 (fo.mul32 (b.1 i) (b.1 i)) (fo.mul32 (b.2 i) (b.2 i))) := by
  simp only [sse2.cfloat_sse.div_vv, lane]
theorem cfloat_sse_rcp (fo : FOps) (a : Reg × Reg) (hfma : ∀ x y z, fo.fma32 x y z = fo.add32 (fo.mul32 x y) z) (hneg : ∀ x y, fo.add32 x (y ^^^ sign32) = fo.sub32 x y) (i : Nat) (hi : i < 4) :
    ((sse2.cfloat_sse.rcp fo a).1) i = fo.div32 (a.1 i) (fo.add32 (fo.mul32 (a.1 i) (a.1 i)) (fo.mul32 (a.2 i) (a.2 i))) ∧
    ((sse2.cfloat_sse.rcp fo a).2) i = fneg32 (fo.div32 (a.2 i) (fo.add32 (fo.mul32 (a.1 i) (a.1 i)) (fo.mul32 (a.2 i) (a.2 i)))) := by
  simp only [sse2.cfloat_sse.rcp, sse2.mm_neg_ps, lane, fneg32, sign32]
theorem cfloat_sse_conj (fo : FOps) (a : Reg × Reg) (hfma : ∀ x y z, fo.fma32 x y z = fo.add32 (fo.mul32 x y) z) (hneg : ∀ x y, fo.add32 x (y ^^^ sign32) = fo.sub32 x y) (i : Nat) (hi : i < 4) :
    ((sse2.cfloat_sse.conj a).1) i = a.1 i ∧
    ((sse2.cfloat_sse.conj a).2) i = fneg32 (a.2 i) := by
  simp only [sse2.cfloat_sse.conj, sse2.mm_neg_ps, lane, fneg32, sign32]
theorem cdouble_sse_ctor (fo : FOps) (hfma : ∀ x y z, fo.fma64 x y z = fo.add64 (fo.mul64 x y) z) (hneg : ∀ x y, fo.add64 x (y ^^^ sign64) = fo.sub64 x y) (i : Nat) (hi : i < 2) :
    lane64 ((sse2.cdouble_sse.ctor).1) i = 0#64 ∧
    lane64 ((sse2.cdouble_sse.ctor).2) i = 0#64 := by
  simp only [sse2.cdouble_sse.ctor, lane]
theorem cdouble_sse_ctor_rr (fo : FOps) (reg0 : Reg) (reg1 : Reg) (hfma : ∀ x y z, fo.fma64 x y z = fo.add64 (fo.mul64 x y) z) (hneg : ∀ x y, fo.add64 x (y ^^^ sign64) = fo.sub64 x y) (i : Nat) (hi : i < 2) :
    lane64 ((sse2.cdouble_sse.ctor_rr reg0 reg1).1) i = lane64 (reg0) i ∧
    lane64 ((sse2.cdouble_sse.ctor_rr reg0 reg1).2) i = lane64 (reg1) i := by
  simp only [sse2.cdouble_sse.ctor_rr, lane]
theorem cdouble_sse_real (fo : FOps) (self : Reg × Reg) (hfma : ∀ x y z, fo.fma64 x y z = fo.add64 (fo.mul64 x y) z) (hneg : ∀ x y, fo.add64 x (y ^^^ sign64) = fo.sub64 x y) (i : Nat) (hi : i < 2) :
    lane64 (sse2.cdouble_sse.real self) i = lane64 (self.1) i := by
  simp only [sse2.cdouble_sse.real, lane]
theorem cdouble_sse_imag (fo : FOps) (self : Reg × Reg) (hfma : ∀ x y z, fo.fma64 x y z = fo.add64 (fo.mul64 x y) z) (hneg : ∀ x y, fo.add64 x (y ^^^ sign64) = fo.sub64 x y) (i : Nat) (hi : i < 2) :
    lane64 (sse2.cdouble_sse.imag self) i = lane64 (self.2) i := by
  simp only [sse2.cdouble_sse.imag, lane]
theorem cdouble_sse_iadd_v (fo : FOps) (self : Reg × Reg) (a : Reg × Reg) (hfma : ∀ x y z, fo.fma64 x y z = fo.add64 (fo.mul64 x y) z) (hneg : ∀ x y, fo.add64 x (y ^^^ sign64) = fo.sub64 x y) (i : Nat) (hi : i < 2) :
    lane64 ((sse2.cdouble_sse.iadd_v fo self a).1) i = fo.add64 (lane64 (self.1) i) (lane64 (a.1) i) ∧
    lane64 ((sse2.cdouble_sse.iadd_v fo self a).2) i = fo.add64 (lane64 (self.2) i) (lane64 (a.2) i) := by
  simp only [sse2.cdouble_sse.iadd_v, lane]
theorem cdouble_sse_isub_v (fo : FOps) (self : Reg × Reg) (a : Reg × Reg) (hfma : ∀ x y z, fo.fma64 x y z = fo.add64 (fo.mul64 x y) z) (hneg : ∀ x y, fo.add64 x (y ^^^ sign64) = fo.sub64 x y) (i : Nat) (hi : i < 2) :
    lane64 ((sse2.cdouble_sse.isub_v fo self a).1) i = fo.sub64 (lane64 (self.1) i) (lane64 (a.1) i) ∧
    lane64 ((sse2.cdouble_sse.isub_v fo self a).2) i = fo.sub64 (lane64 (self.2) i) (lane64 (a.2) i) := by
  simp only [sse2.cdouble_sse.isub_v, lane]
theorem cdouble_sse_imul_v (fo : FOps) (self : Reg × Reg) (a : Reg × Reg) (hfma : ∀ x y z, fo.fma64 x y z = fo.add64 (fo.mul64 x y) z) (hneg : ∀ x y, fo.add64 x (y ^^^ sign64) = fo.sub64 x y) (i : Nat) (hi : i < 2) :
    lane64 ((sse2.cdouble_sse.imul_v fo self a).1) i = fo.sub64 (fo.mul64 (lane64 (self.1) i) (lane64 (a.1) i)) (fo.mul64 (lane64 (self.2) i) (lane64 (a.2) i)) ∧
    lane64 ((sse2.cdouble_sse.imul_v fo self a).2) i = fo.add64 (fo.mul64 (lane64 (self.1) i) (lane64 (a.2) i)) (fo.mul64 (lane64 (self.2) i) (lane64 (a.1) i)) := by
  simp only [sse2.cdouble_sse.imul_v, lane]
theorem cdouble_sse_idiv_v (fo : FOps) (self : Reg × Reg) (a : Reg × Reg) (hfma : ∀ x y z, fo.fma64 x y z = fo.add64 (fo.mul64 x y) z) (hneg : ∀ x y, fo.add64 x (y ^^^ sign64) = fo.sub64 x y) (i : Nat) (hi : i < 2) :
    lane64 ((sse2.cdouble_sse.idiv_v fo self a).1) i = fo.div64 (fo.add64 (fo.mul64 (lane64 (self.1) i) (lane64 (a.1) i)) (fo.mul64 (lane64 (self.2) i) (lane64 (a.2) i))) (fo.add64 (fo.mul64 (lane64 (a.1) i) (lane64 (a.1) i)) (fo.mul64 (lane64 (a.2) i) (lane64 (a.2) i))) ∧
    lane64 ((sse2.cdouble_sse.idiv_v fo self a).2) i = fo.div64 (fo.sub64 (fo.mul64 (lane64 (self.2) i) (lane64 (a.1) i)) (fo.mul64 (lane64 (self.1) i) (lane64 (a.2) i))) (fo.add64 (fo.mul64 (lane64 (a.1) i) (lane64 (a.1) i)) (fo.mul64 (lane64 (a.2) i) (lane64 (a.2) i))) := by
  simp only [sse2.cdouble_sse.idiv_v, lane]
theorem cdouble_sse_reverse (fo : FOps) (self : Reg × Reg) (hfma : ∀ x y z, fo.fma64 x y z = fo.add64 (fo.mul64 x y) z) (hneg : ∀ x y, fo.add64 x (y ^^^ sign64) = fo.sub64 x y) (i : Nat) (hi : i < 2) :
    lane64 ((sse2.cdouble_sse.reverse self).1) i = lane64 (self.1) (1 - i) ∧
    lane64 ((sse2.cdouble_sse.reverse self).2) i = lane64 (self.2) (1 - i) := by
  simp only [sse2.cdouble_sse.reverse, sse2.mm_reverse_pd, lane]
  interval_cases i <;> exact ⟨rfl, rfl⟩
theorem cdouble_sse_magnitude (fo : FOps) (self : Reg × Reg) (hfma : ∀ x y z, fo.fma64 x y z = fo.add64 (fo.mul64 x y) z) (hneg : ∀ x y, fo.add64 x (y ^^^ sign64) = fo.sub64 x y) (i : Nat) (hi : i < 2) :
    lane64 (sse2.cdouble_sse.magnitude fo self) i = fo.sqrt64 (fo.add64 (fo.mul64 (lane64 (self.1) i) (lane64 (self.1) i)) (fo.mul64 (lane64 (self.2) i) (lane64 (self.2) i))) := by
  simp only [sse2.cdouble_sse.magnitude, lane]
theorem cdouble_sse_norm (fo : FOps) (self : Reg × Reg) (hfma : ∀ x y z, fo.fma64 x y z = fo.add64 (fo.mul64 x y) z) (hneg : ∀ x y, fo.add64 x (y ^^^ sign64) = fo.sub64 x y) (i : Nat) (hi : i < 2) :
    lane64 (sse2.cdouble_sse.norm fo self) i = fo.add64 (fo.mul64 (lane64 (self.1) i) (lane64 (self.1) i)) (fo.mul64 (lane64 (self.2) i) (lane64 (self.2) i)) := by
  simp only [sse2.cdouble_sse.norm, lane]
theorem cdouble_sse_add_vv (fo : FOps) (a : Reg × Reg) (b : Reg × Reg) (hfma : ∀ x y z, fo.fma64 x y z = fo.add64 (fo.mul64 x y) z) (hneg : ∀ x y, fo.add64 x (y ^^^ sign64) = fo.sub64 x y) (i : Nat) (hi : i < 2) :
    lane64 ((sse2.cdouble_sse.add_vv fo a b).1) i = fo.add64 (lane64 (a.1) i) (lane64 (b.1) i) ∧
    lane64 ((sse2.cdouble_sse.add_vv fo a b).2) i = fo.add64 (lane64 (a.2) i) (lane64 (b.2) i) := by
  simp only [sse2.cdouble_sse.add_vv, lane]
theorem cdouble_sse_pos (fo : FOps) (b : Reg × Reg) (hfma : ∀ x y z, fo.fma64 x y z = fo.add64 (fo.mul64 x y) z) (hneg : ∀ x y, fo.add64 x (y ^^^ sign64) = fo.sub64 x y) (i : Nat) (hi : i < 2) :
    lane64 ((sse2.cdouble_sse.pos b).1) i = lane64 (b.1) i ∧
    lane64 ((sse2.cdouble_sse.pos b).2) i = lane64 (b.2) i := by
  simp only [sse2.cdouble_sse.pos, lane]
theorem cdouble_sse_sub_vv (fo : FOps) (a : Reg × Reg) (b : Reg × Reg) (hfma : ∀ x y z, fo.fma64 x y z = fo.add64 (fo.mul64 x y) z) (hneg : ∀ x y, fo.add64 x (y ^^^ sign64) = fo.sub64 x y) (i : Nat) (hi : i < 2) :
    lane64 ((sse2.cdouble_sse.sub_vv fo a b).1) i = fo.sub64 (lane64 (a.1) i) (lane64 (b.1) i) ∧
    lane64 ((sse2.cdouble_sse.sub_vv fo a b).2) i = fo.sub64 (lane64 (a.2) i) (lane64 (b.2) i) := by
  simp only [sse2.cdouble_sse.sub_vv, lane]
theorem cdouble_sse_neg (fo : FOps) (a : Reg × Reg) (hfma : ∀ x y z, fo.fma64 x y z = fo.add64 (fo.mul64 x y) z) (hneg : ∀ x y, fo.add64 x (y ^^^ sign64) = fo.sub64 x y) (i : Nat) (hi : i < 2) :
    lane64 ((sse2.cdouble_sse.neg a).1) i = fneg64 (lane64 (a.1) i) ∧
    lane64 ((sse2.cdouble_sse.neg a).2) i = fneg64 (lane64 (a.2) i) := by
  simp only [sse2.cdouble_sse.neg, sse2.mm_neg_pd, lane, fneg64, sign64]
theorem cdouble_sse_mul_vv (fo : FOps) (a : Reg × Reg) (b : Reg × Reg) (hfma : ∀ x y z, fo.fma64 x y z = fo.add64 (fo.mul64 x y) z) (hneg : ∀ x y, fo.add64 x (y ^^^ sign64) = fo.sub64 x y) (i : Nat) (hi : i < 2) :
    lane64 ((sse2.cdouble_sse.mul_vv fo a b).1) i = fo.sub64 (fo.mul64 (lane64 (a.1) i) (lane64 (b.1) i)) (fo.mul64 (lane64 (a.2) i) (lane64 (b.2) i)) ∧
    lane64 ((sse2.cdouble_sse.mul_vv fo a b).2) i = fo.add64 (fo.mul64 (lane64 (a.1) i) (lane64 (b.2) i)) (fo.mul64 (lane64 (a.2) i) (lane64 (b.1) i)) := by
  simp only [sse2.cdouble_sse.mul_vv, lane]
theorem cdouble_sse_div_vv (fo : FOps) (a : Reg × Reg) (b : Reg × Reg) (hfma : ∀ x y z, fo.fma64 x y z = fo.add64 (fo.mul64 x y) z) (hneg : ∀ x y, fo.add64 x (y ^^^ sign64) = fo.sub64 x y) (i : Nat) (hi : i < 2) :
    lane64 ((sse2.cdouble_sse.div_vv fo a b).1) i = fo.div64 (fo.add64 (fo.mul64 (lane64 (a.1) i) (lane64 (b.1) i)) (fo.mul64 (lane64 (a.2) i) (lane64 (b.2) i))) (fo.add64 (fo.mul64 (lane64 (b.1) i) (lane64 (b.1) i)) (fo.mul64 (lane64 (b.2) i) (lane64 (b.2) i))) ∧
    lane64 ((sse2.cdouble_sse.div_vv fo a b).2) i = fo.div64 (fo.sub64 (fo.mul64 (lane64 (a.2) i) (lane64 (b.1) i)) (fo.mul64 (lane64 (a.1) i) (lane64 (b.2) i))) (fo.add64 (fo.mul64 (lane64 (b.1) i) (lane64 (b.1) i)) (fo.mul64 (lane64 (b.2) i) (lane64 (b.2) i))) := by
  simp only [sse2.cdouble_sse.div_vv, lane]
theorem cdouble_sse_rcp (fo : FOps) (a : Reg × Reg) (hfma : ∀ x y z, fo.fma64 x y z = fo.add64 (fo.mul64 x y) z) (hneg : ∀ x y, fo.add64 x (y ^^^ sign64) = fo.sub64 x y) (i : Nat) (hi : i < 2) :
    lane64 ((sse2.cdouble_sse.rcp fo a).1) i = fo.div64 (lane64 (a.1) i) (fo.add64 (fo.mul64 (lane64 (a.1) i) (lane64 (a.1) i)) (fo.mul64 (lane64 (a.2) i) (lane64 (a.2) i))) ∧
    lane64 ((sse2.cdouble_sse.rcp fo a).2) i = fneg64 (fo.div64 (lane64 (a.2) i) (fo.add64 (fo.mul64 (lane64 (a.1) i) (lane64 (a.1) i)) (fo.mul64 (lane64 (a.2) i) (lane64 (a.2) i)))) := by
  simp only [sse2.cdouble_sse.rcp, sse2.mm_neg_pd, lane, fneg64, sign64]
theorem cdouble_sse_conj (fo : FOps) (a : Reg × Reg) (hfma : ∀ x y z, fo.fma64 x y z = fo.add64 (fo.mul64 x y) z) (hneg : ∀ x y, fo.add64 x (y ^^^ sign64) = fo.sub64 x y) (i : Nat) (hi : i < 2) :
    lane64 ((sse2.cdouble_sse.conj a).1) i = lane64 (a.1) i ∧
    lane64 ((sse2.cdouble_sse.conj a).2) i = fneg64 (lane64 (a.2) i) := by
  simp only [sse2.cdouble_sse.conj, sse2.mm_neg_pd, lane, fneg64, sign64]
theorem float_sse_min_vv (fo : FOps) (a : Reg) (b : Reg) (i : Nat) (hi : i < 4) :
    (sse2.float_sse.min_vv fo a b) i = fo.min32 (a i) (b i) := by
  simp only [sse2.float_sse.min_vv, lane]
theorem double_sse_min_vv (fo : FOps) (a : Reg) (b : Reg) (i : Nat) (hi : i < 2) :
    lane64 (sse2.double_sse.min_vv fo a b) i = fo.min64 (lane64 a i) (lane64 b i) := by
  simp only [sse2.double_sse.min_vv, lane]
theorem float_sse_max_vv (fo : FOps) (a : Reg) (b : Reg) (i : Nat) (hi : i < 4) :
    (sse2.float_sse.max_vv fo a b) i = fo.max32 (a i) (b i) := by
  simp only [sse2.float_sse.max_vv, lane]
theorem double_sse_max_vv (fo : FOps) (a : Reg) (b : Reg) (i : Nat) (hi : i < 2) :
    lane64 (sse2.double_sse.max_vv fo a b) i = fo.max64 (lane64 a i) (lane64 b i) := by
  simp only [sse2.double_sse.max_vv, lane]

end Fastor.C08Ops.sse2
