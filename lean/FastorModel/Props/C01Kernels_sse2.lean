import FastorModel.Proofs.SimdLanes
import FastorModel.Generated.Simd_sse2
import Mathlib.Tactic.IntervalCases
/-! GENERATED by tools/gen_c01_kernels.py — C01: the intrinsic matmul kernels of matmul_specialisations_kernels.h, configuration `sse2`.
    Definitions: Generated/Simd_sse2.lean (translated from the current repo tree on every check).  A value theorem:
    `out[i*N+j] = Σ_k a[i*K+k]·b[k*N+j]` (fold from 0).  All value theorems carry the four hypotheses `hfma`, `hassoc`, `hcomm`,
    `hzero` on the float operations; a proof uses those its kernel needs, and none needs `hassoc`: every kernel accumulates
    in the order of the fold.  A footprint theorem: the words outside the result are untouched.
    NOT STATED: matmul_double_2_8_2 matmul_float_3_1_3_footprint matmul_float_3_2_3_footprint matmul_float_3_4_3_footprint matmul_float_3_5_3_footprint matmul_float_3_8_3_footprint matmul_float_3_3_3_footprint matmul_float_3_3_1 -/
namespace Fastor.C01K.sse2
open Fastor.Simd Fastor.Gen
set_option linter.unusedVariables false

theorem loadul3_ps_lane {j : Nat} (hj : j < 3) (arr : Reg) : sse2.mm_loadul3_ps arr j = arr j := by
  interval_cases j <;> rfl
theorem storeul3_ps_lane {j : Nat} (hj : j < 3) (arr value : Reg) : sse2.mm_storeul3_ps arr value j = value j := by
  interval_cases j <;> rfl

theorem matmul_double_2_1_2 (fo : FOps) (hfma : ∀ x y z, fo.fma64 x y z = fo.add64 (fo.mul64 x y) z) (hassoc : ∀ x y z, fo.add64 (fo.add64 x y) z = fo.add64 x (fo.add64 y z)) (hcomm : ∀ x y, fo.add64 x y = fo.add64 y x) (hzero : ∀ x, fo.add64 0#64 x = x) (a b out : Reg) (i j : Nat) (hi : i < 2) (hj : j < 2) :
    lane64 (sse2.h_matmul_double_2_1_2 fo a b out) (i * 2 + j) = [0].foldl (fun acc k => fo.add64 acc (fo.mul64 (lane64 a (i * 1 + k)) (lane64 b (k * 2 + j)))) 0#64 := by
  unfold sse2.h_matmul_double_2_1_2
  interval_cases i <;>
    simp only [↓lane64_storew_row hj, ↓lane64_storew_above hj, lane, List.foldl, simprocAttr, Nat.zero_add]
theorem matmul_double_2_1_2_footprint (fo : FOps) (a b out : Reg) (w : Nat) (hw : 8 ≤ w) :
    (sse2.h_matmul_double_2_1_2 fo a b out) w = out w := by
  unfold sse2.h_matmul_double_2_1_2
  simp only [↓storew_beyond hw, Nat.reduceAdd, Nat.reduceLeDiff]
theorem matmul_double_2_3_2 (fo : FOps) (hfma : ∀ x y z, fo.fma64 x y z = fo.add64 (fo.mul64 x y) z) (hassoc : ∀ x y z, fo.add64 (fo.add64 x y) z = fo.add64 x (fo.add64 y z)) (hcomm : ∀ x y, fo.add64 x y = fo.add64 y x) (hzero : ∀ x, fo.add64 0#64 x = x) (a b out : Reg) (i j : Nat) (hi : i < 2) (hj : j < 2) :
    lane64 (sse2.h_matmul_double_2_3_2 fo a b out) (i * 2 + j) = [0, 1, 2].foldl (fun acc k => fo.add64 acc (fo.mul64 (lane64 a (i * 3 + k)) (lane64 b (k * 2 + j)))) 0#64 := by
  unfold sse2.h_matmul_double_2_3_2
  interval_cases i <;>
    simp only [↓lane64_storew_row hj, ↓lane64_storew_above hj, lane, List.foldl, simprocAttr, Nat.zero_add]
theorem matmul_double_2_3_2_footprint (fo : FOps) (a b out : Reg) (w : Nat) (hw : 8 ≤ w) :
    (sse2.h_matmul_double_2_3_2 fo a b out) w = out w := by
  unfold sse2.h_matmul_double_2_3_2
  simp only [↓storew_beyond hw, Nat.reduceAdd, Nat.reduceLeDiff]
theorem matmul_double_2_4_2 (fo : FOps) (hfma : ∀ x y z, fo.fma64 x y z = fo.add64 (fo.mul64 x y) z) (hassoc : ∀ x y z, fo.add64 (fo.add64 x y) z = fo.add64 x (fo.add64 y z)) (hcomm : ∀ x y, fo.add64 x y = fo.add64 y x) (hzero : ∀ x, fo.add64 0#64 x = x) (a b out : Reg) (i j : Nat) (hi : i < 2) (hj : j < 2) :
    lane64 (sse2.h_matmul_double_2_4_2 fo a b out) (i * 2 + j) = [0, 1, 2, 3].foldl (fun acc k => fo.add64 acc (fo.mul64 (lane64 a (i * 4 + k)) (lane64 b (k * 2 + j)))) 0#64 := by
  unfold sse2.h_matmul_double_2_4_2
  interval_cases i <;>
    simp only [↓lane64_storew_row hj, ↓lane64_storew_above hj, lane, List.foldl, simprocAttr, Nat.zero_add]
theorem matmul_double_2_4_2_footprint (fo : FOps) (a b out : Reg) (w : Nat) (hw : 8 ≤ w) :
    (sse2.h_matmul_double_2_4_2 fo a b out) w = out w := by
  unfold sse2.h_matmul_double_2_4_2
  simp only [↓storew_beyond hw, Nat.reduceAdd, Nat.reduceLeDiff]
theorem matmul_double_2_5_2 (fo : FOps) (hfma : ∀ x y z, fo.fma64 x y z = fo.add64 (fo.mul64 x y) z) (hassoc : ∀ x y z, fo.add64 (fo.add64 x y) z = fo.add64 x (fo.add64 y z)) (hcomm : ∀ x y, fo.add64 x y = fo.add64 y x) (hzero : ∀ x, fo.add64 0#64 x = x) (a b out : Reg) (i j : Nat) (hi : i < 2) (hj : j < 2) :
    lane64 (sse2.h_matmul_double_2_5_2 fo a b out) (i * 2 + j) = [0, 1, 2, 3, 4].foldl (fun acc k => fo.add64 acc (fo.mul64 (lane64 a (i * 5 + k)) (lane64 b (k * 2 + j)))) 0#64 := by
  unfold sse2.h_matmul_double_2_5_2
  interval_cases i <;>
    simp only [↓lane64_storew_row hj, ↓lane64_storew_above hj, lane, List.foldl, simprocAttr, Nat.zero_add]
theorem matmul_double_2_5_2_footprint (fo : FOps) (a b out : Reg) (w : Nat) (hw : 8 ≤ w) :
    (sse2.h_matmul_double_2_5_2 fo a b out) w = out w := by
  unfold sse2.h_matmul_double_2_5_2
  simp only [↓storew_beyond hw, Nat.reduceAdd, Nat.reduceLeDiff]
theorem matmul_double_2_8_2_footprint (fo : FOps) (a b out : Reg) (w : Nat) (hw : 8 ≤ w) :
    (sse2.h_matmul_double_2_8_2 fo a b out) w = out w := by
  unfold sse2.h_matmul_double_2_8_2
  simp only [↓storew_beyond hw, Nat.reduceAdd, Nat.reduceLeDiff]
theorem matmul_float_2_1_2 (fo : FOps) (hfma : ∀ x y z, fo.fma32 x y z = fo.add32 (fo.mul32 x y) z) (hassoc : ∀ x y z, fo.add32 (fo.add32 x y) z = fo.add32 x (fo.add32 y z)) (hcomm : ∀ x y, fo.add32 x y = fo.add32 y x) (hzero : ∀ x, fo.add32 0#32 x = x) (a b out : Reg) (i j : Nat) (hi : i < 2) (hj : j < 2) :
    (sse2.h_matmul_float_2_1_2 fo a b out) (i * 2 + j) = [0].foldl (fun acc k => fo.add32 acc (fo.mul32 (a (i * 1 + k)) (b (k * 2 + j)))) 0#32 := by
  unfold sse2.h_matmul_float_2_1_2
  interval_cases i <;> interval_cases j <;>
    simp only [↓storew_apply, lane, List.foldl, simprocAttr]
theorem matmul_float_2_1_2_footprint (fo : FOps) (a b out : Reg) (w : Nat) (hw : 4 ≤ w) :
    (sse2.h_matmul_float_2_1_2 fo a b out) w = out w := by
  unfold sse2.h_matmul_float_2_1_2
  simp only [↓storew_beyond hw, Nat.reduceAdd, Nat.reduceLeDiff]
theorem matmul_float_2_3_2 (fo : FOps) (hfma : ∀ x y z, fo.fma32 x y z = fo.add32 (fo.mul32 x y) z) (hassoc : ∀ x y z, fo.add32 (fo.add32 x y) z = fo.add32 x (fo.add32 y z)) (hcomm : ∀ x y, fo.add32 x y = fo.add32 y x) (hzero : ∀ x, fo.add32 0#32 x = x) (a b out : Reg) (i j : Nat) (hi : i < 2) (hj : j < 2) :
    (sse2.h_matmul_float_2_3_2 fo a b out) (i * 2 + j) = [0, 1, 2].foldl (fun acc k => fo.add32 acc (fo.mul32 (a (i * 3 + k)) (b (k * 2 + j)))) 0#32 := by
  unfold sse2.h_matmul_float_2_3_2
  interval_cases i <;> interval_cases j <;>
    simp only [↓storew_apply, lane, List.foldl, simprocAttr]
theorem matmul_float_2_3_2_footprint (fo : FOps) (a b out : Reg) (w : Nat) (hw : 4 ≤ w) :
    (sse2.h_matmul_float_2_3_2 fo a b out) w = out w := by
  unfold sse2.h_matmul_float_2_3_2
  simp only [↓storew_beyond hw, Nat.reduceAdd, Nat.reduceLeDiff]
theorem matmul_float_2_4_2 (fo : FOps) (hfma : ∀ x y z, fo.fma32 x y z = fo.add32 (fo.mul32 x y) z) (hassoc : ∀ x y z, fo.add32 (fo.add32 x y) z = fo.add32 x (fo.add32 y z)) (hcomm : ∀ x y, fo.add32 x y = fo.add32 y x) (hzero : ∀ x, fo.add32 0#32 x = x) (a b out : Reg) (i j : Nat) (hi : i < 2) (hj : j < 2) :
    (sse2.h_matmul_float_2_4_2 fo a b out) (i * 2 + j) = [0, 1, 2, 3].foldl (fun acc k => fo.add32 acc (fo.mul32 (a (i * 4 + k)) (b (k * 2 + j)))) 0#32 := by
  unfold sse2.h_matmul_float_2_4_2
  interval_cases i <;> interval_cases j <;>
    simp only [↓storew_apply, lane, List.foldl, simprocAttr]
theorem matmul_float_2_4_2_footprint (fo : FOps) (a b out : Reg) (w : Nat) (hw : 4 ≤ w) :
    (sse2.h_matmul_float_2_4_2 fo a b out) w = out w := by
  unfold sse2.h_matmul_float_2_4_2
  simp only [↓storew_beyond hw, Nat.reduceAdd, Nat.reduceLeDiff]
theorem matmul_float_2_5_2 (fo : FOps) (hfma : ∀ x y z, fo.fma32 x y z = fo.add32 (fo.mul32 x y) z) (hassoc : ∀ x y z, fo.add32 (fo.add32 x y) z = fo.add32 x (fo.add32 y z)) (hcomm : ∀ x y, fo.add32 x y = fo.add32 y x) (hzero : ∀ x, fo.add32 0#32 x = x) (a b out : Reg) (i j : Nat) (hi : i < 2) (hj : j < 2) :
    (sse2.h_matmul_float_2_5_2 fo a b out) (i * 2 + j) = [0, 1, 2, 3, 4].foldl (fun acc k => fo.add32 acc (fo.mul32 (a (i * 5 + k)) (b (k * 2 + j)))) 0#32 := by
  unfold sse2.h_matmul_float_2_5_2
  interval_cases i <;> interval_cases j <;>
    simp only [↓storew_apply, lane, List.foldl, simprocAttr]
theorem matmul_float_2_5_2_footprint (fo : FOps) (a b out : Reg) (w : Nat) (hw : 4 ≤ w) :
    (sse2.h_matmul_float_2_5_2 fo a b out) w = out w := by
  unfold sse2.h_matmul_float_2_5_2
  simp only [↓storew_beyond hw, Nat.reduceAdd, Nat.reduceLeDiff]
theorem matmul_float_2_8_2 (fo : FOps) (hfma : ∀ x y z, fo.fma32 x y z = fo.add32 (fo.mul32 x y) z) (hassoc : ∀ x y z, fo.add32 (fo.add32 x y) z = fo.add32 x (fo.add32 y z)) (hcomm : ∀ x y, fo.add32 x y = fo.add32 y x) (hzero : ∀ x, fo.add32 0#32 x = x) (a b out : Reg) (i j : Nat) (hi : i < 2) (hj : j < 2) :
    (sse2.h_matmul_float_2_8_2 fo a b out) (i * 2 + j) = [0, 1, 2, 3, 4, 5, 6, 7].foldl (fun acc k => fo.add32 acc (fo.mul32 (a (i * 8 + k)) (b (k * 2 + j)))) 0#32 := by
  unfold sse2.h_matmul_float_2_8_2
  interval_cases i <;> interval_cases j <;>
    simp only [↓storew_apply, lane, List.foldl, simprocAttr]
theorem matmul_float_2_8_2_footprint (fo : FOps) (a b out : Reg) (w : Nat) (hw : 4 ≤ w) :
    (sse2.h_matmul_float_2_8_2 fo a b out) w = out w := by
  unfold sse2.h_matmul_float_2_8_2
  simp only [↓storew_beyond hw, Nat.reduceAdd, Nat.reduceLeDiff]
theorem matmul_float_3_1_3 (fo : FOps) (hfma : ∀ x y z, fo.fma32 x y z = fo.add32 (fo.mul32 x y) z) (hassoc : ∀ x y z, fo.add32 (fo.add32 x y) z = fo.add32 x (fo.add32 y z)) (hcomm : ∀ x y, fo.add32 x y = fo.add32 y x) (hzero : ∀ x, fo.add32 0#32 x = x) (a b out : Reg) (i j : Nat) (hi : i < 3) (hj : j < 3) :
    (sse2.h_matmul_float_3_1_3 fo a b out) (i * 3 + j) = [0].foldl (fun acc k => fo.add32 acc (fo.mul32 (a (i * 1 + k)) (b (k * 3 + j)))) 0#32 := by
  unfold sse2.h_matmul_float_3_1_3
  interval_cases i <;>
    simp only [↓storew_row hj, ↓storew_above hj, ↓tail_row, ↓tail_above hj, loadul3_ps_lane hj, storeul3_ps_lane hj,
      lane, List.foldl, simprocAttr, Nat.zero_add]
theorem matmul_float_3_2_3 (fo : FOps) (hfma : ∀ x y z, fo.fma32 x y z = fo.add32 (fo.mul32 x y) z) (hassoc : ∀ x y z, fo.add32 (fo.add32 x y) z = fo.add32 x (fo.add32 y z)) (hcomm : ∀ x y, fo.add32 x y = fo.add32 y x) (hzero : ∀ x, fo.add32 0#32 x = x) (a b out : Reg) (i j : Nat) (hi : i < 3) (hj : j < 3) :
    (sse2.h_matmul_float_3_2_3 fo a b out) (i * 3 + j) = [0, 1].foldl (fun acc k => fo.add32 acc (fo.mul32 (a (i * 2 + k)) (b (k * 3 + j)))) 0#32 := by
  unfold sse2.h_matmul_float_3_2_3
  interval_cases i <;>
    simp only [↓storew_row hj, ↓storew_above hj, ↓tail_row, ↓tail_above hj, loadul3_ps_lane hj, storeul3_ps_lane hj,
      lane, List.foldl, simprocAttr, Nat.zero_add]
theorem matmul_float_3_4_3 (fo : FOps) (hfma : ∀ x y z, fo.fma32 x y z = fo.add32 (fo.mul32 x y) z) (hassoc : ∀ x y z, fo.add32 (fo.add32 x y) z = fo.add32 x (fo.add32 y z)) (hcomm : ∀ x y, fo.add32 x y = fo.add32 y x) (hzero : ∀ x, fo.add32 0#32 x = x) (a b out : Reg) (i j : Nat) (hi : i < 3) (hj : j < 3) :
    (sse2.h_matmul_float_3_4_3 fo a b out) (i * 3 + j) = [0, 1, 2, 3].foldl (fun acc k => fo.add32 acc (fo.mul32 (a (i * 4 + k)) (b (k * 3 + j)))) 0#32 := by
  unfold sse2.h_matmul_float_3_4_3
  interval_cases i <;>
    simp only [↓storew_row hj, ↓storew_above hj, ↓tail_row, ↓tail_above hj, loadul3_ps_lane hj, storeul3_ps_lane hj,
      lane, List.foldl, simprocAttr, Nat.zero_add]
theorem matmul_float_3_5_3 (fo : FOps) (hfma : ∀ x y z, fo.fma32 x y z = fo.add32 (fo.mul32 x y) z) (hassoc : ∀ x y z, fo.add32 (fo.add32 x y) z = fo.add32 x (fo.add32 y z)) (hcomm : ∀ x y, fo.add32 x y = fo.add32 y x) (hzero : ∀ x, fo.add32 0#32 x = x) (a b out : Reg) (i j : Nat) (hi : i < 3) (hj : j < 3) :
    (sse2.h_matmul_float_3_5_3 fo a b out) (i * 3 + j) = [0, 1, 2, 3, 4].foldl (fun acc k => fo.add32 acc (fo.mul32 (a (i * 5 + k)) (b (k * 3 + j)))) 0#32 := by
  unfold sse2.h_matmul_float_3_5_3
  interval_cases i <;>
    simp only [↓storew_row hj, ↓storew_above hj, ↓tail_row, ↓tail_above hj, loadul3_ps_lane hj, storeul3_ps_lane hj,
      lane, List.foldl, simprocAttr, Nat.zero_add]
theorem matmul_float_3_8_3 (fo : FOps) (hfma : ∀ x y z, fo.fma32 x y z = fo.add32 (fo.mul32 x y) z) (hassoc : ∀ x y z, fo.add32 (fo.add32 x y) z = fo.add32 x (fo.add32 y z)) (hcomm : ∀ x y, fo.add32 x y = fo.add32 y x) (hzero : ∀ x, fo.add32 0#32 x = x) (a b out : Reg) (i j : Nat) (hi : i < 3) (hj : j < 3) :
    (sse2.h_matmul_float_3_8_3 fo a b out) (i * 3 + j) = [0, 1, 2, 3, 4, 5, 6, 7].foldl (fun acc k => fo.add32 acc (fo.mul32 (a (i * 8 + k)) (b (k * 3 + j)))) 0#32 := by
  unfold sse2.h_matmul_float_3_8_3
  interval_cases i <;>
    simp only [↓storew_row hj, ↓storew_above hj, ↓tail_row, ↓tail_above hj, loadul3_ps_lane hj, storeul3_ps_lane hj,
      lane, List.foldl, simprocAttr, Nat.zero_add]
theorem matmul_float_4_1_4 (fo : FOps) (hfma : ∀ x y z, fo.fma32 x y z = fo.add32 (fo.mul32 x y) z) (hassoc : ∀ x y z, fo.add32 (fo.add32 x y) z = fo.add32 x (fo.add32 y z)) (hcomm : ∀ x y, fo.add32 x y = fo.add32 y x) (hzero : ∀ x, fo.add32 0#32 x = x) (a b out : Reg) (i j : Nat) (hi : i < 4) (hj : j < 4) :
    (sse2.h_matmul_float_4_1_4 fo a b out) (i * 4 + j) = [0].foldl (fun acc k => fo.add32 acc (fo.mul32 (a (i * 1 + k)) (b (k * 4 + j)))) 0#32 := by
  unfold sse2.h_matmul_float_4_1_4
  interval_cases i <;>
    simp only [↓storew_row hj, ↓storew_above hj, lane, List.foldl, simprocAttr, Nat.zero_add]
theorem matmul_float_4_1_4_footprint (fo : FOps) (a b out : Reg) (w : Nat) (hw : 16 ≤ w) :
    (sse2.h_matmul_float_4_1_4 fo a b out) w = out w := by
  unfold sse2.h_matmul_float_4_1_4
  simp only [↓storew_beyond hw, Nat.reduceAdd, Nat.reduceLeDiff]
theorem matmul_float_4_2_4 (fo : FOps) (hfma : ∀ x y z, fo.fma32 x y z = fo.add32 (fo.mul32 x y) z) (hassoc : ∀ x y z, fo.add32 (fo.add32 x y) z = fo.add32 x (fo.add32 y z)) (hcomm : ∀ x y, fo.add32 x y = fo.add32 y x) (hzero : ∀ x, fo.add32 0#32 x = x) (a b out : Reg) (i j : Nat) (hi : i < 4) (hj : j < 4) :
    (sse2.h_matmul_float_4_2_4 fo a b out) (i * 4 + j) = [0, 1].foldl (fun acc k => fo.add32 acc (fo.mul32 (a (i * 2 + k)) (b (k * 4 + j)))) 0#32 := by
  unfold sse2.h_matmul_float_4_2_4
  interval_cases i <;>
    simp only [↓storew_row hj, ↓storew_above hj, lane, List.foldl, simprocAttr, Nat.zero_add]
theorem matmul_float_4_2_4_footprint (fo : FOps) (a b out : Reg) (w : Nat) (hw : 16 ≤ w) :
    (sse2.h_matmul_float_4_2_4 fo a b out) w = out w := by
  unfold sse2.h_matmul_float_4_2_4
  simp only [↓storew_beyond hw, Nat.reduceAdd, Nat.reduceLeDiff]
theorem matmul_float_4_3_4 (fo : FOps) (hfma : ∀ x y z, fo.fma32 x y z = fo.add32 (fo.mul32 x y) z) (hassoc : ∀ x y z, fo.add32 (fo.add32 x y) z = fo.add32 x (fo.add32 y z)) (hcomm : ∀ x y, fo.add32 x y = fo.add32 y x) (hzero : ∀ x, fo.add32 0#32 x = x) (a b out : Reg) (i j : Nat) (hi : i < 4) (hj : j < 4) :
    (sse2.h_matmul_float_4_3_4 fo a b out) (i * 4 + j) = [0, 1, 2].foldl (fun acc k => fo.add32 acc (fo.mul32 (a (i * 3 + k)) (b (k * 4 + j)))) 0#32 := by
  unfold sse2.h_matmul_float_4_3_4
  interval_cases i <;>
    simp only [↓storew_row hj, ↓storew_above hj, lane, List.foldl, simprocAttr, Nat.zero_add]
theorem matmul_float_4_3_4_footprint (fo : FOps) (a b out : Reg) (w : Nat) (hw : 16 ≤ w) :
    (sse2.h_matmul_float_4_3_4 fo a b out) w = out w := by
  unfold sse2.h_matmul_float_4_3_4
  simp only [↓storew_beyond hw, Nat.reduceAdd, Nat.reduceLeDiff]
theorem matmul_float_4_5_4 (fo : FOps) (hfma : ∀ x y z, fo.fma32 x y z = fo.add32 (fo.mul32 x y) z) (hassoc : ∀ x y z, fo.add32 (fo.add32 x y) z = fo.add32 x (fo.add32 y z)) (hcomm : ∀ x y, fo.add32 x y = fo.add32 y x) (hzero : ∀ x, fo.add32 0#32 x = x) (a b out : Reg) (i j : Nat) (hi : i < 4) (hj : j < 4) :
    (sse2.h_matmul_float_4_5_4 fo a b out) (i * 4 + j) = [0, 1, 2, 3, 4].foldl (fun acc k => fo.add32 acc (fo.mul32 (a (i * 5 + k)) (b (k * 4 + j)))) 0#32 := by
  unfold sse2.h_matmul_float_4_5_4
  interval_cases i <;>
    simp only [↓storew_row hj, ↓storew_above hj, lane, List.foldl, simprocAttr, Nat.zero_add]
theorem matmul_float_4_5_4_footprint (fo : FOps) (a b out : Reg) (w : Nat) (hw : 16 ≤ w) :
    (sse2.h_matmul_float_4_5_4 fo a b out) w = out w := by
  unfold sse2.h_matmul_float_4_5_4
  simp only [↓storew_beyond hw, Nat.reduceAdd, Nat.reduceLeDiff]
theorem matmul_float_4_8_4 (fo : FOps) (hfma : ∀ x y z, fo.fma32 x y z = fo.add32 (fo.mul32 x y) z) (hassoc : ∀ x y z, fo.add32 (fo.add32 x y) z = fo.add32 x (fo.add32 y z)) (hcomm : ∀ x y, fo.add32 x y = fo.add32 y x) (hzero : ∀ x, fo.add32 0#32 x = x) (a b out : Reg) (i j : Nat) (hi : i < 4) (hj : j < 4) :
    (sse2.h_matmul_float_4_8_4 fo a b out) (i * 4 + j) = [0, 1, 2, 3, 4, 5, 6, 7].foldl (fun acc k => fo.add32 acc (fo.mul32 (a (i * 8 + k)) (b (k * 4 + j)))) 0#32 := by
  unfold sse2.h_matmul_float_4_8_4
  interval_cases i <;>
    simp only [↓storew_row hj, ↓storew_above hj, lane, List.foldl, simprocAttr, Nat.zero_add]
theorem matmul_float_4_8_4_footprint (fo : FOps) (a b out : Reg) (w : Nat) (hw : 16 ≤ w) :
    (sse2.h_matmul_float_4_8_4 fo a b out) w = out w := by
  unfold sse2.h_matmul_float_4_8_4
  simp only [↓storew_beyond hw, Nat.reduceAdd, Nat.reduceLeDiff]
theorem matmul_float_2_2_2 (fo : FOps) (hfma : ∀ x y z, fo.fma32 x y z = fo.add32 (fo.mul32 x y) z) (hassoc : ∀ x y z, fo.add32 (fo.add32 x y) z = fo.add32 x (fo.add32 y z)) (hcomm : ∀ x y, fo.add32 x y = fo.add32 y x) (hzero : ∀ x, fo.add32 0#32 x = x) (a b out : Reg) (i j : Nat) (hi : i < 2) (hj : j < 2) :
    (sse2.h_matmul_float_2_2_2 fo a b out) (i * 2 + j) = [0, 1].foldl (fun acc k => fo.add32 acc (fo.mul32 (a (i * 2 + k)) (b (k * 2 + j)))) 0#32 := by
  unfold sse2.h_matmul_float_2_2_2
  interval_cases i <;> interval_cases j <;>
    simp only [↓storew_apply, lane, hzero, List.foldl, simprocAttr]
theorem matmul_float_2_2_2_footprint (fo : FOps) (a b out : Reg) (w : Nat) (hw : 4 ≤ w) :
    (sse2.h_matmul_float_2_2_2 fo a b out) w = out w := by
  unfold sse2.h_matmul_float_2_2_2
  simp only [↓storew_beyond hw, Nat.reduceAdd, Nat.reduceLeDiff]
theorem matmul_float_3_3_3 (fo : FOps) (hfma : ∀ x y z, fo.fma32 x y z = fo.add32 (fo.mul32 x y) z) (hassoc : ∀ x y z, fo.add32 (fo.add32 x y) z = fo.add32 x (fo.add32 y z)) (hcomm : ∀ x y, fo.add32 x y = fo.add32 y x) (hzero : ∀ x, fo.add32 0#32 x = x) (a b out : Reg) (i j : Nat) (hi : i < 3) (hj : j < 3) :
    (sse2.h_matmul_float_3_3_3 fo a b out) (i * 3 + j) = [0, 1, 2].foldl (fun acc k => fo.add32 acc (fo.mul32 (a (i * 3 + k)) (b (k * 3 + j)))) 0#32 := by
  unfold sse2.h_matmul_float_3_3_3
  interval_cases i <;>
    simp only [↓storew_row hj, ↓storew_above hj, ↓tail_row, ↓tail_above hj, loadul3_ps_lane hj, storeul3_ps_lane hj,
      lane, hzero, List.foldl, simprocAttr, Nat.zero_add]
theorem matmul_float_4_4_4 (fo : FOps) (hfma : ∀ x y z, fo.fma32 x y z = fo.add32 (fo.mul32 x y) z) (hassoc : ∀ x y z, fo.add32 (fo.add32 x y) z = fo.add32 x (fo.add32 y z)) (hcomm : ∀ x y, fo.add32 x y = fo.add32 y x) (hzero : ∀ x, fo.add32 0#32 x = x) (a b out : Reg) (i j : Nat) (hi : i < 4) (hj : j < 4) :
    (sse2.h_matmul_float_4_4_4 fo a b out) (i * 4 + j) = [0, 1, 2, 3].foldl (fun acc k => fo.add32 acc (fo.mul32 (a (i * 4 + k)) (b (k * 4 + j)))) 0#32 := by
  unfold sse2.h_matmul_float_4_4_4
  interval_cases i <;>
    simp only [↓storew_row hj, ↓storew_above hj, lane, hzero, List.foldl, simprocAttr, Nat.zero_add]
theorem matmul_float_4_4_4_footprint (fo : FOps) (a b out : Reg) (w : Nat) (hw : 16 ≤ w) :
    (sse2.h_matmul_float_4_4_4 fo a b out) w = out w := by
  unfold sse2.h_matmul_float_4_4_4
  simp only [↓storew_beyond hw, Nat.reduceAdd, Nat.reduceLeDiff]
theorem matmul_double_2_2_2 (fo : FOps) (hfma : ∀ x y z, fo.fma64 x y z = fo.add64 (fo.mul64 x y) z) (hassoc : ∀ x y z, fo.add64 (fo.add64 x y) z = fo.add64 x (fo.add64 y z)) (hcomm : ∀ x y, fo.add64 x y = fo.add64 y x) (hzero : ∀ x, fo.add64 0#64 x = x) (a b out : Reg) (i j : Nat) (hi : i < 2) (hj : j < 2) :
    lane64 (sse2.h_matmul_double_2_2_2 fo a b out) (i * 2 + j) = [0, 1].foldl (fun acc k => fo.add64 acc (fo.mul64 (lane64 a (i * 2 + k)) (lane64 b (k * 2 + j)))) 0#64 := by
  unfold sse2.h_matmul_double_2_2_2
  interval_cases i <;>
    simp only [↓lane64_storew_row hj, ↓lane64_storew_above hj, lane, hzero, List.foldl, simprocAttr, Nat.zero_add]
theorem matmul_double_2_2_2_footprint (fo : FOps) (a b out : Reg) (w : Nat) (hw : 8 ≤ w) :
    (sse2.h_matmul_double_2_2_2 fo a b out) w = out w := by
  unfold sse2.h_matmul_double_2_2_2
  simp only [↓storew_beyond hw, Nat.reduceAdd, Nat.reduceLeDiff]
theorem matmul_float_2_2_1 (fo : FOps) (hfma : ∀ x y z, fo.fma32 x y z = fo.add32 (fo.mul32 x y) z) (hassoc : ∀ x y z, fo.add32 (fo.add32 x y) z = fo.add32 x (fo.add32 y z)) (hcomm : ∀ x y, fo.add32 x y = fo.add32 y x) (hzero : ∀ x, fo.add32 0#32 x = x) (a b out : Reg) (i j : Nat) (hi : i < 2) (hj : j < 1) :
    (sse2.h_matmul_float_2_2_1 fo a b out) (i * 1 + j) = [0, 1].foldl (fun acc k => fo.add32 acc (fo.mul32 (a (i * 2 + k)) (b (k * 1 + j)))) 0#32 := by
  unfold sse2.h_matmul_float_2_2_1
  interval_cases i <;> interval_cases j <;>
    simp only [↓storew_apply, lane, hzero, List.foldl, simprocAttr]
theorem matmul_float_2_2_1_footprint (fo : FOps) (a b out : Reg) (w : Nat) (hw : 2 ≤ w) :
    (sse2.h_matmul_float_2_2_1 fo a b out) w = out w := by
  unfold sse2.h_matmul_float_2_2_1
  simp only [↓storew_beyond hw, Nat.reduceAdd, Nat.reduceLeDiff]
theorem matmul_float_3_3_1_footprint (fo : FOps) (a b out : Reg) (w : Nat) (hw : 3 ≤ w) :
    (sse2.h_matmul_float_3_3_1 fo a b out) w = out w := by
  unfold sse2.h_matmul_float_3_3_1
  simp only [↓storew_beyond hw, Nat.reduceAdd, Nat.reduceLeDiff]
theorem matmul_double_2_2_1 (fo : FOps) (hfma : ∀ x y z, fo.fma64 x y z = fo.add64 (fo.mul64 x y) z) (hassoc : ∀ x y z, fo.add64 (fo.add64 x y) z = fo.add64 x (fo.add64 y z)) (hcomm : ∀ x y, fo.add64 x y = fo.add64 y x) (hzero : ∀ x, fo.add64 0#64 x = x) (a b out : Reg) (i j : Nat) (hi : i < 2) (hj : j < 1) :
    lane64 (sse2.h_matmul_double_2_2_1 fo a b out) (i * 1 + j) = [0, 1].foldl (fun acc k => fo.add64 acc (fo.mul64 (lane64 a (i * 2 + k)) (lane64 b (k * 1 + j)))) 0#64 := by
  unfold sse2.h_matmul_double_2_2_1 sse2.mm_reverse_pd
  interval_cases j
  interval_cases i
  · -- element 0 is the high lane of `omm0 + reverse omm0`: the two products in the other order
    simp only [lane, hzero, List.foldl, simprocAttr]
    exact hcomm _ _
  · simp only [lane, hzero, List.foldl, simprocAttr]
theorem matmul_double_2_2_1_footprint (fo : FOps) (a b out : Reg) (w : Nat) (hw : 4 ≤ w) :
    (sse2.h_matmul_double_2_2_1 fo a b out) w = out w := by
  unfold sse2.h_matmul_double_2_2_1
  simp only [↓storew_beyond hw, Nat.reduceAdd, Nat.reduceLeDiff]

end Fastor.C01K.sse2
