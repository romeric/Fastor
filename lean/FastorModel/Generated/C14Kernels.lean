import FastorModel.Proofs.Intrinsics
/-  GENERATED by props/c14_kernels.py from Fastor/backend/transpose/{transpose.h,transpose_kernels.h} — do not edit.
    One definition per intrinsic transposition kernel and ISA configuration (conditional compilation resolved with
    the macros config.h defines under that configuration's compiler flags), statement by statement. -/
namespace Fastor.C14K
open Fastor


def k_float2_sse2 {α : Type} (z : α) (a : Nat → α) : List (Nat × α) :=
  let s0 : List (Nat × α) := []
  let v_a_reg := (Intr.load a 0 4)
  let s1 := s0 ++ Intr.store z 0 4 (Intr.shuffle_ps z v_a_reg v_a_reg 216)
  s1

def k_float2_sse2_reads : List Nat := [0, 1, 2, 3]

/-- `_transpose<float,2,2>` under sse2 run on lane tokens (`some k` = source cell `k`, `none` = a zeroed lane) -/
theorem k_float2_sse2_tok : Intr.finalCells (k_float2_sse2 (none : Option Nat) some) 4 = Intr.transposed some 2 := by
  refine (Intr.finalCells_eq_transposed_iff _ _ 2).2 ?_
  simp only [k_float2_sse2, lastWrite_append, Intr.lastWrite_store, Intr.lastWrite_nil]
  decide

theorem k_float2_sse2_stores_inside : Intr.allBelow ((k_float2_sse2 (none : Option Nat) some).map (·.1)) 4 = true := by decide

theorem k_float2_sse2_reads_inside : Intr.allBelow k_float2_sse2_reads 4 = true := by decide

/-- the kernel only moves lanes: it commutes with any reading of the tokens as elements -/
theorem k_float2_sse2_natural {α : Type} (z : α) (a : Nat → α) :
    (k_float2_sse2 (none : Option Nat) some).map (Prod.map id (Intr.ofTok z a)) = k_float2_sse2 z a := by
  simp only [k_float2_sse2, intr_map]

/-- **`_transpose<float,2,2>` under sse2, for every element type**: the stores leave exactly the transposed matrix in
    `out[0..4)` and fall nowhere else -/
theorem k_float2_sse2_correct {α : Type} (z : α) (a : Nat → α) :
    Intr.finalCells (k_float2_sse2 z a) 4 = Intr.transposed a 2 ∧ Intr.allBelow ((k_float2_sse2 z a).map (·.1)) 4 = true :=
  Intr.correct_of_tokens (fun {γ} => @k_float2_sse2 γ) 4 2 k_float2_sse2_natural k_float2_sse2_tok k_float2_sse2_stores_inside z a

def k_float3_sse2 {α : Type} (z : α) (a : Nat → α) : List (Nat × α) :=
  let s0 : List (Nat × α) := []
  let v_row0 := (Intr.load a 0 4)
  let v_row1 := (Intr.load a 3 4)
  let v_i1_x := (Intr.load_ss z a 6)
  let v_i1_y := (Intr.load_ss z a 7)
  let v_i1_z := (Intr.load_ss z a 8)
  let v_i1_xy := (Intr.movelh_ps z v_i1_x v_i1_y)
  let v_row2 := (Intr.shuffle_ps z v_i1_xy v_i1_z 136)
  let v_T0 := (Intr.unpacklo_ps z v_row0 v_row1)
  let v_T1 := (Intr.unpackhi_ps z v_row0 v_row1)
  let v_row0 := (Intr.movelh_ps z v_T0 v_row2)
  let v_row1 := (Intr.shuffle_ps z v_T0 v_row2 222)
  let v_row2 := (Intr.shuffle_ps z v_T1 v_row2 228)
  let s1 := s0 ++ Intr.store z 0 4 v_row0
  let s2 := s1 ++ Intr.store z 3 4 v_row1
  let v_i2_value := v_row2
  let s3 := s2 ++ Intr.store z 6 2 v_i2_value
  let s4 := s3 ++ Intr.store z 8 1 (Intr.shuffle_ps z v_i2_value v_i2_value 2)
  s4

def k_float3_sse2_reads : List Nat := [0, 1, 2, 3, 3, 4, 5, 6, 6, 7, 8]

/-- `_transpose<float,3,3>` under sse2 run on lane tokens (`some k` = source cell `k`, `none` = a zeroed lane) -/
theorem k_float3_sse2_tok : Intr.finalCells (k_float3_sse2 (none : Option Nat) some) 9 = Intr.transposed some 3 := by
  refine (Intr.finalCells_eq_transposed_iff _ _ 3).2 ?_
  simp only [k_float3_sse2, lastWrite_append, Intr.lastWrite_store, Intr.lastWrite_nil]
  decide

theorem k_float3_sse2_stores_inside : Intr.allBelow ((k_float3_sse2 (none : Option Nat) some).map (·.1)) 9 = true := by decide

theorem k_float3_sse2_reads_inside : Intr.allBelow k_float3_sse2_reads 9 = true := by decide

/-- the kernel only moves lanes: it commutes with any reading of the tokens as elements -/
theorem k_float3_sse2_natural {α : Type} (z : α) (a : Nat → α) :
    (k_float3_sse2 (none : Option Nat) some).map (Prod.map id (Intr.ofTok z a)) = k_float3_sse2 z a := by
  simp only [k_float3_sse2, intr_map]

/-- **`_transpose<float,3,3>` under sse2, for every element type**: the stores leave exactly the transposed matrix in
    `out[0..9)` and fall nowhere else -/
theorem k_float3_sse2_correct {α : Type} (z : α) (a : Nat → α) :
    Intr.finalCells (k_float3_sse2 z a) 9 = Intr.transposed a 3 ∧ Intr.allBelow ((k_float3_sse2 z a).map (·.1)) 9 = true :=
  Intr.correct_of_tokens (fun {γ} => @k_float3_sse2 γ) 9 3 k_float3_sse2_natural k_float3_sse2_tok k_float3_sse2_stores_inside z a

def k_float4_sse2 {α : Type} (z : α) (a : Nat → α) : List (Nat × α) :=
  let s0 : List (Nat × α) := []
  let v_row1 := (Intr.load a 0 4)
  let v_row2 := (Intr.load a 4 4)
  let v_row3 := (Intr.load a 8 4)
  let v_row4 := (Intr.load a 12 4)
  let v_m1_t0 := Intr.unpacklo_ps z v_row1 v_row2
  let v_m1_t1 := Intr.unpacklo_ps z v_row3 v_row4
  let v_m1_t2 := Intr.unpackhi_ps z v_row1 v_row2
  let v_m1_t3 := Intr.unpackhi_ps z v_row3 v_row4
  let v_m1_r_row1 := Intr.movelh_ps z v_m1_t0 v_m1_t1
  let v_m1_r_row2 := Intr.movehl_ps z v_m1_t1 v_m1_t0
  let v_m1_r_row3 := Intr.movelh_ps z v_m1_t2 v_m1_t3
  let v_m1_r_row4 := Intr.movehl_ps z v_m1_t3 v_m1_t2
  let s1 := s0 ++ Intr.store z 0 4 v_m1_r_row1
  let s2 := s1 ++ Intr.store z 4 4 v_m1_r_row2
  let s3 := s2 ++ Intr.store z 8 4 v_m1_r_row3
  let s4 := s3 ++ Intr.store z 12 4 v_m1_r_row4
  s4

def k_float4_sse2_reads : List Nat := [0, 1, 2, 3, 4, 5, 6, 7, 8, 9, 10, 11, 12, 13, 14, 15]

/-- `_transpose<float,4,4>` under sse2 run on lane tokens (`some k` = source cell `k`, `none` = a zeroed lane) -/
theorem k_float4_sse2_tok : Intr.finalCells (k_float4_sse2 (none : Option Nat) some) 16 = Intr.transposed some 4 := by
  refine (Intr.finalCells_eq_transposed_iff _ _ 4).2 ?_
  simp only [k_float4_sse2, lastWrite_append, Intr.lastWrite_store, Intr.lastWrite_nil]
  decide

theorem k_float4_sse2_stores_inside : Intr.allBelow ((k_float4_sse2 (none : Option Nat) some).map (·.1)) 16 = true := by decide

theorem k_float4_sse2_reads_inside : Intr.allBelow k_float4_sse2_reads 16 = true := by decide

/-- the kernel only moves lanes: it commutes with any reading of the tokens as elements -/
theorem k_float4_sse2_natural {α : Type} (z : α) (a : Nat → α) :
    (k_float4_sse2 (none : Option Nat) some).map (Prod.map id (Intr.ofTok z a)) = k_float4_sse2 z a := by
  simp only [k_float4_sse2, intr_map]

/-- **`_transpose<float,4,4>` under sse2, for every element type**: the stores leave exactly the transposed matrix in
    `out[0..16)` and fall nowhere else -/
theorem k_float4_sse2_correct {α : Type} (z : α) (a : Nat → α) :
    Intr.finalCells (k_float4_sse2 z a) 16 = Intr.transposed a 4 ∧ Intr.allBelow ((k_float4_sse2 z a).map (·.1)) 16 = true :=
  Intr.correct_of_tokens (fun {γ} => @k_float4_sse2 γ) 16 4 k_float4_sse2_natural k_float4_sse2_tok k_float4_sse2_stores_inside z a

def k_double2_sse2 {α : Type} (z : α) (a : Nat → α) : List (Nat × α) :=
  let s0 : List (Nat × α) := []
  let v_row0 := (Intr.load a 0 2)
  let v_row1 := (Intr.load a 2 2)
  let v_tmp := v_row0
  let v_row0 := (Intr.shuffle_pd z v_row0 v_row1 0)
  let v_row1 := (Intr.shuffle_pd z v_tmp v_row1 3)
  let s1 := s0 ++ Intr.store z 0 2 v_row0
  let s2 := s1 ++ Intr.store z 2 2 v_row1
  s2

def k_double2_sse2_reads : List Nat := [0, 1, 2, 3]

/-- `_transpose<double,2,2>` under sse2 run on lane tokens (`some k` = source cell `k`, `none` = a zeroed lane) -/
theorem k_double2_sse2_tok : Intr.finalCells (k_double2_sse2 (none : Option Nat) some) 4 = Intr.transposed some 2 := by
  refine (Intr.finalCells_eq_transposed_iff _ _ 2).2 ?_
  simp only [k_double2_sse2, lastWrite_append, Intr.lastWrite_store, Intr.lastWrite_nil]
  decide

theorem k_double2_sse2_stores_inside : Intr.allBelow ((k_double2_sse2 (none : Option Nat) some).map (·.1)) 4 = true := by decide

theorem k_double2_sse2_reads_inside : Intr.allBelow k_double2_sse2_reads 4 = true := by decide

/-- the kernel only moves lanes: it commutes with any reading of the tokens as elements -/
theorem k_double2_sse2_natural {α : Type} (z : α) (a : Nat → α) :
    (k_double2_sse2 (none : Option Nat) some).map (Prod.map id (Intr.ofTok z a)) = k_double2_sse2 z a := by
  simp only [k_double2_sse2, intr_map]

/-- **`_transpose<double,2,2>` under sse2, for every element type**: the stores leave exactly the transposed matrix in
    `out[0..4)` and fall nowhere else -/
theorem k_double2_sse2_correct {α : Type} (z : α) (a : Nat → α) :
    Intr.finalCells (k_double2_sse2 z a) 4 = Intr.transposed a 2 ∧ Intr.allBelow ((k_double2_sse2 z a).map (·.1)) 4 = true :=
  Intr.correct_of_tokens (fun {γ} => @k_double2_sse2 γ) 4 2 k_double2_sse2_natural k_double2_sse2_tok k_double2_sse2_stores_inside z a

def k_double3_sse2 {α : Type} (z : α) (a : Nat → α) : List (Nat × α) :=
  let s0 : List (Nat × α) := []
  let v_a11 := (Intr.load a 0 2)
  let v_a12 := (Intr.load a 2 2)
  let v_a21 := (Intr.load a 4 2)
  let v_a22 := (Intr.load a 6 2)
  let s1 := s0 ++ Intr.store z 0 2 (Intr.shuffle_pd z v_a11 v_a12 2)
  let s2 := s1 ++ Intr.store z 2 2 (Intr.shuffle_pd z v_a22 v_a11 2)
  let s3 := s2 ++ Intr.store z 4 2 (Intr.shuffle_pd z v_a21 v_a22 2)
  let s4 := s3 ++ Intr.store z 6 2 (Intr.shuffle_pd z v_a12 v_a21 2)
  let s5 := s4 ++ Intr.store z 8 1 (Intr.load_sd z a 8)
  s5

def k_double3_sse2_reads : List Nat := [0, 1, 2, 3, 4, 5, 6, 7, 8]

/-- `_transpose<double,3,3>` under sse2 run on lane tokens (`some k` = source cell `k`, `none` = a zeroed lane) -/
theorem k_double3_sse2_tok : Intr.finalCells (k_double3_sse2 (none : Option Nat) some) 9 = Intr.transposed some 3 := by
  refine (Intr.finalCells_eq_transposed_iff _ _ 3).2 ?_
  simp only [k_double3_sse2, lastWrite_append, Intr.lastWrite_store, Intr.lastWrite_nil]
  decide

theorem k_double3_sse2_stores_inside : Intr.allBelow ((k_double3_sse2 (none : Option Nat) some).map (·.1)) 9 = true := by decide

theorem k_double3_sse2_reads_inside : Intr.allBelow k_double3_sse2_reads 9 = true := by decide

/-- the kernel only moves lanes: it commutes with any reading of the tokens as elements -/
theorem k_double3_sse2_natural {α : Type} (z : α) (a : Nat → α) :
    (k_double3_sse2 (none : Option Nat) some).map (Prod.map id (Intr.ofTok z a)) = k_double3_sse2 z a := by
  simp only [k_double3_sse2, intr_map]

/-- **`_transpose<double,3,3>` under sse2, for every element type**: the stores leave exactly the transposed matrix in
    `out[0..9)` and fall nowhere else -/
theorem k_double3_sse2_correct {α : Type} (z : α) (a : Nat → α) :
    Intr.finalCells (k_double3_sse2 z a) 9 = Intr.transposed a 3 ∧ Intr.allBelow ((k_double3_sse2 z a).map (·.1)) 9 = true :=
  Intr.correct_of_tokens (fun {γ} => @k_double3_sse2 γ) 9 3 k_double3_sse2_natural k_double3_sse2_tok k_double3_sse2_stores_inside z a

def k_float2_avx {α : Type} (z : α) (a : Nat → α) : List (Nat × α) :=
  let s0 : List (Nat × α) := []
  let v_a_reg := (Intr.load a 0 4)
  let s1 := s0 ++ Intr.store z 0 4 (Intr.shuffle_ps z v_a_reg v_a_reg 216)
  s1

def k_float2_avx_reads : List Nat := [0, 1, 2, 3]

/-- `_transpose<float,2,2>` under avx run on lane tokens (`some k` = source cell `k`, `none` = a zeroed lane) -/
theorem k_float2_avx_tok : Intr.finalCells (k_float2_avx (none : Option Nat) some) 4 = Intr.transposed some 2 := by
  refine (Intr.finalCells_eq_transposed_iff _ _ 2).2 ?_
  simp only [k_float2_avx, lastWrite_append, Intr.lastWrite_store, Intr.lastWrite_nil]
  decide

theorem k_float2_avx_stores_inside : Intr.allBelow ((k_float2_avx (none : Option Nat) some).map (·.1)) 4 = true := by decide

theorem k_float2_avx_reads_inside : Intr.allBelow k_float2_avx_reads 4 = true := by decide

/-- the kernel only moves lanes: it commutes with any reading of the tokens as elements -/
theorem k_float2_avx_natural {α : Type} (z : α) (a : Nat → α) :
    (k_float2_avx (none : Option Nat) some).map (Prod.map id (Intr.ofTok z a)) = k_float2_avx z a := by
  simp only [k_float2_avx, intr_map]

/-- **`_transpose<float,2,2>` under avx, for every element type**: the stores leave exactly the transposed matrix in
    `out[0..4)` and fall nowhere else -/
theorem k_float2_avx_correct {α : Type} (z : α) (a : Nat → α) :
    Intr.finalCells (k_float2_avx z a) 4 = Intr.transposed a 2 ∧ Intr.allBelow ((k_float2_avx z a).map (·.1)) 4 = true :=
  Intr.correct_of_tokens (fun {γ} => @k_float2_avx γ) 4 2 k_float2_avx_natural k_float2_avx_tok k_float2_avx_stores_inside z a

def k_float3_avx {α : Type} (z : α) (a : Nat → α) : List (Nat × α) :=
  let s0 : List (Nat × α) := []
  let v_row0 := (Intr.load a 0 4)
  let v_row1 := (Intr.load a 3 4)
  let v_row2 := (Intr.maskload z a 6 [true, true, true, false])
  let v_T0 := (Intr.unpacklo_ps z v_row0 v_row1)
  let v_T1 := (Intr.unpackhi_ps z v_row0 v_row1)
  let v_row0 := (Intr.movelh_ps z v_T0 v_row2)
  let v_row1 := (Intr.shuffle_ps z v_T0 v_row2 222)
  let v_row2 := (Intr.shuffle_ps z v_T1 v_row2 228)
  let s1 := s0 ++ Intr.store z 0 4 v_row0
  let s2 := s1 ++ Intr.store z 3 4 v_row1
  let v_i2_value := v_row2
  let s3 := s2 ++ Intr.maskstore z 6 [true, true, true, false] v_i2_value
  s3

def k_float3_avx_reads : List Nat := [0, 1, 2, 3, 3, 4, 5, 6, 6, 7, 8]

/-- `_transpose<float,3,3>` under avx run on lane tokens (`some k` = source cell `k`, `none` = a zeroed lane) -/
theorem k_float3_avx_tok : Intr.finalCells (k_float3_avx (none : Option Nat) some) 9 = Intr.transposed some 3 := by
  refine (Intr.finalCells_eq_transposed_iff _ _ 3).2 ?_
  simp only [k_float3_avx, lastWrite_append, Intr.lastWrite_store, Intr.lastWrite_maskstore, Intr.lastWrite_nil]
  decide

theorem k_float3_avx_stores_inside : Intr.allBelow ((k_float3_avx (none : Option Nat) some).map (·.1)) 9 = true := by decide

theorem k_float3_avx_reads_inside : Intr.allBelow k_float3_avx_reads 9 = true := by decide

/-- the kernel only moves lanes: it commutes with any reading of the tokens as elements -/
theorem k_float3_avx_natural {α : Type} (z : α) (a : Nat → α) :
    (k_float3_avx (none : Option Nat) some).map (Prod.map id (Intr.ofTok z a)) = k_float3_avx z a := by
  simp only [k_float3_avx, intr_map]

/-- **`_transpose<float,3,3>` under avx, for every element type**: the stores leave exactly the transposed matrix in
    `out[0..9)` and fall nowhere else -/
theorem k_float3_avx_correct {α : Type} (z : α) (a : Nat → α) :
    Intr.finalCells (k_float3_avx z a) 9 = Intr.transposed a 3 ∧ Intr.allBelow ((k_float3_avx z a).map (·.1)) 9 = true :=
  Intr.correct_of_tokens (fun {γ} => @k_float3_avx γ) 9 3 k_float3_avx_natural k_float3_avx_tok k_float3_avx_stores_inside z a

def k_float4_avx {α : Type} (z : α) (a : Nat → α) : List (Nat × α) :=
  let s0 : List (Nat × α) := []
  let v_row1 := (Intr.load a 0 4)
  let v_row2 := (Intr.load a 4 4)
  let v_row3 := (Intr.load a 8 4)
  let v_row4 := (Intr.load a 12 4)
  let v_m1_t0 := Intr.unpacklo_ps z v_row1 v_row2
  let v_m1_t1 := Intr.unpacklo_ps z v_row3 v_row4
  let v_m1_t2 := Intr.unpackhi_ps z v_row1 v_row2
  let v_m1_t3 := Intr.unpackhi_ps z v_row3 v_row4
  let v_m1_r_row1 := Intr.movelh_ps z v_m1_t0 v_m1_t1
  let v_m1_r_row2 := Intr.movehl_ps z v_m1_t1 v_m1_t0
  let v_m1_r_row3 := Intr.movelh_ps z v_m1_t2 v_m1_t3
  let v_m1_r_row4 := Intr.movehl_ps z v_m1_t3 v_m1_t2
  let s1 := s0 ++ Intr.store z 0 4 v_m1_r_row1
  let s2 := s1 ++ Intr.store z 4 4 v_m1_r_row2
  let s3 := s2 ++ Intr.store z 8 4 v_m1_r_row3
  let s4 := s3 ++ Intr.store z 12 4 v_m1_r_row4
  s4

def k_float4_avx_reads : List Nat := [0, 1, 2, 3, 4, 5, 6, 7, 8, 9, 10, 11, 12, 13, 14, 15]

/-- `_transpose<float,4,4>` under avx run on lane tokens (`some k` = source cell `k`, `none` = a zeroed lane) -/
theorem k_float4_avx_tok : Intr.finalCells (k_float4_avx (none : Option Nat) some) 16 = Intr.transposed some 4 := by
  refine (Intr.finalCells_eq_transposed_iff _ _ 4).2 ?_
  simp only [k_float4_avx, lastWrite_append, Intr.lastWrite_store, Intr.lastWrite_nil]
  decide

theorem k_float4_avx_stores_inside : Intr.allBelow ((k_float4_avx (none : Option Nat) some).map (·.1)) 16 = true := by decide

theorem k_float4_avx_reads_inside : Intr.allBelow k_float4_avx_reads 16 = true := by decide

/-- the kernel only moves lanes: it commutes with any reading of the tokens as elements -/
theorem k_float4_avx_natural {α : Type} (z : α) (a : Nat → α) :
    (k_float4_avx (none : Option Nat) some).map (Prod.map id (Intr.ofTok z a)) = k_float4_avx z a := by
  simp only [k_float4_avx, intr_map]

/-- **`_transpose<float,4,4>` under avx, for every element type**: the stores leave exactly the transposed matrix in
    `out[0..16)` and fall nowhere else -/
theorem k_float4_avx_correct {α : Type} (z : α) (a : Nat → α) :
    Intr.finalCells (k_float4_avx z a) 16 = Intr.transposed a 4 ∧ Intr.allBelow ((k_float4_avx z a).map (·.1)) 16 = true :=
  Intr.correct_of_tokens (fun {γ} => @k_float4_avx γ) 16 4 k_float4_avx_natural k_float4_avx_tok k_float4_avx_stores_inside z a

def k_float8_avx {α : Type} (z : α) (a : Nat → α) : List (Nat × α) :=
  let s0 : List (Nat × α) := []
  let v_row1 := (Intr.load a 0 8)
  let v_row2 := (Intr.load a 8 8)
  let v_row3 := (Intr.load a 16 8)
  let v_row4 := (Intr.load a 24 8)
  let v_row5 := (Intr.load a 32 8)
  let v_row6 := (Intr.load a 40 8)
  let v_row7 := (Intr.load a 48 8)
  let v_row8 := (Intr.load a 56 8)
  let v_i1___t0 := (Intr.unpacklo_ps256 z v_row1 v_row2)
  let v_i1___t1 := (Intr.unpackhi_ps256 z v_row1 v_row2)
  let v_i1___t2 := (Intr.unpacklo_ps256 z v_row3 v_row4)
  let v_i1___t3 := (Intr.unpackhi_ps256 z v_row3 v_row4)
  let v_i1___t4 := (Intr.unpacklo_ps256 z v_row5 v_row6)
  let v_i1___t5 := (Intr.unpackhi_ps256 z v_row5 v_row6)
  let v_i1___t6 := (Intr.unpacklo_ps256 z v_row7 v_row8)
  let v_i1___t7 := (Intr.unpackhi_ps256 z v_row7 v_row8)
  let v_i1___tt0 := (Intr.shuffle_ps256 z v_i1___t0 v_i1___t2 68)
  let v_i1___tt1 := (Intr.shuffle_ps256 z v_i1___t0 v_i1___t2 238)
  let v_i1___tt2 := (Intr.shuffle_ps256 z v_i1___t1 v_i1___t3 68)
  let v_i1___tt3 := (Intr.shuffle_ps256 z v_i1___t1 v_i1___t3 238)
  let v_i1___tt4 := (Intr.shuffle_ps256 z v_i1___t4 v_i1___t6 68)
  let v_i1___tt5 := (Intr.shuffle_ps256 z v_i1___t4 v_i1___t6 238)
  let v_i1___tt6 := (Intr.shuffle_ps256 z v_i1___t5 v_i1___t7 68)
  let v_i1___tt7 := (Intr.shuffle_ps256 z v_i1___t5 v_i1___t7 238)
  let v_i1_row0 := (Intr.permute2f128 z v_i1___tt0 v_i1___tt4 32 4)
  let v_i1_row1 := (Intr.permute2f128 z v_i1___tt1 v_i1___tt5 32 4)
  let v_i1_row2 := (Intr.permute2f128 z v_i1___tt2 v_i1___tt6 32 4)
  let v_i1_row3 := (Intr.permute2f128 z v_i1___tt3 v_i1___tt7 32 4)
  let v_i1_row4 := (Intr.permute2f128 z v_i1___tt0 v_i1___tt4 49 4)
  let v_i1_row5 := (Intr.permute2f128 z v_i1___tt1 v_i1___tt5 49 4)
  let v_i1_row6 := (Intr.permute2f128 z v_i1___tt2 v_i1___tt6 49 4)
  let v_i1_row7 := (Intr.permute2f128 z v_i1___tt3 v_i1___tt7 49 4)
  let s1 := s0 ++ Intr.store z 0 8 v_i1_row0
  let s2 := s1 ++ Intr.store z 8 8 v_i1_row1
  let s3 := s2 ++ Intr.store z 16 8 v_i1_row2
  let s4 := s3 ++ Intr.store z 24 8 v_i1_row3
  let s5 := s4 ++ Intr.store z 32 8 v_i1_row4
  let s6 := s5 ++ Intr.store z 40 8 v_i1_row5
  let s7 := s6 ++ Intr.store z 48 8 v_i1_row6
  let s8 := s7 ++ Intr.store z 56 8 v_i1_row7
  s8

def k_float8_avx_reads : List Nat := [0, 1, 2, 3, 4, 5, 6, 7, 8, 9, 10, 11, 12, 13, 14, 15, 16, 17, 18, 19, 20, 21, 22, 23, 24, 25, 26, 27, 28, 29, 30, 31, 32, 33, 34, 35, 36, 37, 38, 39, 40, 41, 42, 43, 44, 45, 46, 47, 48, 49, 50, 51, 52, 53, 54, 55, 56, 57, 58, 59, 60, 61, 62, 63]

/-- `_transpose<float,8,8>` under avx run on lane tokens (`some k` = source cell `k`, `none` = a zeroed lane) -/
theorem k_float8_avx_tok : Intr.finalCells (k_float8_avx (none : Option Nat) some) 64 = Intr.transposed some 8 := by
  refine (Intr.finalCells_eq_transposed_iff _ _ 8).2 ?_
  simp only [k_float8_avx, lastWrite_append, Intr.lastWrite_store, Intr.lastWrite_nil]
  decide

theorem k_float8_avx_stores_inside : Intr.allBelow ((k_float8_avx (none : Option Nat) some).map (·.1)) 64 = true := by decide

theorem k_float8_avx_reads_inside : Intr.allBelow k_float8_avx_reads 64 = true := by decide

/-- the kernel only moves lanes: it commutes with any reading of the tokens as elements -/
theorem k_float8_avx_natural {α : Type} (z : α) (a : Nat → α) :
    (k_float8_avx (none : Option Nat) some).map (Prod.map id (Intr.ofTok z a)) = k_float8_avx z a := by
  simp only [k_float8_avx, intr_map]

/-- **`_transpose<float,8,8>` under avx, for every element type**: the stores leave exactly the transposed matrix in
    `out[0..64)` and fall nowhere else -/
theorem k_float8_avx_correct {α : Type} (z : α) (a : Nat → α) :
    Intr.finalCells (k_float8_avx z a) 64 = Intr.transposed a 8 ∧ Intr.allBelow ((k_float8_avx z a).map (·.1)) 64 = true :=
  Intr.correct_of_tokens (fun {γ} => @k_float8_avx γ) 64 8 k_float8_avx_natural k_float8_avx_tok k_float8_avx_stores_inside z a

def k_double2_avx {α : Type} (z : α) (a : Nat → α) : List (Nat × α) :=
  let s0 : List (Nat × α) := []
  let v_row0 := (Intr.load a 0 2)
  let v_row1 := (Intr.load a 2 2)
  let v_tmp := v_row0
  let v_row0 := (Intr.shuffle_pd z v_row0 v_row1 0)
  let v_row1 := (Intr.shuffle_pd z v_tmp v_row1 3)
  let s1 := s0 ++ Intr.store z 0 2 v_row0
  let s2 := s1 ++ Intr.store z 2 2 v_row1
  s2

def k_double2_avx_reads : List Nat := [0, 1, 2, 3]

/-- `_transpose<double,2,2>` under avx run on lane tokens (`some k` = source cell `k`, `none` = a zeroed lane) -/
theorem k_double2_avx_tok : Intr.finalCells (k_double2_avx (none : Option Nat) some) 4 = Intr.transposed some 2 := by
  refine (Intr.finalCells_eq_transposed_iff _ _ 2).2 ?_
  simp only [k_double2_avx, lastWrite_append, Intr.lastWrite_store, Intr.lastWrite_nil]
  decide

theorem k_double2_avx_stores_inside : Intr.allBelow ((k_double2_avx (none : Option Nat) some).map (·.1)) 4 = true := by decide

theorem k_double2_avx_reads_inside : Intr.allBelow k_double2_avx_reads 4 = true := by decide

/-- the kernel only moves lanes: it commutes with any reading of the tokens as elements -/
theorem k_double2_avx_natural {α : Type} (z : α) (a : Nat → α) :
    (k_double2_avx (none : Option Nat) some).map (Prod.map id (Intr.ofTok z a)) = k_double2_avx z a := by
  simp only [k_double2_avx, intr_map]

/-- **`_transpose<double,2,2>` under avx, for every element type**: the stores leave exactly the transposed matrix in
    `out[0..4)` and fall nowhere else -/
theorem k_double2_avx_correct {α : Type} (z : α) (a : Nat → α) :
    Intr.finalCells (k_double2_avx z a) 4 = Intr.transposed a 2 ∧ Intr.allBelow ((k_double2_avx z a).map (·.1)) 4 = true :=
  Intr.correct_of_tokens (fun {γ} => @k_double2_avx γ) 4 2 k_double2_avx_natural k_double2_avx_tok k_double2_avx_stores_inside z a

def k_double3_avx {α : Type} (z : α) (a : Nat → α) : List (Nat × α) :=
  let s0 : List (Nat × α) := []
  let v_row1 := (Intr.load a 0 4)
  let v_row2 := (Intr.load a 4 4)
  let v_a11 := (Intr.cast256_128 v_row1)
  let v_a12 := (Intr.extractf128_pd z v_row1 1)
  let v_a21 := (Intr.cast256_128 v_row2)
  let v_a22 := (Intr.extractf128_pd z v_row2 1)
  let v_row1 := (Intr.cast128_256 z (Intr.shuffle_pd z v_a11 v_a12 2))
  let v_row1 := (Intr.insertf128_pd z v_row1 (Intr.shuffle_pd z v_a22 v_a11 2) 1)
  let v_row2 := (Intr.cast128_256 z (Intr.shuffle_pd z v_a21 v_a22 2))
  let v_row2 := (Intr.insertf128_pd z v_row2 (Intr.shuffle_pd z v_a12 v_a21 2) 1)
  let s1 := s0 ++ Intr.store z 0 4 v_row1
  let s2 := s1 ++ Intr.store z 4 4 v_row2
  let s3 := s2 ++ Intr.store z 8 1 (Intr.load_sd z a 8)
  s3

def k_double3_avx_reads : List Nat := [0, 1, 2, 3, 4, 5, 6, 7, 8]

/-- `_transpose<double,3,3>` under avx run on lane tokens (`some k` = source cell `k`, `none` = a zeroed lane) -/
theorem k_double3_avx_tok : Intr.finalCells (k_double3_avx (none : Option Nat) some) 9 = Intr.transposed some 3 := by
  refine (Intr.finalCells_eq_transposed_iff _ _ 3).2 ?_
  simp only [k_double3_avx, lastWrite_append, Intr.lastWrite_store, Intr.lastWrite_nil]
  decide

theorem k_double3_avx_stores_inside : Intr.allBelow ((k_double3_avx (none : Option Nat) some).map (·.1)) 9 = true := by decide

theorem k_double3_avx_reads_inside : Intr.allBelow k_double3_avx_reads 9 = true := by decide

/-- the kernel only moves lanes: it commutes with any reading of the tokens as elements -/
theorem k_double3_avx_natural {α : Type} (z : α) (a : Nat → α) :
    (k_double3_avx (none : Option Nat) some).map (Prod.map id (Intr.ofTok z a)) = k_double3_avx z a := by
  simp only [k_double3_avx, intr_map]

/-- **`_transpose<double,3,3>` under avx, for every element type**: the stores leave exactly the transposed matrix in
    `out[0..9)` and fall nowhere else -/
theorem k_double3_avx_correct {α : Type} (z : α) (a : Nat → α) :
    Intr.finalCells (k_double3_avx z a) 9 = Intr.transposed a 3 ∧ Intr.allBelow ((k_double3_avx z a).map (·.1)) 9 = true :=
  Intr.correct_of_tokens (fun {γ} => @k_double3_avx γ) 9 3 k_double3_avx_natural k_double3_avx_tok k_double3_avx_stores_inside z a

def k_double4_avx {α : Type} (z : α) (a : Nat → α) : List (Nat × α) :=
  let s0 : List (Nat × α) := []
  let v_row1 := (Intr.load a 0 4)
  let v_row2 := (Intr.load a 4 4)
  let v_row3 := (Intr.load a 8 4)
  let v_row4 := (Intr.load a 12 4)
  let v_i1_tmp0 := (Intr.shuffle_pd256 z v_row1 v_row2 0)
  let v_i1_tmp2 := (Intr.shuffle_pd256 z v_row1 v_row2 15)
  let v_i1_tmp1 := (Intr.shuffle_pd256 z v_row3 v_row4 0)
  let v_i1_tmp3 := (Intr.shuffle_pd256 z v_row3 v_row4 15)
  let v_i1_row0 := (Intr.permute2f128 z v_i1_tmp0 v_i1_tmp1 32 2)
  let v_i1_row1 := (Intr.permute2f128 z v_i1_tmp2 v_i1_tmp3 32 2)
  let v_i1_row2 := (Intr.permute2f128 z v_i1_tmp0 v_i1_tmp1 49 2)
  let v_i1_row3 := (Intr.permute2f128 z v_i1_tmp2 v_i1_tmp3 49 2)
  let s1 := s0 ++ Intr.store z 0 4 v_i1_row0
  let s2 := s1 ++ Intr.store z 4 4 v_i1_row1
  let s3 := s2 ++ Intr.store z 8 4 v_i1_row2
  let s4 := s3 ++ Intr.store z 12 4 v_i1_row3
  s4

def k_double4_avx_reads : List Nat := [0, 1, 2, 3, 4, 5, 6, 7, 8, 9, 10, 11, 12, 13, 14, 15]

/-- `_transpose<double,4,4>` under avx run on lane tokens (`some k` = source cell `k`, `none` = a zeroed lane) -/
theorem k_double4_avx_tok : Intr.finalCells (k_double4_avx (none : Option Nat) some) 16 = Intr.transposed some 4 := by
  refine (Intr.finalCells_eq_transposed_iff _ _ 4).2 ?_
  simp only [k_double4_avx, lastWrite_append, Intr.lastWrite_store, Intr.lastWrite_nil]
  decide

theorem k_double4_avx_stores_inside : Intr.allBelow ((k_double4_avx (none : Option Nat) some).map (·.1)) 16 = true := by decide

theorem k_double4_avx_reads_inside : Intr.allBelow k_double4_avx_reads 16 = true := by decide

/-- the kernel only moves lanes: it commutes with any reading of the tokens as elements -/
theorem k_double4_avx_natural {α : Type} (z : α) (a : Nat → α) :
    (k_double4_avx (none : Option Nat) some).map (Prod.map id (Intr.ofTok z a)) = k_double4_avx z a := by
  simp only [k_double4_avx, intr_map]

/-- **`_transpose<double,4,4>` under avx, for every element type**: the stores leave exactly the transposed matrix in
    `out[0..16)` and fall nowhere else -/
theorem k_double4_avx_correct {α : Type} (z : α) (a : Nat → α) :
    Intr.finalCells (k_double4_avx z a) 16 = Intr.transposed a 4 ∧ Intr.allBelow ((k_double4_avx z a).map (·.1)) 16 = true :=
  Intr.correct_of_tokens (fun {γ} => @k_double4_avx γ) 16 4 k_double4_avx_natural k_double4_avx_tok k_double4_avx_stores_inside z a

def k_double8_avx {α : Type} (z : α) (a : Nat → α) : List (Nat × α) :=
  let s0 : List (Nat × α) := []
  let v_row1 := (Intr.load a 0 4)
  let v_row2 := (Intr.load a 8 4)
  let v_row3 := (Intr.load a 16 4)
  let v_row4 := (Intr.load a 24 4)
  let v_i1_tmp0 := (Intr.shuffle_pd256 z v_row1 v_row2 0)
  let v_i1_tmp2 := (Intr.shuffle_pd256 z v_row1 v_row2 15)
  let v_i1_tmp1 := (Intr.shuffle_pd256 z v_row3 v_row4 0)
  let v_i1_tmp3 := (Intr.shuffle_pd256 z v_row3 v_row4 15)
  let v_i1_row0 := (Intr.permute2f128 z v_i1_tmp0 v_i1_tmp1 32 2)
  let v_i1_row1 := (Intr.permute2f128 z v_i1_tmp2 v_i1_tmp3 32 2)
  let v_i1_row2 := (Intr.permute2f128 z v_i1_tmp0 v_i1_tmp1 49 2)
  let v_i1_row3 := (Intr.permute2f128 z v_i1_tmp2 v_i1_tmp3 49 2)
  let s1 := s0 ++ Intr.store z 0 4 v_i1_row0
  let s2 := s1 ++ Intr.store z 8 4 v_i1_row1
  let s3 := s2 ++ Intr.store z 16 4 v_i1_row2
  let s4 := s3 ++ Intr.store z 24 4 v_i1_row3
  let v_row1 := (Intr.load a 32 4)
  let v_row2 := (Intr.load a 40 4)
  let v_row3 := (Intr.load a 48 4)
  let v_row4 := (Intr.load a 56 4)
  let v_i2_tmp0 := (Intr.shuffle_pd256 z v_row1 v_row2 0)
  let v_i2_tmp2 := (Intr.shuffle_pd256 z v_row1 v_row2 15)
  let v_i2_tmp1 := (Intr.shuffle_pd256 z v_row3 v_row4 0)
  let v_i2_tmp3 := (Intr.shuffle_pd256 z v_row3 v_row4 15)
  let v_i2_row0 := (Intr.permute2f128 z v_i2_tmp0 v_i2_tmp1 32 2)
  let v_i2_row1 := (Intr.permute2f128 z v_i2_tmp2 v_i2_tmp3 32 2)
  let v_i2_row2 := (Intr.permute2f128 z v_i2_tmp0 v_i2_tmp1 49 2)
  let v_i2_row3 := (Intr.permute2f128 z v_i2_tmp2 v_i2_tmp3 49 2)
  let s5 := s4 ++ Intr.store z 4 4 v_i2_row0
  let s6 := s5 ++ Intr.store z 12 4 v_i2_row1
  let s7 := s6 ++ Intr.store z 20 4 v_i2_row2
  let s8 := s7 ++ Intr.store z 28 4 v_i2_row3
  let v_row1 := (Intr.load a 4 4)
  let v_row2 := (Intr.load a 12 4)
  let v_row3 := (Intr.load a 20 4)
  let v_row4 := (Intr.load a 28 4)
  let v_i3_tmp0 := (Intr.shuffle_pd256 z v_row1 v_row2 0)
  let v_i3_tmp2 := (Intr.shuffle_pd256 z v_row1 v_row2 15)
  let v_i3_tmp1 := (Intr.shuffle_pd256 z v_row3 v_row4 0)
  let v_i3_tmp3 := (Intr.shuffle_pd256 z v_row3 v_row4 15)
  let v_i3_row0 := (Intr.permute2f128 z v_i3_tmp0 v_i3_tmp1 32 2)
  let v_i3_row1 := (Intr.permute2f128 z v_i3_tmp2 v_i3_tmp3 32 2)
  let v_i3_row2 := (Intr.permute2f128 z v_i3_tmp0 v_i3_tmp1 49 2)
  let v_i3_row3 := (Intr.permute2f128 z v_i3_tmp2 v_i3_tmp3 49 2)
  let s9 := s8 ++ Intr.store z 32 4 v_i3_row0
  let s10 := s9 ++ Intr.store z 40 4 v_i3_row1
  let s11 := s10 ++ Intr.store z 48 4 v_i3_row2
  let s12 := s11 ++ Intr.store z 56 4 v_i3_row3
  let v_row1 := (Intr.load a 36 4)
  let v_row2 := (Intr.load a 44 4)
  let v_row3 := (Intr.load a 52 4)
  let v_row4 := (Intr.load a 60 4)
  let v_i4_tmp0 := (Intr.shuffle_pd256 z v_row1 v_row2 0)
  let v_i4_tmp2 := (Intr.shuffle_pd256 z v_row1 v_row2 15)
  let v_i4_tmp1 := (Intr.shuffle_pd256 z v_row3 v_row4 0)
  let v_i4_tmp3 := (Intr.shuffle_pd256 z v_row3 v_row4 15)
  let v_i4_row0 := (Intr.permute2f128 z v_i4_tmp0 v_i4_tmp1 32 2)
  let v_i4_row1 := (Intr.permute2f128 z v_i4_tmp2 v_i4_tmp3 32 2)
  let v_i4_row2 := (Intr.permute2f128 z v_i4_tmp0 v_i4_tmp1 49 2)
  let v_i4_row3 := (Intr.permute2f128 z v_i4_tmp2 v_i4_tmp3 49 2)
  let s13 := s12 ++ Intr.store z 36 4 v_i4_row0
  let s14 := s13 ++ Intr.store z 44 4 v_i4_row1
  let s15 := s14 ++ Intr.store z 52 4 v_i4_row2
  let s16 := s15 ++ Intr.store z 60 4 v_i4_row3
  s16

def k_double8_avx_reads : List Nat := [0, 1, 2, 3, 8, 9, 10, 11, 16, 17, 18, 19, 24, 25, 26, 27, 32, 33, 34, 35, 40, 41, 42, 43, 48, 49, 50, 51, 56, 57, 58, 59, 4, 5, 6, 7, 12, 13, 14, 15, 20, 21, 22, 23, 28, 29, 30, 31, 36, 37, 38, 39, 44, 45, 46, 47, 52, 53, 54, 55, 60, 61, 62, 63]

/-- `_transpose<double,8,8>` under avx run on lane tokens (`some k` = source cell `k`, `none` = a zeroed lane) -/
theorem k_double8_avx_tok : Intr.finalCells (k_double8_avx (none : Option Nat) some) 64 = Intr.transposed some 8 := by
  refine (Intr.finalCells_eq_transposed_iff _ _ 8).2 ?_
  simp only [k_double8_avx, lastWrite_append, Intr.lastWrite_store, Intr.lastWrite_nil]
  decide

theorem k_double8_avx_stores_inside : Intr.allBelow ((k_double8_avx (none : Option Nat) some).map (·.1)) 64 = true := by decide

theorem k_double8_avx_reads_inside : Intr.allBelow k_double8_avx_reads 64 = true := by decide

/-- the kernel only moves lanes: it commutes with any reading of the tokens as elements -/
theorem k_double8_avx_natural {α : Type} (z : α) (a : Nat → α) :
    (k_double8_avx (none : Option Nat) some).map (Prod.map id (Intr.ofTok z a)) = k_double8_avx z a := by
  simp only [k_double8_avx, intr_map]

/-- **`_transpose<double,8,8>` under avx, for every element type**: the stores leave exactly the transposed matrix in
    `out[0..64)` and fall nowhere else -/
theorem k_double8_avx_correct {α : Type} (z : α) (a : Nat → α) :
    Intr.finalCells (k_double8_avx z a) 64 = Intr.transposed a 8 ∧ Intr.allBelow ((k_double8_avx z a).map (·.1)) 64 = true :=
  Intr.correct_of_tokens (fun {γ} => @k_double8_avx γ) 64 8 k_double8_avx_natural k_double8_avx_tok k_double8_avx_stores_inside z a

def k_float2_avx2 {α : Type} (z : α) (a : Nat → α) : List (Nat × α) :=
  let s0 : List (Nat × α) := []
  let v_a_reg := (Intr.load a 0 4)
  let s1 := s0 ++ Intr.store z 0 4 (Intr.shuffle_ps z v_a_reg v_a_reg 216)
  s1

def k_float2_avx2_reads : List Nat := [0, 1, 2, 3]

/-- `_transpose<float,2,2>` under avx2 run on lane tokens (`some k` = source cell `k`, `none` = a zeroed lane) -/
theorem k_float2_avx2_tok : Intr.finalCells (k_float2_avx2 (none : Option Nat) some) 4 = Intr.transposed some 2 := by
  refine (Intr.finalCells_eq_transposed_iff _ _ 2).2 ?_
  simp only [k_float2_avx2, lastWrite_append, Intr.lastWrite_store, Intr.lastWrite_nil]
  decide

theorem k_float2_avx2_stores_inside : Intr.allBelow ((k_float2_avx2 (none : Option Nat) some).map (·.1)) 4 = true := by decide

theorem k_float2_avx2_reads_inside : Intr.allBelow k_float2_avx2_reads 4 = true := by decide

/-- the kernel only moves lanes: it commutes with any reading of the tokens as elements -/
theorem k_float2_avx2_natural {α : Type} (z : α) (a : Nat → α) :
    (k_float2_avx2 (none : Option Nat) some).map (Prod.map id (Intr.ofTok z a)) = k_float2_avx2 z a := by
  simp only [k_float2_avx2, intr_map]

/-- **`_transpose<float,2,2>` under avx2, for every element type**: the stores leave exactly the transposed matrix in
    `out[0..4)` and fall nowhere else -/
theorem k_float2_avx2_correct {α : Type} (z : α) (a : Nat → α) :
    Intr.finalCells (k_float2_avx2 z a) 4 = Intr.transposed a 2 ∧ Intr.allBelow ((k_float2_avx2 z a).map (·.1)) 4 = true :=
  Intr.correct_of_tokens (fun {γ} => @k_float2_avx2 γ) 4 2 k_float2_avx2_natural k_float2_avx2_tok k_float2_avx2_stores_inside z a

def k_float3_avx2 {α : Type} (z : α) (a : Nat → α) : List (Nat × α) :=
  let s0 : List (Nat × α) := []
  let v_trans07 := (Intr.load a 0 8)
  let v__res := (Intr.permutevar8x32 z v_trans07 [0, 3, 6, 1, 4, 7, 2, 5])
  let s1 := s0 ++ Intr.store z 0 8 v__res
  let s2 := s1 ++ Intr.store z 8 1 (Intr.load_ss z a 8)
  s2

def k_float3_avx2_reads : List Nat := [0, 1, 2, 3, 4, 5, 6, 7, 8]

/-- `_transpose<float,3,3>` under avx2 run on lane tokens (`some k` = source cell `k`, `none` = a zeroed lane) -/
theorem k_float3_avx2_tok : Intr.finalCells (k_float3_avx2 (none : Option Nat) some) 9 = Intr.transposed some 3 := by
  refine (Intr.finalCells_eq_transposed_iff _ _ 3).2 ?_
  simp only [k_float3_avx2, lastWrite_append, Intr.lastWrite_store, Intr.lastWrite_nil]
  decide

theorem k_float3_avx2_stores_inside : Intr.allBelow ((k_float3_avx2 (none : Option Nat) some).map (·.1)) 9 = true := by decide

theorem k_float3_avx2_reads_inside : Intr.allBelow k_float3_avx2_reads 9 = true := by decide

/-- the kernel only moves lanes: it commutes with any reading of the tokens as elements -/
theorem k_float3_avx2_natural {α : Type} (z : α) (a : Nat → α) :
    (k_float3_avx2 (none : Option Nat) some).map (Prod.map id (Intr.ofTok z a)) = k_float3_avx2 z a := by
  simp only [k_float3_avx2, intr_map]

/-- **`_transpose<float,3,3>` under avx2, for every element type**: the stores leave exactly the transposed matrix in
    `out[0..9)` and fall nowhere else -/
theorem k_float3_avx2_correct {α : Type} (z : α) (a : Nat → α) :
    Intr.finalCells (k_float3_avx2 z a) 9 = Intr.transposed a 3 ∧ Intr.allBelow ((k_float3_avx2 z a).map (·.1)) 9 = true :=
  Intr.correct_of_tokens (fun {γ} => @k_float3_avx2 γ) 9 3 k_float3_avx2_natural k_float3_avx2_tok k_float3_avx2_stores_inside z a

def k_float4_avx2 {α : Type} (z : α) (a : Nat → α) : List (Nat × α) :=
  let s0 : List (Nat × α) := []
  let v_row1 := (Intr.load a 0 4)
  let v_row2 := (Intr.load a 4 4)
  let v_row3 := (Intr.load a 8 4)
  let v_row4 := (Intr.load a 12 4)
  let v_m1_t0 := Intr.unpacklo_ps z v_row1 v_row2
  let v_m1_t1 := Intr.unpacklo_ps z v_row3 v_row4
  let v_m1_t2 := Intr.unpackhi_ps z v_row1 v_row2
  let v_m1_t3 := Intr.unpackhi_ps z v_row3 v_row4
  let v_m1_r_row1 := Intr.movelh_ps z v_m1_t0 v_m1_t1
  let v_m1_r_row2 := Intr.movehl_ps z v_m1_t1 v_m1_t0
  let v_m1_r_row3 := Intr.movelh_ps z v_m1_t2 v_m1_t3
  let v_m1_r_row4 := Intr.movehl_ps z v_m1_t3 v_m1_t2
  let s1 := s0 ++ Intr.store z 0 4 v_m1_r_row1
  let s2 := s1 ++ Intr.store z 4 4 v_m1_r_row2
  let s3 := s2 ++ Intr.store z 8 4 v_m1_r_row3
  let s4 := s3 ++ Intr.store z 12 4 v_m1_r_row4
  s4

def k_float4_avx2_reads : List Nat := [0, 1, 2, 3, 4, 5, 6, 7, 8, 9, 10, 11, 12, 13, 14, 15]

/-- `_transpose<float,4,4>` under avx2 run on lane tokens (`some k` = source cell `k`, `none` = a zeroed lane) -/
theorem k_float4_avx2_tok : Intr.finalCells (k_float4_avx2 (none : Option Nat) some) 16 = Intr.transposed some 4 := by
  refine (Intr.finalCells_eq_transposed_iff _ _ 4).2 ?_
  simp only [k_float4_avx2, lastWrite_append, Intr.lastWrite_store, Intr.lastWrite_nil]
  decide

theorem k_float4_avx2_stores_inside : Intr.allBelow ((k_float4_avx2 (none : Option Nat) some).map (·.1)) 16 = true := by decide

theorem k_float4_avx2_reads_inside : Intr.allBelow k_float4_avx2_reads 16 = true := by decide

/-- the kernel only moves lanes: it commutes with any reading of the tokens as elements -/
theorem k_float4_avx2_natural {α : Type} (z : α) (a : Nat → α) :
    (k_float4_avx2 (none : Option Nat) some).map (Prod.map id (Intr.ofTok z a)) = k_float4_avx2 z a := by
  simp only [k_float4_avx2, intr_map]

/-- **`_transpose<float,4,4>` under avx2, for every element type**: the stores leave exactly the transposed matrix in
    `out[0..16)` and fall nowhere else -/
theorem k_float4_avx2_correct {α : Type} (z : α) (a : Nat → α) :
    Intr.finalCells (k_float4_avx2 z a) 16 = Intr.transposed a 4 ∧ Intr.allBelow ((k_float4_avx2 z a).map (·.1)) 16 = true :=
  Intr.correct_of_tokens (fun {γ} => @k_float4_avx2 γ) 16 4 k_float4_avx2_natural k_float4_avx2_tok k_float4_avx2_stores_inside z a

def k_float8_avx2 {α : Type} (z : α) (a : Nat → α) : List (Nat × α) :=
  let s0 : List (Nat × α) := []
  let v_row1 := (Intr.load a 0 8)
  let v_row2 := (Intr.load a 8 8)
  let v_row3 := (Intr.load a 16 8)
  let v_row4 := (Intr.load a 24 8)
  let v_row5 := (Intr.load a 32 8)
  let v_row6 := (Intr.load a 40 8)
  let v_row7 := (Intr.load a 48 8)
  let v_row8 := (Intr.load a 56 8)
  let v_i1___t0 := (Intr.unpacklo_ps256 z v_row1 v_row2)
  let v_i1___t1 := (Intr.unpackhi_ps256 z v_row1 v_row2)
  let v_i1___t2 := (Intr.unpacklo_ps256 z v_row3 v_row4)
  let v_i1___t3 := (Intr.unpackhi_ps256 z v_row3 v_row4)
  let v_i1___t4 := (Intr.unpacklo_ps256 z v_row5 v_row6)
  let v_i1___t5 := (Intr.unpackhi_ps256 z v_row5 v_row6)
  let v_i1___t6 := (Intr.unpacklo_ps256 z v_row7 v_row8)
  let v_i1___t7 := (Intr.unpackhi_ps256 z v_row7 v_row8)
  let v_i1___tt0 := (Intr.shuffle_ps256 z v_i1___t0 v_i1___t2 68)
  let v_i1___tt1 := (Intr.shuffle_ps256 z v_i1___t0 v_i1___t2 238)
  let v_i1___tt2 := (Intr.shuffle_ps256 z v_i1___t1 v_i1___t3 68)
  let v_i1___tt3 := (Intr.shuffle_ps256 z v_i1___t1 v_i1___t3 238)
  let v_i1___tt4 := (Intr.shuffle_ps256 z v_i1___t4 v_i1___t6 68)
  let v_i1___tt5 := (Intr.shuffle_ps256 z v_i1___t4 v_i1___t6 238)
  let v_i1___tt6 := (Intr.shuffle_ps256 z v_i1___t5 v_i1___t7 68)
  let v_i1___tt7 := (Intr.shuffle_ps256 z v_i1___t5 v_i1___t7 238)
  let v_i1_row0 := (Intr.permute2f128 z v_i1___tt0 v_i1___tt4 32 4)
  let v_i1_row1 := (Intr.permute2f128 z v_i1___tt1 v_i1___tt5 32 4)
  let v_i1_row2 := (Intr.permute2f128 z v_i1___tt2 v_i1___tt6 32 4)
  let v_i1_row3 := (Intr.permute2f128 z v_i1___tt3 v_i1___tt7 32 4)
  let v_i1_row4 := (Intr.permute2f128 z v_i1___tt0 v_i1___tt4 49 4)
  let v_i1_row5 := (Intr.permute2f128 z v_i1___tt1 v_i1___tt5 49 4)
  let v_i1_row6 := (Intr.permute2f128 z v_i1___tt2 v_i1___tt6 49 4)
  let v_i1_row7 := (Intr.permute2f128 z v_i1___tt3 v_i1___tt7 49 4)
  let s1 := s0 ++ Intr.store z 0 8 v_i1_row0
  let s2 := s1 ++ Intr.store z 8 8 v_i1_row1
  let s3 := s2 ++ Intr.store z 16 8 v_i1_row2
  let s4 := s3 ++ Intr.store z 24 8 v_i1_row3
  let s5 := s4 ++ Intr.store z 32 8 v_i1_row4
  let s6 := s5 ++ Intr.store z 40 8 v_i1_row5
  let s7 := s6 ++ Intr.store z 48 8 v_i1_row6
  let s8 := s7 ++ Intr.store z 56 8 v_i1_row7
  s8

def k_float8_avx2_reads : List Nat := [0, 1, 2, 3, 4, 5, 6, 7, 8, 9, 10, 11, 12, 13, 14, 15, 16, 17, 18, 19, 20, 21, 22, 23, 24, 25, 26, 27, 28, 29, 30, 31, 32, 33, 34, 35, 36, 37, 38, 39, 40, 41, 42, 43, 44, 45, 46, 47, 48, 49, 50, 51, 52, 53, 54, 55, 56, 57, 58, 59, 60, 61, 62, 63]

/-- `_transpose<float,8,8>` under avx2 run on lane tokens (`some k` = source cell `k`, `none` = a zeroed lane) -/
theorem k_float8_avx2_tok : Intr.finalCells (k_float8_avx2 (none : Option Nat) some) 64 = Intr.transposed some 8 := by
  refine (Intr.finalCells_eq_transposed_iff _ _ 8).2 ?_
  simp only [k_float8_avx2, lastWrite_append, Intr.lastWrite_store, Intr.lastWrite_nil]
  decide

theorem k_float8_avx2_stores_inside : Intr.allBelow ((k_float8_avx2 (none : Option Nat) some).map (·.1)) 64 = true := by decide

theorem k_float8_avx2_reads_inside : Intr.allBelow k_float8_avx2_reads 64 = true := by decide

/-- the kernel only moves lanes: it commutes with any reading of the tokens as elements -/
theorem k_float8_avx2_natural {α : Type} (z : α) (a : Nat → α) :
    (k_float8_avx2 (none : Option Nat) some).map (Prod.map id (Intr.ofTok z a)) = k_float8_avx2 z a := by
  simp only [k_float8_avx2, intr_map]

/-- **`_transpose<float,8,8>` under avx2, for every element type**: the stores leave exactly the transposed matrix in
    `out[0..64)` and fall nowhere else -/
theorem k_float8_avx2_correct {α : Type} (z : α) (a : Nat → α) :
    Intr.finalCells (k_float8_avx2 z a) 64 = Intr.transposed a 8 ∧ Intr.allBelow ((k_float8_avx2 z a).map (·.1)) 64 = true :=
  Intr.correct_of_tokens (fun {γ} => @k_float8_avx2 γ) 64 8 k_float8_avx2_natural k_float8_avx2_tok k_float8_avx2_stores_inside z a

def k_double2_avx2 {α : Type} (z : α) (a : Nat → α) : List (Nat × α) :=
  let s0 : List (Nat × α) := []
  let v_row0 := (Intr.load a 0 2)
  let v_row1 := (Intr.load a 2 2)
  let v_tmp := v_row0
  let v_row0 := (Intr.shuffle_pd z v_row0 v_row1 0)
  let v_row1 := (Intr.shuffle_pd z v_tmp v_row1 3)
  let s1 := s0 ++ Intr.store z 0 2 v_row0
  let s2 := s1 ++ Intr.store z 2 2 v_row1
  s2

def k_double2_avx2_reads : List Nat := [0, 1, 2, 3]

/-- `_transpose<double,2,2>` under avx2 run on lane tokens (`some k` = source cell `k`, `none` = a zeroed lane) -/
theorem k_double2_avx2_tok : Intr.finalCells (k_double2_avx2 (none : Option Nat) some) 4 = Intr.transposed some 2 := by
  refine (Intr.finalCells_eq_transposed_iff _ _ 2).2 ?_
  simp only [k_double2_avx2, lastWrite_append, Intr.lastWrite_store, Intr.lastWrite_nil]
  decide

theorem k_double2_avx2_stores_inside : Intr.allBelow ((k_double2_avx2 (none : Option Nat) some).map (·.1)) 4 = true := by decide

theorem k_double2_avx2_reads_inside : Intr.allBelow k_double2_avx2_reads 4 = true := by decide

/-- the kernel only moves lanes: it commutes with any reading of the tokens as elements -/
theorem k_double2_avx2_natural {α : Type} (z : α) (a : Nat → α) :
    (k_double2_avx2 (none : Option Nat) some).map (Prod.map id (Intr.ofTok z a)) = k_double2_avx2 z a := by
  simp only [k_double2_avx2, intr_map]

/-- **`_transpose<double,2,2>` under avx2, for every element type**: the stores leave exactly the transposed matrix in
    `out[0..4)` and fall nowhere else -/
theorem k_double2_avx2_correct {α : Type} (z : α) (a : Nat → α) :
    Intr.finalCells (k_double2_avx2 z a) 4 = Intr.transposed a 2 ∧ Intr.allBelow ((k_double2_avx2 z a).map (·.1)) 4 = true :=
  Intr.correct_of_tokens (fun {γ} => @k_double2_avx2 γ) 4 2 k_double2_avx2_natural k_double2_avx2_tok k_double2_avx2_stores_inside z a

def k_double3_avx2 {α : Type} (z : α) (a : Nat → α) : List (Nat × α) :=
  let s0 : List (Nat × α) := []
  let v_row1 := (Intr.load a 0 4)
  let v_row2 := (Intr.load a 4 4)
  let v_a11 := (Intr.cast256_128 v_row1)
  let v_a12 := (Intr.extractf128_pd z v_row1 1)
  let v_a21 := (Intr.cast256_128 v_row2)
  let v_a22 := (Intr.extractf128_pd z v_row2 1)
  let v_row1 := (Intr.cast128_256 z (Intr.shuffle_pd z v_a11 v_a12 2))
  let v_row1 := (Intr.insertf128_pd z v_row1 (Intr.shuffle_pd z v_a22 v_a11 2) 1)
  let v_row2 := (Intr.cast128_256 z (Intr.shuffle_pd z v_a21 v_a22 2))
  let v_row2 := (Intr.insertf128_pd z v_row2 (Intr.shuffle_pd z v_a12 v_a21 2) 1)
  let s1 := s0 ++ Intr.store z 0 4 v_row1
  let s2 := s1 ++ Intr.store z 4 4 v_row2
  let s3 := s2 ++ Intr.store z 8 1 (Intr.load_sd z a 8)
  s3

def k_double3_avx2_reads : List Nat := [0, 1, 2, 3, 4, 5, 6, 7, 8]

/-- `_transpose<double,3,3>` under avx2 run on lane tokens (`some k` = source cell `k`, `none` = a zeroed lane) -/
theorem k_double3_avx2_tok : Intr.finalCells (k_double3_avx2 (none : Option Nat) some) 9 = Intr.transposed some 3 := by
  refine (Intr.finalCells_eq_transposed_iff _ _ 3).2 ?_
  simp only [k_double3_avx2, lastWrite_append, Intr.lastWrite_store, Intr.lastWrite_nil]
  decide

theorem k_double3_avx2_stores_inside : Intr.allBelow ((k_double3_avx2 (none : Option Nat) some).map (·.1)) 9 = true := by decide

theorem k_double3_avx2_reads_inside : Intr.allBelow k_double3_avx2_reads 9 = true := by decide

/-- the kernel only moves lanes: it commutes with any reading of the tokens as elements -/
theorem k_double3_avx2_natural {α : Type} (z : α) (a : Nat → α) :
    (k_double3_avx2 (none : Option Nat) some).map (Prod.map id (Intr.ofTok z a)) = k_double3_avx2 z a := by
  simp only [k_double3_avx2, intr_map]

/-- **`_transpose<double,3,3>` under avx2, for every element type**: the stores leave exactly the transposed matrix in
    `out[0..9)` and fall nowhere else -/
theorem k_double3_avx2_correct {α : Type} (z : α) (a : Nat → α) :
    Intr.finalCells (k_double3_avx2 z a) 9 = Intr.transposed a 3 ∧ Intr.allBelow ((k_double3_avx2 z a).map (·.1)) 9 = true :=
  Intr.correct_of_tokens (fun {γ} => @k_double3_avx2 γ) 9 3 k_double3_avx2_natural k_double3_avx2_tok k_double3_avx2_stores_inside z a

def k_double4_avx2 {α : Type} (z : α) (a : Nat → α) : List (Nat × α) :=
  let s0 : List (Nat × α) := []
  let v_row1 := (Intr.load a 0 4)
  let v_row2 := (Intr.load a 4 4)
  let v_row3 := (Intr.load a 8 4)
  let v_row4 := (Intr.load a 12 4)
  let v_i1_tmp0 := (Intr.shuffle_pd256 z v_row1 v_row2 0)
  let v_i1_tmp2 := (Intr.shuffle_pd256 z v_row1 v_row2 15)
  let v_i1_tmp1 := (Intr.shuffle_pd256 z v_row3 v_row4 0)
  let v_i1_tmp3 := (Intr.shuffle_pd256 z v_row3 v_row4 15)
  let v_i1_row0 := (Intr.permute2f128 z v_i1_tmp0 v_i1_tmp1 32 2)
  let v_i1_row1 := (Intr.permute2f128 z v_i1_tmp2 v_i1_tmp3 32 2)
  let v_i1_row2 := (Intr.permute2f128 z v_i1_tmp0 v_i1_tmp1 49 2)
  let v_i1_row3 := (Intr.permute2f128 z v_i1_tmp2 v_i1_tmp3 49 2)
  let s1 := s0 ++ Intr.store z 0 4 v_i1_row0
  let s2 := s1 ++ Intr.store z 4 4 v_i1_row1
  let s3 := s2 ++ Intr.store z 8 4 v_i1_row2
  let s4 := s3 ++ Intr.store z 12 4 v_i1_row3
  s4

def k_double4_avx2_reads : List Nat := [0, 1, 2, 3, 4, 5, 6, 7, 8, 9, 10, 11, 12, 13, 14, 15]

/-- `_transpose<double,4,4>` under avx2 run on lane tokens (`some k` = source cell `k`, `none` = a zeroed lane) -/
theorem k_double4_avx2_tok : Intr.finalCells (k_double4_avx2 (none : Option Nat) some) 16 = Intr.transposed some 4 := by
  refine (Intr.finalCells_eq_transposed_iff _ _ 4).2 ?_
  simp only [k_double4_avx2, lastWrite_append, Intr.lastWrite_store, Intr.lastWrite_nil]
  decide

theorem k_double4_avx2_stores_inside : Intr.allBelow ((k_double4_avx2 (none : Option Nat) some).map (·.1)) 16 = true := by decide

theorem k_double4_avx2_reads_inside : Intr.allBelow k_double4_avx2_reads 16 = true := by decide

/-- the kernel only moves lanes: it commutes with any reading of the tokens as elements -/
theorem k_double4_avx2_natural {α : Type} (z : α) (a : Nat → α) :
    (k_double4_avx2 (none : Option Nat) some).map (Prod.map id (Intr.ofTok z a)) = k_double4_avx2 z a := by
  simp only [k_double4_avx2, intr_map]

/-- **`_transpose<double,4,4>` under avx2, for every element type**: the stores leave exactly the transposed matrix in
    `out[0..16)` and fall nowhere else -/
theorem k_double4_avx2_correct {α : Type} (z : α) (a : Nat → α) :
    Intr.finalCells (k_double4_avx2 z a) 16 = Intr.transposed a 4 ∧ Intr.allBelow ((k_double4_avx2 z a).map (·.1)) 16 = true :=
  Intr.correct_of_tokens (fun {γ} => @k_double4_avx2 γ) 16 4 k_double4_avx2_natural k_double4_avx2_tok k_double4_avx2_stores_inside z a

def k_double8_avx2 {α : Type} (z : α) (a : Nat → α) : List (Nat × α) :=
  let s0 : List (Nat × α) := []
  let v_row1 := (Intr.load a 0 4)
  let v_row2 := (Intr.load a 8 4)
  let v_row3 := (Intr.load a 16 4)
  let v_row4 := (Intr.load a 24 4)
  let v_i1_tmp0 := (Intr.shuffle_pd256 z v_row1 v_row2 0)
  let v_i1_tmp2 := (Intr.shuffle_pd256 z v_row1 v_row2 15)
  let v_i1_tmp1 := (Intr.shuffle_pd256 z v_row3 v_row4 0)
  let v_i1_tmp3 := (Intr.shuffle_pd256 z v_row3 v_row4 15)
  let v_i1_row0 := (Intr.permute2f128 z v_i1_tmp0 v_i1_tmp1 32 2)
  let v_i1_row1 := (Intr.permute2f128 z v_i1_tmp2 v_i1_tmp3 32 2)
  let v_i1_row2 := (Intr.permute2f128 z v_i1_tmp0 v_i1_tmp1 49 2)
  let v_i1_row3 := (Intr.permute2f128 z v_i1_tmp2 v_i1_tmp3 49 2)
  let s1 := s0 ++ Intr.store z 0 4 v_i1_row0
  let s2 := s1 ++ Intr.store z 8 4 v_i1_row1
  let s3 := s2 ++ Intr.store z 16 4 v_i1_row2
  let s4 := s3 ++ Intr.store z 24 4 v_i1_row3
  let v_row1 := (Intr.load a 32 4)
  let v_row2 := (Intr.load a 40 4)
  let v_row3 := (Intr.load a 48 4)
  let v_row4 := (Intr.load a 56 4)
  let v_i2_tmp0 := (Intr.shuffle_pd256 z v_row1 v_row2 0)
  let v_i2_tmp2 := (Intr.shuffle_pd256 z v_row1 v_row2 15)
  let v_i2_tmp1 := (Intr.shuffle_pd256 z v_row3 v_row4 0)
  let v_i2_tmp3 := (Intr.shuffle_pd256 z v_row3 v_row4 15)
  let v_i2_row0 := (Intr.permute2f128 z v_i2_tmp0 v_i2_tmp1 32 2)
  let v_i2_row1 := (Intr.permute2f128 z v_i2_tmp2 v_i2_tmp3 32 2)
  let v_i2_row2 := (Intr.permute2f128 z v_i2_tmp0 v_i2_tmp1 49 2)
  let v_i2_row3 := (Intr.permute2f128 z v_i2_tmp2 v_i2_tmp3 49 2)
  let s5 := s4 ++ Intr.store z 4 4 v_i2_row0
  let s6 := s5 ++ Intr.store z 12 4 v_i2_row1
  let s7 := s6 ++ Intr.store z 20 4 v_i2_row2
  let s8 := s7 ++ Intr.store z 28 4 v_i2_row3
  let v_row1 := (Intr.load a 4 4)
  let v_row2 := (Intr.load a 12 4)
  let v_row3 := (Intr.load a 20 4)
  let v_row4 := (Intr.load a 28 4)
  let v_i3_tmp0 := (Intr.shuffle_pd256 z v_row1 v_row2 0)
  let v_i3_tmp2 := (Intr.shuffle_pd256 z v_row1 v_row2 15)
  let v_i3_tmp1 := (Intr.shuffle_pd256 z v_row3 v_row4 0)
  let v_i3_tmp3 := (Intr.shuffle_pd256 z v_row3 v_row4 15)
  let v_i3_row0 := (Intr.permute2f128 z v_i3_tmp0 v_i3_tmp1 32 2)
  let v_i3_row1 := (Intr.permute2f128 z v_i3_tmp2 v_i3_tmp3 32 2)
  let v_i3_row2 := (Intr.permute2f128 z v_i3_tmp0 v_i3_tmp1 49 2)
  let v_i3_row3 := (Intr.permute2f128 z v_i3_tmp2 v_i3_tmp3 49 2)
  let s9 := s8 ++ Intr.store z 32 4 v_i3_row0
  let s10 := s9 ++ Intr.store z 40 4 v_i3_row1
  let s11 := s10 ++ Intr.store z 48 4 v_i3_row2
  let s12 := s11 ++ Intr.store z 56 4 v_i3_row3
  let v_row1 := (Intr.load a 36 4)
  let v_row2 := (Intr.load a 44 4)
  let v_row3 := (Intr.load a 52 4)
  let v_row4 := (Intr.load a 60 4)
  let v_i4_tmp0 := (Intr.shuffle_pd256 z v_row1 v_row2 0)
  let v_i4_tmp2 := (Intr.shuffle_pd256 z v_row1 v_row2 15)
  let v_i4_tmp1 := (Intr.shuffle_pd256 z v_row3 v_row4 0)
  let v_i4_tmp3 := (Intr.shuffle_pd256 z v_row3 v_row4 15)
  let v_i4_row0 := (Intr.permute2f128 z v_i4_tmp0 v_i4_tmp1 32 2)
  let v_i4_row1 := (Intr.permute2f128 z v_i4_tmp2 v_i4_tmp3 32 2)
  let v_i4_row2 := (Intr.permute2f128 z v_i4_tmp0 v_i4_tmp1 49 2)
  let v_i4_row3 := (Intr.permute2f128 z v_i4_tmp2 v_i4_tmp3 49 2)
  let s13 := s12 ++ Intr.store z 36 4 v_i4_row0
  let s14 := s13 ++ Intr.store z 44 4 v_i4_row1
  let s15 := s14 ++ Intr.store z 52 4 v_i4_row2
  let s16 := s15 ++ Intr.store z 60 4 v_i4_row3
  s16

def k_double8_avx2_reads : List Nat := [0, 1, 2, 3, 8, 9, 10, 11, 16, 17, 18, 19, 24, 25, 26, 27, 32, 33, 34, 35, 40, 41, 42, 43, 48, 49, 50, 51, 56, 57, 58, 59, 4, 5, 6, 7, 12, 13, 14, 15, 20, 21, 22, 23, 28, 29, 30, 31, 36, 37, 38, 39, 44, 45, 46, 47, 52, 53, 54, 55, 60, 61, 62, 63]

/-- `_transpose<double,8,8>` under avx2 run on lane tokens (`some k` = source cell `k`, `none` = a zeroed lane) -/
theorem k_double8_avx2_tok : Intr.finalCells (k_double8_avx2 (none : Option Nat) some) 64 = Intr.transposed some 8 := by
  refine (Intr.finalCells_eq_transposed_iff _ _ 8).2 ?_
  simp only [k_double8_avx2, lastWrite_append, Intr.lastWrite_store, Intr.lastWrite_nil]
  decide

theorem k_double8_avx2_stores_inside : Intr.allBelow ((k_double8_avx2 (none : Option Nat) some).map (·.1)) 64 = true := by decide

theorem k_double8_avx2_reads_inside : Intr.allBelow k_double8_avx2_reads 64 = true := by decide

/-- the kernel only moves lanes: it commutes with any reading of the tokens as elements -/
theorem k_double8_avx2_natural {α : Type} (z : α) (a : Nat → α) :
    (k_double8_avx2 (none : Option Nat) some).map (Prod.map id (Intr.ofTok z a)) = k_double8_avx2 z a := by
  simp only [k_double8_avx2, intr_map]

/-- **`_transpose<double,8,8>` under avx2, for every element type**: the stores leave exactly the transposed matrix in
    `out[0..64)` and fall nowhere else -/
theorem k_double8_avx2_correct {α : Type} (z : α) (a : Nat → α) :
    Intr.finalCells (k_double8_avx2 z a) 64 = Intr.transposed a 8 ∧ Intr.allBelow ((k_double8_avx2 z a).map (·.1)) 64 = true :=
  Intr.correct_of_tokens (fun {γ} => @k_double8_avx2 γ) 64 8 k_double8_avx2_natural k_double8_avx2_tok k_double8_avx2_stores_inside z a

def k_float2_avx512 {α : Type} (z : α) (a : Nat → α) : List (Nat × α) :=
  let s0 : List (Nat × α) := []
  let v_a_reg := (Intr.load a 0 4)
  let s1 := s0 ++ Intr.store z 0 4 (Intr.shuffle_ps z v_a_reg v_a_reg 216)
  s1

def k_float2_avx512_reads : List Nat := [0, 1, 2, 3]

/-- `_transpose<float,2,2>` under avx512 run on lane tokens (`some k` = source cell `k`, `none` = a zeroed lane) -/
theorem k_float2_avx512_tok : Intr.finalCells (k_float2_avx512 (none : Option Nat) some) 4 = Intr.transposed some 2 := by
  refine (Intr.finalCells_eq_transposed_iff _ _ 2).2 ?_
  simp only [k_float2_avx512, lastWrite_append, Intr.lastWrite_store, Intr.lastWrite_nil]
  decide

theorem k_float2_avx512_stores_inside : Intr.allBelow ((k_float2_avx512 (none : Option Nat) some).map (·.1)) 4 = true := by decide

theorem k_float2_avx512_reads_inside : Intr.allBelow k_float2_avx512_reads 4 = true := by decide

/-- the kernel only moves lanes: it commutes with any reading of the tokens as elements -/
theorem k_float2_avx512_natural {α : Type} (z : α) (a : Nat → α) :
    (k_float2_avx512 (none : Option Nat) some).map (Prod.map id (Intr.ofTok z a)) = k_float2_avx512 z a := by
  simp only [k_float2_avx512, intr_map]

/-- **`_transpose<float,2,2>` under avx512, for every element type**: the stores leave exactly the transposed matrix in
    `out[0..4)` and fall nowhere else -/
theorem k_float2_avx512_correct {α : Type} (z : α) (a : Nat → α) :
    Intr.finalCells (k_float2_avx512 z a) 4 = Intr.transposed a 2 ∧ Intr.allBelow ((k_float2_avx512 z a).map (·.1)) 4 = true :=
  Intr.correct_of_tokens (fun {γ} => @k_float2_avx512 γ) 4 2 k_float2_avx512_natural k_float2_avx512_tok k_float2_avx512_stores_inside z a

def k_float3_avx512 {α : Type} (z : α) (a : Nat → α) : List (Nat × α) :=
  let s0 : List (Nat × α) := []
  let v_trans07 := (Intr.load a 0 8)
  let v__res := (Intr.permutevar8x32 z v_trans07 [0, 3, 6, 1, 4, 7, 2, 5])
  let s1 := s0 ++ Intr.store z 0 8 v__res
  let s2 := s1 ++ Intr.store z 8 1 (Intr.load_ss z a 8)
  s2

def k_float3_avx512_reads : List Nat := [0, 1, 2, 3, 4, 5, 6, 7, 8]

/-- `_transpose<float,3,3>` under avx512 run on lane tokens (`some k` = source cell `k`, `none` = a zeroed lane) -/
theorem k_float3_avx512_tok : Intr.finalCells (k_float3_avx512 (none : Option Nat) some) 9 = Intr.transposed some 3 := by
  refine (Intr.finalCells_eq_transposed_iff _ _ 3).2 ?_
  simp only [k_float3_avx512, lastWrite_append, Intr.lastWrite_store, Intr.lastWrite_nil]
  decide

theorem k_float3_avx512_stores_inside : Intr.allBelow ((k_float3_avx512 (none : Option Nat) some).map (·.1)) 9 = true := by decide

theorem k_float3_avx512_reads_inside : Intr.allBelow k_float3_avx512_reads 9 = true := by decide

/-- the kernel only moves lanes: it commutes with any reading of the tokens as elements -/
theorem k_float3_avx512_natural {α : Type} (z : α) (a : Nat → α) :
    (k_float3_avx512 (none : Option Nat) some).map (Prod.map id (Intr.ofTok z a)) = k_float3_avx512 z a := by
  simp only [k_float3_avx512, intr_map]

/-- **`_transpose<float,3,3>` under avx512, for every element type**: the stores leave exactly the transposed matrix in
    `out[0..9)` and fall nowhere else -/
theorem k_float3_avx512_correct {α : Type} (z : α) (a : Nat → α) :
    Intr.finalCells (k_float3_avx512 z a) 9 = Intr.transposed a 3 ∧ Intr.allBelow ((k_float3_avx512 z a).map (·.1)) 9 = true :=
  Intr.correct_of_tokens (fun {γ} => @k_float3_avx512 γ) 9 3 k_float3_avx512_natural k_float3_avx512_tok k_float3_avx512_stores_inside z a

def k_float4_avx512 {α : Type} (z : α) (a : Nat → α) : List (Nat × α) :=
  let s0 : List (Nat × α) := []
  let v_amm := (Intr.load a 0 16)
  let v_omm := (Intr.permutexvar z [0, 4, 8, 12, 1, 5, 9, 13, 2, 6, 10, 14, 3, 7, 11, 15] v_amm)
  let s1 := s0 ++ Intr.store z 0 16 v_omm
  s1

def k_float4_avx512_reads : List Nat := [0, 1, 2, 3, 4, 5, 6, 7, 8, 9, 10, 11, 12, 13, 14, 15]

/-- `_transpose<float,4,4>` under avx512 run on lane tokens (`some k` = source cell `k`, `none` = a zeroed lane) -/
theorem k_float4_avx512_tok : Intr.finalCells (k_float4_avx512 (none : Option Nat) some) 16 = Intr.transposed some 4 := by
  refine (Intr.finalCells_eq_transposed_iff _ _ 4).2 ?_
  simp only [k_float4_avx512, lastWrite_append, Intr.lastWrite_store, Intr.lastWrite_nil]
  decide

theorem k_float4_avx512_stores_inside : Intr.allBelow ((k_float4_avx512 (none : Option Nat) some).map (·.1)) 16 = true := by decide

theorem k_float4_avx512_reads_inside : Intr.allBelow k_float4_avx512_reads 16 = true := by decide

/-- the kernel only moves lanes: it commutes with any reading of the tokens as elements -/
theorem k_float4_avx512_natural {α : Type} (z : α) (a : Nat → α) :
    (k_float4_avx512 (none : Option Nat) some).map (Prod.map id (Intr.ofTok z a)) = k_float4_avx512 z a := by
  simp only [k_float4_avx512, intr_map]

/-- **`_transpose<float,4,4>` under avx512, for every element type**: the stores leave exactly the transposed matrix in
    `out[0..16)` and fall nowhere else -/
theorem k_float4_avx512_correct {α : Type} (z : α) (a : Nat → α) :
    Intr.finalCells (k_float4_avx512 z a) 16 = Intr.transposed a 4 ∧ Intr.allBelow ((k_float4_avx512 z a).map (·.1)) 16 = true :=
  Intr.correct_of_tokens (fun {γ} => @k_float4_avx512 γ) 16 4 k_float4_avx512_natural k_float4_avx512_tok k_float4_avx512_stores_inside z a

def k_float8_avx512 {α : Type} (z : α) (a : Nat → α) : List (Nat × α) :=
  let s0 : List (Nat × α) := []
  let v_row1 := (Intr.load a 0 8)
  let v_row2 := (Intr.load a 8 8)
  let v_row3 := (Intr.load a 16 8)
  let v_row4 := (Intr.load a 24 8)
  let v_row5 := (Intr.load a 32 8)
  let v_row6 := (Intr.load a 40 8)
  let v_row7 := (Intr.load a 48 8)
  let v_row8 := (Intr.load a 56 8)
  let v_i1___t0 := (Intr.unpacklo_ps256 z v_row1 v_row2)
  let v_i1___t1 := (Intr.unpackhi_ps256 z v_row1 v_row2)
  let v_i1___t2 := (Intr.unpacklo_ps256 z v_row3 v_row4)
  let v_i1___t3 := (Intr.unpackhi_ps256 z v_row3 v_row4)
  let v_i1___t4 := (Intr.unpacklo_ps256 z v_row5 v_row6)
  let v_i1___t5 := (Intr.unpackhi_ps256 z v_row5 v_row6)
  let v_i1___t6 := (Intr.unpacklo_ps256 z v_row7 v_row8)
  let v_i1___t7 := (Intr.unpackhi_ps256 z v_row7 v_row8)
  let v_i1___tt0 := (Intr.shuffle_ps256 z v_i1___t0 v_i1___t2 68)
  let v_i1___tt1 := (Intr.shuffle_ps256 z v_i1___t0 v_i1___t2 238)
  let v_i1___tt2 := (Intr.shuffle_ps256 z v_i1___t1 v_i1___t3 68)
  let v_i1___tt3 := (Intr.shuffle_ps256 z v_i1___t1 v_i1___t3 238)
  let v_i1___tt4 := (Intr.shuffle_ps256 z v_i1___t4 v_i1___t6 68)
  let v_i1___tt5 := (Intr.shuffle_ps256 z v_i1___t4 v_i1___t6 238)
  let v_i1___tt6 := (Intr.shuffle_ps256 z v_i1___t5 v_i1___t7 68)
  let v_i1___tt7 := (Intr.shuffle_ps256 z v_i1___t5 v_i1___t7 238)
  let v_i1_row0 := (Intr.permute2f128 z v_i1___tt0 v_i1___tt4 32 4)
  let v_i1_row1 := (Intr.permute2f128 z v_i1___tt1 v_i1___tt5 32 4)
  let v_i1_row2 := (Intr.permute2f128 z v_i1___tt2 v_i1___tt6 32 4)
  let v_i1_row3 := (Intr.permute2f128 z v_i1___tt3 v_i1___tt7 32 4)
  let v_i1_row4 := (Intr.permute2f128 z v_i1___tt0 v_i1___tt4 49 4)
  let v_i1_row5 := (Intr.permute2f128 z v_i1___tt1 v_i1___tt5 49 4)
  let v_i1_row6 := (Intr.permute2f128 z v_i1___tt2 v_i1___tt6 49 4)
  let v_i1_row7 := (Intr.permute2f128 z v_i1___tt3 v_i1___tt7 49 4)
  let s1 := s0 ++ Intr.store z 0 8 v_i1_row0
  let s2 := s1 ++ Intr.store z 8 8 v_i1_row1
  let s3 := s2 ++ Intr.store z 16 8 v_i1_row2
  let s4 := s3 ++ Intr.store z 24 8 v_i1_row3
  let s5 := s4 ++ Intr.store z 32 8 v_i1_row4
  let s6 := s5 ++ Intr.store z 40 8 v_i1_row5
  let s7 := s6 ++ Intr.store z 48 8 v_i1_row6
  let s8 := s7 ++ Intr.store z 56 8 v_i1_row7
  s8

def k_float8_avx512_reads : List Nat := [0, 1, 2, 3, 4, 5, 6, 7, 8, 9, 10, 11, 12, 13, 14, 15, 16, 17, 18, 19, 20, 21, 22, 23, 24, 25, 26, 27, 28, 29, 30, 31, 32, 33, 34, 35, 36, 37, 38, 39, 40, 41, 42, 43, 44, 45, 46, 47, 48, 49, 50, 51, 52, 53, 54, 55, 56, 57, 58, 59, 60, 61, 62, 63]

/-- `_transpose<float,8,8>` under avx512 run on lane tokens (`some k` = source cell `k`, `none` = a zeroed lane) -/
theorem k_float8_avx512_tok : Intr.finalCells (k_float8_avx512 (none : Option Nat) some) 64 = Intr.transposed some 8 := by
  refine (Intr.finalCells_eq_transposed_iff _ _ 8).2 ?_
  simp only [k_float8_avx512, lastWrite_append, Intr.lastWrite_store, Intr.lastWrite_nil]
  decide

theorem k_float8_avx512_stores_inside : Intr.allBelow ((k_float8_avx512 (none : Option Nat) some).map (·.1)) 64 = true := by decide

theorem k_float8_avx512_reads_inside : Intr.allBelow k_float8_avx512_reads 64 = true := by decide

/-- the kernel only moves lanes: it commutes with any reading of the tokens as elements -/
theorem k_float8_avx512_natural {α : Type} (z : α) (a : Nat → α) :
    (k_float8_avx512 (none : Option Nat) some).map (Prod.map id (Intr.ofTok z a)) = k_float8_avx512 z a := by
  simp only [k_float8_avx512, intr_map]

/-- **`_transpose<float,8,8>` under avx512, for every element type**: the stores leave exactly the transposed matrix in
    `out[0..64)` and fall nowhere else -/
theorem k_float8_avx512_correct {α : Type} (z : α) (a : Nat → α) :
    Intr.finalCells (k_float8_avx512 z a) 64 = Intr.transposed a 8 ∧ Intr.allBelow ((k_float8_avx512 z a).map (·.1)) 64 = true :=
  Intr.correct_of_tokens (fun {γ} => @k_float8_avx512 γ) 64 8 k_float8_avx512_natural k_float8_avx512_tok k_float8_avx512_stores_inside z a

def k_float16_avx512 {α : Type} (z : α) (a : Nat → α) : List (Nat × α) :=
  let s0 : List (Nat × α) := []
  let v_t0 := (Intr.insert256 z (Intr.cast256_512 z (Intr.load a 0 8) 8) (Intr.load a 128 8) 1 8)
  let v_t1 := (Intr.insert256 z (Intr.cast256_512 z (Intr.load a 16 8) 8) (Intr.load a 144 8) 1 8)
  let v_t2 := (Intr.insert256 z (Intr.cast256_512 z (Intr.load a 32 8) 8) (Intr.load a 160 8) 1 8)
  let v_t3 := (Intr.insert256 z (Intr.cast256_512 z (Intr.load a 48 8) 8) (Intr.load a 176 8) 1 8)
  let v_t4 := (Intr.insert256 z (Intr.cast256_512 z (Intr.load a 64 8) 8) (Intr.load a 192 8) 1 8)
  let v_t5 := (Intr.insert256 z (Intr.cast256_512 z (Intr.load a 80 8) 8) (Intr.load a 208 8) 1 8)
  let v_t6 := (Intr.insert256 z (Intr.cast256_512 z (Intr.load a 96 8) 8) (Intr.load a 224 8) 1 8)
  let v_t7 := (Intr.insert256 z (Intr.cast256_512 z (Intr.load a 112 8) 8) (Intr.load a 240 8) 1 8)
  let v_t8 := (Intr.insert256 z (Intr.cast256_512 z (Intr.load a 8 8) 8) (Intr.load a 136 8) 1 8)
  let v_t9 := (Intr.insert256 z (Intr.cast256_512 z (Intr.load a 24 8) 8) (Intr.load a 152 8) 1 8)
  let v_ta := (Intr.insert256 z (Intr.cast256_512 z (Intr.load a 40 8) 8) (Intr.load a 168 8) 1 8)
  let v_tb := (Intr.insert256 z (Intr.cast256_512 z (Intr.load a 56 8) 8) (Intr.load a 184 8) 1 8)
  let v_tc := (Intr.insert256 z (Intr.cast256_512 z (Intr.load a 72 8) 8) (Intr.load a 200 8) 1 8)
  let v_td := (Intr.insert256 z (Intr.cast256_512 z (Intr.load a 88 8) 8) (Intr.load a 216 8) 1 8)
  let v_te := (Intr.insert256 z (Intr.cast256_512 z (Intr.load a 104 8) 8) (Intr.load a 232 8) 1 8)
  let v_tf := (Intr.insert256 z (Intr.cast256_512 z (Intr.load a 120 8) 8) (Intr.load a 248 8) 1 8)
  let v_r0 := (Intr.mask_permutexvar_pd z v_t0 204 [2, 3, 0, 1, 6, 7, 4, 5] v_t4 2)
  let v_r1 := (Intr.mask_permutexvar_pd z v_t1 204 [2, 3, 0, 1, 6, 7, 4, 5] v_t5 2)
  let v_r2 := (Intr.mask_permutexvar_pd z v_t2 204 [2, 3, 0, 1, 6, 7, 4, 5] v_t6 2)
  let v_r3 := (Intr.mask_permutexvar_pd z v_t3 204 [2, 3, 0, 1, 6, 7, 4, 5] v_t7 2)
  let v_r8 := (Intr.mask_permutexvar_pd z v_t8 204 [2, 3, 0, 1, 6, 7, 4, 5] v_tc 2)
  let v_r9 := (Intr.mask_permutexvar_pd z v_t9 204 [2, 3, 0, 1, 6, 7, 4, 5] v_td 2)
  let v_ra := (Intr.mask_permutexvar_pd z v_ta 204 [2, 3, 0, 1, 6, 7, 4, 5] v_te 2)
  let v_rb := (Intr.mask_permutexvar_pd z v_tb 204 [2, 3, 0, 1, 6, 7, 4, 5] v_tf 2)
  let v_r4 := (Intr.mask_permutexvar_pd z v_t4 51 [2, 3, 0, 1, 6, 7, 4, 5] v_t0 2)
  let v_r5 := (Intr.mask_permutexvar_pd z v_t5 51 [2, 3, 0, 1, 6, 7, 4, 5] v_t1 2)
  let v_r6 := (Intr.mask_permutexvar_pd z v_t6 51 [2, 3, 0, 1, 6, 7, 4, 5] v_t2 2)
  let v_r7 := (Intr.mask_permutexvar_pd z v_t7 51 [2, 3, 0, 1, 6, 7, 4, 5] v_t3 2)
  let v_rc := (Intr.mask_permutexvar_pd z v_tc 51 [2, 3, 0, 1, 6, 7, 4, 5] v_t8 2)
  let v_rd := (Intr.mask_permutexvar_pd z v_td 51 [2, 3, 0, 1, 6, 7, 4, 5] v_t9 2)
  let v_re := (Intr.mask_permutexvar_pd z v_te 51 [2, 3, 0, 1, 6, 7, 4, 5] v_ta 2)
  let v_rf := (Intr.mask_permutexvar_pd z v_tf 51 [2, 3, 0, 1, 6, 7, 4, 5] v_tb 2)
  let v_t0 := (Intr.mask_permutexvar_pd z v_r0 170 [1, 0, 3, 2, 5, 4, 7, 6] v_r2 2)
  let v_t1 := (Intr.mask_permutexvar_pd z v_r1 170 [1, 0, 3, 2, 5, 4, 7, 6] v_r3 2)
  let v_t4 := (Intr.mask_permutexvar_pd z v_r4 170 [1, 0, 3, 2, 5, 4, 7, 6] v_r6 2)
  let v_t5 := (Intr.mask_permutexvar_pd z v_r5 170 [1, 0, 3, 2, 5, 4, 7, 6] v_r7 2)
  let v_t8 := (Intr.mask_permutexvar_pd z v_r8 170 [1, 0, 3, 2, 5, 4, 7, 6] v_ra 2)
  let v_t9 := (Intr.mask_permutexvar_pd z v_r9 170 [1, 0, 3, 2, 5, 4, 7, 6] v_rb 2)
  let v_tc := (Intr.mask_permutexvar_pd z v_rc 170 [1, 0, 3, 2, 5, 4, 7, 6] v_re 2)
  let v_td := (Intr.mask_permutexvar_pd z v_rd 170 [1, 0, 3, 2, 5, 4, 7, 6] v_rf 2)
  let v_t2 := (Intr.mask_permutexvar_pd z v_r2 85 [1, 0, 3, 2, 5, 4, 7, 6] v_r0 2)
  let v_t3 := (Intr.mask_permutexvar_pd z v_r3 85 [1, 0, 3, 2, 5, 4, 7, 6] v_r1 2)
  let v_t6 := (Intr.mask_permutexvar_pd z v_r6 85 [1, 0, 3, 2, 5, 4, 7, 6] v_r4 2)
  let v_t7 := (Intr.mask_permutexvar_pd z v_r7 85 [1, 0, 3, 2, 5, 4, 7, 6] v_r5 2)
  let v_ta := (Intr.mask_permutexvar_pd z v_ra 85 [1, 0, 3, 2, 5, 4, 7, 6] v_r8 2)
  let v_tb := (Intr.mask_permutexvar_pd z v_rb 85 [1, 0, 3, 2, 5, 4, 7, 6] v_r9 2)
  let v_te := (Intr.mask_permutexvar_pd z v_re 85 [1, 0, 3, 2, 5, 4, 7, 6] v_rc 2)
  let v_tf := (Intr.mask_permutexvar_pd z v_rf 85 [1, 0, 3, 2, 5, 4, 7, 6] v_rd 2)
  let v_r0 := (Intr.mask_permutexvar_ps z v_t0 43690 [1, 0, 3, 2, 5, 4, 7, 6, 9, 8, 11, 10, 13, 12, 15, 14] v_t1)
  let v_r2 := (Intr.mask_permutexvar_ps z v_t2 43690 [1, 0, 3, 2, 5, 4, 7, 6, 9, 8, 11, 10, 13, 12, 15, 14] v_t3)
  let v_r4 := (Intr.mask_permutexvar_ps z v_t4 43690 [1, 0, 3, 2, 5, 4, 7, 6, 9, 8, 11, 10, 13, 12, 15, 14] v_t5)
  let v_r6 := (Intr.mask_permutexvar_ps z v_t6 43690 [1, 0, 3, 2, 5, 4, 7, 6, 9, 8, 11, 10, 13, 12, 15, 14] v_t7)
  let v_r8 := (Intr.mask_permutexvar_ps z v_t8 43690 [1, 0, 3, 2, 5, 4, 7, 6, 9, 8, 11, 10, 13, 12, 15, 14] v_t9)
  let v_ra := (Intr.mask_permutexvar_ps z v_ta 43690 [1, 0, 3, 2, 5, 4, 7, 6, 9, 8, 11, 10, 13, 12, 15, 14] v_tb)
  let v_rc := (Intr.mask_permutexvar_ps z v_tc 43690 [1, 0, 3, 2, 5, 4, 7, 6, 9, 8, 11, 10, 13, 12, 15, 14] v_td)
  let v_re := (Intr.mask_permutexvar_ps z v_te 43690 [1, 0, 3, 2, 5, 4, 7, 6, 9, 8, 11, 10, 13, 12, 15, 14] v_tf)
  let v_r1 := (Intr.mask_permutexvar_ps z v_t1 21845 [1, 0, 3, 2, 5, 4, 7, 6, 9, 8, 11, 10, 13, 12, 15, 14] v_t0)
  let v_r3 := (Intr.mask_permutexvar_ps z v_t3 21845 [1, 0, 3, 2, 5, 4, 7, 6, 9, 8, 11, 10, 13, 12, 15, 14] v_t2)
  let v_r5 := (Intr.mask_permutexvar_ps z v_t5 21845 [1, 0, 3, 2, 5, 4, 7, 6, 9, 8, 11, 10, 13, 12, 15, 14] v_t4)
  let v_r7 := (Intr.mask_permutexvar_ps z v_t7 21845 [1, 0, 3, 2, 5, 4, 7, 6, 9, 8, 11, 10, 13, 12, 15, 14] v_t6)
  let v_r9 := (Intr.mask_permutexvar_ps z v_t9 21845 [1, 0, 3, 2, 5, 4, 7, 6, 9, 8, 11, 10, 13, 12, 15, 14] v_t8)
  let v_rb := (Intr.mask_permutexvar_ps z v_tb 21845 [1, 0, 3, 2, 5, 4, 7, 6, 9, 8, 11, 10, 13, 12, 15, 14] v_ta)
  let v_rd := (Intr.mask_permutexvar_ps z v_td 21845 [1, 0, 3, 2, 5, 4, 7, 6, 9, 8, 11, 10, 13, 12, 15, 14] v_tc)
  let v_rf := (Intr.mask_permutexvar_ps z v_tf 21845 [1, 0, 3, 2, 5, 4, 7, 6, 9, 8, 11, 10, 13, 12, 15, 14] v_te)
  let s1 := s0 ++ Intr.store z 0 16 v_r0
  let s2 := s1 ++ Intr.store z 16 16 v_r1
  let s3 := s2 ++ Intr.store z 32 16 v_r2
  let s4 := s3 ++ Intr.store z 48 16 v_r3
  let s5 := s4 ++ Intr.store z 64 16 v_r4
  let s6 := s5 ++ Intr.store z 80 16 v_r5
  let s7 := s6 ++ Intr.store z 96 16 v_r6
  let s8 := s7 ++ Intr.store z 112 16 v_r7
  let s9 := s8 ++ Intr.store z 128 16 v_r8
  let s10 := s9 ++ Intr.store z 144 16 v_r9
  let s11 := s10 ++ Intr.store z 160 16 v_ra
  let s12 := s11 ++ Intr.store z 176 16 v_rb
  let s13 := s12 ++ Intr.store z 192 16 v_rc
  let s14 := s13 ++ Intr.store z 208 16 v_rd
  let s15 := s14 ++ Intr.store z 224 16 v_re
  let s16 := s15 ++ Intr.store z 240 16 v_rf
  s16

def k_float16_avx512_reads : List Nat := [0, 1, 2, 3, 4, 5, 6, 7, 128, 129, 130, 131, 132, 133, 134, 135, 16, 17, 18, 19, 20, 21, 22, 23, 144, 145, 146, 147, 148, 149, 150, 151, 32, 33, 34, 35, 36, 37, 38, 39, 160, 161, 162, 163, 164, 165, 166, 167, 48, 49, 50, 51, 52, 53, 54, 55, 176, 177, 178, 179, 180, 181, 182, 183, 64, 65, 66, 67, 68, 69, 70, 71, 192, 193, 194, 195, 196, 197, 198, 199, 80, 81, 82, 83, 84, 85, 86, 87, 208, 209, 210, 211, 212, 213, 214, 215, 96, 97, 98, 99, 100, 101, 102, 103, 224, 225, 226, 227, 228, 229, 230, 231, 112, 113, 114, 115, 116, 117, 118, 119, 240, 241, 242, 243, 244, 245, 246, 247, 8, 9, 10, 11, 12, 13, 14, 15, 136, 137, 138, 139, 140, 141, 142, 143, 24, 25, 26, 27, 28, 29, 30, 31, 152, 153, 154, 155, 156, 157, 158, 159, 40, 41, 42, 43, 44, 45, 46, 47, 168, 169, 170, 171, 172, 173, 174, 175, 56, 57, 58, 59, 60, 61, 62, 63, 184, 185, 186, 187, 188, 189, 190, 191, 72, 73, 74, 75, 76, 77, 78, 79, 200, 201, 202, 203, 204, 205, 206, 207, 88, 89, 90, 91, 92, 93, 94, 95, 216, 217, 218, 219, 220, 221, 222, 223, 104, 105, 106, 107, 108, 109, 110, 111, 232, 233, 234, 235, 236, 237, 238, 239, 120, 121, 122, 123, 124, 125, 126, 127, 248, 249, 250, 251, 252, 253, 254, 255]

/-- `_transpose<float,16,16>` under avx512 run on lane tokens (`some k` = source cell `k`, `none` = a zeroed lane) -/
theorem k_float16_avx512_tok : Intr.finalCells (k_float16_avx512 (none : Option Nat) some) 256 = Intr.transposed some 16 := by
  refine (Intr.finalCells_eq_transposed_iff _ _ 16).2 ?_
  simp only [k_float16_avx512, lastWrite_append, Intr.lastWrite_store, Intr.lastWrite_nil]
  decide

theorem k_float16_avx512_stores_inside : Intr.allBelow ((k_float16_avx512 (none : Option Nat) some).map (·.1)) 256 = true := by
  rw [← List.take_append_drop 128 (List.map _ _), Intr.allBelow_append]
  decide

theorem k_float16_avx512_reads_inside : Intr.allBelow k_float16_avx512_reads 256 = true := by
  rw [← List.take_append_drop 128 k_float16_avx512_reads, Intr.allBelow_append]
  decide

/-- the kernel only moves lanes: it commutes with any reading of the tokens as elements -/
theorem k_float16_avx512_natural {α : Type} (z : α) (a : Nat → α) :
    (k_float16_avx512 (none : Option Nat) some).map (Prod.map id (Intr.ofTok z a)) = k_float16_avx512 z a := by
  simp only [k_float16_avx512, intr_map]

/-- **`_transpose<float,16,16>` under avx512, for every element type**: the stores leave exactly the transposed matrix in
    `out[0..256)` and fall nowhere else -/
theorem k_float16_avx512_correct {α : Type} (z : α) (a : Nat → α) :
    Intr.finalCells (k_float16_avx512 z a) 256 = Intr.transposed a 16 ∧ Intr.allBelow ((k_float16_avx512 z a).map (·.1)) 256 = true :=
  Intr.correct_of_tokens (fun {γ} => @k_float16_avx512 γ) 256 16 k_float16_avx512_natural k_float16_avx512_tok k_float16_avx512_stores_inside z a

def k_double2_avx512 {α : Type} (z : α) (a : Nat → α) : List (Nat × α) :=
  let s0 : List (Nat × α) := []
  let v_row0 := (Intr.load a 0 2)
  let v_row1 := (Intr.load a 2 2)
  let v_tmp := v_row0
  let v_row0 := (Intr.shuffle_pd z v_row0 v_row1 0)
  let v_row1 := (Intr.shuffle_pd z v_tmp v_row1 3)
  let s1 := s0 ++ Intr.store z 0 2 v_row0
  let s2 := s1 ++ Intr.store z 2 2 v_row1
  s2

def k_double2_avx512_reads : List Nat := [0, 1, 2, 3]

/-- `_transpose<double,2,2>` under avx512 run on lane tokens (`some k` = source cell `k`, `none` = a zeroed lane) -/
theorem k_double2_avx512_tok : Intr.finalCells (k_double2_avx512 (none : Option Nat) some) 4 = Intr.transposed some 2 := by
  refine (Intr.finalCells_eq_transposed_iff _ _ 2).2 ?_
  simp only [k_double2_avx512, lastWrite_append, Intr.lastWrite_store, Intr.lastWrite_nil]
  decide

theorem k_double2_avx512_stores_inside : Intr.allBelow ((k_double2_avx512 (none : Option Nat) some).map (·.1)) 4 = true := by decide

theorem k_double2_avx512_reads_inside : Intr.allBelow k_double2_avx512_reads 4 = true := by decide

/-- the kernel only moves lanes: it commutes with any reading of the tokens as elements -/
theorem k_double2_avx512_natural {α : Type} (z : α) (a : Nat → α) :
    (k_double2_avx512 (none : Option Nat) some).map (Prod.map id (Intr.ofTok z a)) = k_double2_avx512 z a := by
  simp only [k_double2_avx512, intr_map]

/-- **`_transpose<double,2,2>` under avx512, for every element type**: the stores leave exactly the transposed matrix in
    `out[0..4)` and fall nowhere else -/
theorem k_double2_avx512_correct {α : Type} (z : α) (a : Nat → α) :
    Intr.finalCells (k_double2_avx512 z a) 4 = Intr.transposed a 2 ∧ Intr.allBelow ((k_double2_avx512 z a).map (·.1)) 4 = true :=
  Intr.correct_of_tokens (fun {γ} => @k_double2_avx512 γ) 4 2 k_double2_avx512_natural k_double2_avx512_tok k_double2_avx512_stores_inside z a

def k_double3_avx512 {α : Type} (z : α) (a : Nat → α) : List (Nat × α) :=
  let s0 : List (Nat × α) := []
  let v_a07 := (Intr.load a 0 8)
  let v_trans07 := (Intr.permutexvar_pd z [0, 3, 6, 1, 4, 7, 2, 5] v_a07 1)
  let s1 := s0 ++ Intr.store z 0 8 v_trans07
  let s2 := s1 ++ Intr.store z 8 1 (Intr.load_sd z a 8)
  s2

def k_double3_avx512_reads : List Nat := [0, 1, 2, 3, 4, 5, 6, 7, 8]

/-- `_transpose<double,3,3>` under avx512 run on lane tokens (`some k` = source cell `k`, `none` = a zeroed lane) -/
theorem k_double3_avx512_tok : Intr.finalCells (k_double3_avx512 (none : Option Nat) some) 9 = Intr.transposed some 3 := by
  refine (Intr.finalCells_eq_transposed_iff _ _ 3).2 ?_
  simp only [k_double3_avx512, lastWrite_append, Intr.lastWrite_store, Intr.lastWrite_nil]
  decide

theorem k_double3_avx512_stores_inside : Intr.allBelow ((k_double3_avx512 (none : Option Nat) some).map (·.1)) 9 = true := by decide

theorem k_double3_avx512_reads_inside : Intr.allBelow k_double3_avx512_reads 9 = true := by decide

/-- the kernel only moves lanes: it commutes with any reading of the tokens as elements -/
theorem k_double3_avx512_natural {α : Type} (z : α) (a : Nat → α) :
    (k_double3_avx512 (none : Option Nat) some).map (Prod.map id (Intr.ofTok z a)) = k_double3_avx512 z a := by
  simp only [k_double3_avx512, intr_map]

/-- **`_transpose<double,3,3>` under avx512, for every element type**: the stores leave exactly the transposed matrix in
    `out[0..9)` and fall nowhere else -/
theorem k_double3_avx512_correct {α : Type} (z : α) (a : Nat → α) :
    Intr.finalCells (k_double3_avx512 z a) 9 = Intr.transposed a 3 ∧ Intr.allBelow ((k_double3_avx512 z a).map (·.1)) 9 = true :=
  Intr.correct_of_tokens (fun {γ} => @k_double3_avx512 γ) 9 3 k_double3_avx512_natural k_double3_avx512_tok k_double3_avx512_stores_inside z a

def k_double4_avx512 {α : Type} (z : α) (a : Nat → α) : List (Nat × α) :=
  let s0 : List (Nat × α) := []
  let v_amm0 := (Intr.load a 0 8)
  let v_amm1 := (Intr.load a 8 8)
  let v_omm0 := (Intr.permutex2var_pd z v_amm0 [0, 4, 8, 12, 1, 5, 9, 13] v_amm1 1)
  let v_omm1 := (Intr.permutex2var_pd z v_amm0 [2, 6, 10, 14, 3, 7, 11, 15] v_amm1 1)
  let s1 := s0 ++ Intr.store z 0 8 v_omm0
  let s2 := s1 ++ Intr.store z 8 8 v_omm1
  s2

def k_double4_avx512_reads : List Nat := [0, 1, 2, 3, 4, 5, 6, 7, 8, 9, 10, 11, 12, 13, 14, 15]

/-- `_transpose<double,4,4>` under avx512 run on lane tokens (`some k` = source cell `k`, `none` = a zeroed lane) -/
theorem k_double4_avx512_tok : Intr.finalCells (k_double4_avx512 (none : Option Nat) some) 16 = Intr.transposed some 4 := by
  refine (Intr.finalCells_eq_transposed_iff _ _ 4).2 ?_
  simp only [k_double4_avx512, lastWrite_append, Intr.lastWrite_store, Intr.lastWrite_nil]
  decide

theorem k_double4_avx512_stores_inside : Intr.allBelow ((k_double4_avx512 (none : Option Nat) some).map (·.1)) 16 = true := by decide

theorem k_double4_avx512_reads_inside : Intr.allBelow k_double4_avx512_reads 16 = true := by decide

/-- the kernel only moves lanes: it commutes with any reading of the tokens as elements -/
theorem k_double4_avx512_natural {α : Type} (z : α) (a : Nat → α) :
    (k_double4_avx512 (none : Option Nat) some).map (Prod.map id (Intr.ofTok z a)) = k_double4_avx512 z a := by
  simp only [k_double4_avx512, intr_map]

/-- **`_transpose<double,4,4>` under avx512, for every element type**: the stores leave exactly the transposed matrix in
    `out[0..16)` and fall nowhere else -/
theorem k_double4_avx512_correct {α : Type} (z : α) (a : Nat → α) :
    Intr.finalCells (k_double4_avx512 z a) 16 = Intr.transposed a 4 ∧ Intr.allBelow ((k_double4_avx512 z a).map (·.1)) 16 = true :=
  Intr.correct_of_tokens (fun {γ} => @k_double4_avx512 γ) 16 4 k_double4_avx512_natural k_double4_avx512_tok k_double4_avx512_stores_inside z a

def k_double8_avx512 {α : Type} (z : α) (a : Nat → α) : List (Nat × α) :=
  let s0 : List (Nat × α) := []
  let v_row0 := (Intr.load a 0 8)
  let v_row1 := (Intr.load a 8 8)
  let v_row2 := (Intr.load a 16 8)
  let v_row3 := (Intr.load a 24 8)
  let v_row4 := (Intr.load a 32 8)
  let v_row5 := (Intr.load a 40 8)
  let v_row6 := (Intr.load a 48 8)
  let v_row7 := (Intr.load a 56 8)
  let v_i1___t0 := (Intr.permutex2var_pd z v_row0 [0, 8, 1, 9, 4, 12, 5, 13] v_row1 1)
  let v_i1___t1 := (Intr.permutex2var_pd z v_row0 [2, 10, 3, 11, 6, 14, 7, 15] v_row1 1)
  let v_i1___t2 := (Intr.permutex2var_pd z v_row2 [0, 8, 1, 9, 4, 12, 5, 13] v_row3 1)
  let v_i1___t3 := (Intr.permutex2var_pd z v_row2 [2, 10, 3, 11, 6, 14, 7, 15] v_row3 1)
  let v_i1___t4 := (Intr.permutex2var_pd z v_row4 [0, 8, 1, 9, 4, 12, 5, 13] v_row5 1)
  let v_i1___t5 := (Intr.permutex2var_pd z v_row4 [2, 10, 3, 11, 6, 14, 7, 15] v_row5 1)
  let v_i1___t6 := (Intr.permutex2var_pd z v_row6 [0, 8, 1, 9, 4, 12, 5, 13] v_row7 1)
  let v_i1___t7 := (Intr.permutex2var_pd z v_row6 [2, 10, 3, 11, 6, 14, 7, 15] v_row7 1)
  let v_i1___tt0 := (Intr.permutex2var_pd z v_i1___t0 [0, 1, 8, 9, 4, 5, 12, 13] v_i1___t2 1)
  let v_i1___tt1 := (Intr.permutex2var_pd z v_i1___t0 [2, 3, 10, 11, 6, 7, 14, 15] v_i1___t2 1)
  let v_i1___tt2 := (Intr.permutex2var_pd z v_i1___t1 [0, 1, 8, 9, 4, 5, 12, 13] v_i1___t3 1)
  let v_i1___tt3 := (Intr.permutex2var_pd z v_i1___t1 [2, 3, 10, 11, 6, 7, 14, 15] v_i1___t3 1)
  let v_i1___tt4 := (Intr.permutex2var_pd z v_i1___t4 [0, 1, 8, 9, 4, 5, 12, 13] v_i1___t6 1)
  let v_i1___tt5 := (Intr.permutex2var_pd z v_i1___t4 [2, 3, 10, 11, 6, 7, 14, 15] v_i1___t6 1)
  let v_i1___tt6 := (Intr.permutex2var_pd z v_i1___t5 [0, 1, 8, 9, 4, 5, 12, 13] v_i1___t7 1)
  let v_i1___tt7 := (Intr.permutex2var_pd z v_i1___t5 [2, 3, 10, 11, 6, 7, 14, 15] v_i1___t7 1)
  let v_i1_row0 := (Intr.insert256 z v_i1___tt0 (Intr.cast512_256 v_i1___tt4 4) 1 4)
  let v_i1_row1 := (Intr.insert256 z v_i1___tt1 (Intr.cast512_256 v_i1___tt5 4) 1 4)
  let v_i1_row2 := (Intr.insert256 z v_i1___tt2 (Intr.cast512_256 v_i1___tt6 4) 1 4)
  let v_i1_row3 := (Intr.insert256 z v_i1___tt3 (Intr.cast512_256 v_i1___tt7 4) 1 4)
  let v_i1_row4 := (Intr.permutex2var_pd z v_i1___tt0 [4, 5, 6, 7, 12, 13, 14, 15] v_i1___tt4 1)
  let v_i1_row5 := (Intr.permutex2var_pd z v_i1___tt1 [4, 5, 6, 7, 12, 13, 14, 15] v_i1___tt5 1)
  let v_i1_row6 := (Intr.permutex2var_pd z v_i1___tt2 [4, 5, 6, 7, 12, 13, 14, 15] v_i1___tt6 1)
  let v_i1_row7 := (Intr.permutex2var_pd z v_i1___tt3 [4, 5, 6, 7, 12, 13, 14, 15] v_i1___tt7 1)
  let s1 := s0 ++ Intr.store z 0 8 v_i1_row0
  let s2 := s1 ++ Intr.store z 8 8 v_i1_row1
  let s3 := s2 ++ Intr.store z 16 8 v_i1_row2
  let s4 := s3 ++ Intr.store z 24 8 v_i1_row3
  let s5 := s4 ++ Intr.store z 32 8 v_i1_row4
  let s6 := s5 ++ Intr.store z 40 8 v_i1_row5
  let s7 := s6 ++ Intr.store z 48 8 v_i1_row6
  let s8 := s7 ++ Intr.store z 56 8 v_i1_row7
  s8

def k_double8_avx512_reads : List Nat := [0, 1, 2, 3, 4, 5, 6, 7, 8, 9, 10, 11, 12, 13, 14, 15, 16, 17, 18, 19, 20, 21, 22, 23, 24, 25, 26, 27, 28, 29, 30, 31, 32, 33, 34, 35, 36, 37, 38, 39, 40, 41, 42, 43, 44, 45, 46, 47, 48, 49, 50, 51, 52, 53, 54, 55, 56, 57, 58, 59, 60, 61, 62, 63]

/-- `_transpose<double,8,8>` under avx512 run on lane tokens (`some k` = source cell `k`, `none` = a zeroed lane) -/
theorem k_double8_avx512_tok : Intr.finalCells (k_double8_avx512 (none : Option Nat) some) 64 = Intr.transposed some 8 := by
  refine (Intr.finalCells_eq_transposed_iff _ _ 8).2 ?_
  simp only [k_double8_avx512, lastWrite_append, Intr.lastWrite_store, Intr.lastWrite_nil]
  decide

theorem k_double8_avx512_stores_inside : Intr.allBelow ((k_double8_avx512 (none : Option Nat) some).map (·.1)) 64 = true := by decide

theorem k_double8_avx512_reads_inside : Intr.allBelow k_double8_avx512_reads 64 = true := by decide

/-- the kernel only moves lanes: it commutes with any reading of the tokens as elements -/
theorem k_double8_avx512_natural {α : Type} (z : α) (a : Nat → α) :
    (k_double8_avx512 (none : Option Nat) some).map (Prod.map id (Intr.ofTok z a)) = k_double8_avx512 z a := by
  simp only [k_double8_avx512, intr_map]

/-- **`_transpose<double,8,8>` under avx512, for every element type**: the stores leave exactly the transposed matrix in
    `out[0..64)` and fall nowhere else -/
theorem k_double8_avx512_correct {α : Type} (z : α) (a : Nat → α) :
    Intr.finalCells (k_double8_avx512 z a) 64 = Intr.transposed a 8 ∧ Intr.allBelow ((k_double8_avx512 z a).map (·.1)) 64 = true :=
  Intr.correct_of_tokens (fun {γ} => @k_double8_avx512 γ) 64 8 k_double8_avx512_natural k_double8_avx512_tok k_double8_avx512_stores_inside z a

/-- every translated kernel, under every configuration, realises the transposition lane map, stores only
    inside the result, and its recorded load positions `…_reads` lie inside the source -/
def AllKernels : Prop :=
    ∀ {α : Type} (z : α) (a : Nat → α),
    (Intr.finalCells (k_float2_sse2 z a) 4 = Intr.transposed a 2 ∧ Intr.allBelow ((k_float2_sse2 z a).map (·.1)) 4 = true ∧ Intr.allBelow k_float2_sse2_reads 4 = true) ∧
    (Intr.finalCells (k_float3_sse2 z a) 9 = Intr.transposed a 3 ∧ Intr.allBelow ((k_float3_sse2 z a).map (·.1)) 9 = true ∧ Intr.allBelow k_float3_sse2_reads 9 = true) ∧
    (Intr.finalCells (k_float4_sse2 z a) 16 = Intr.transposed a 4 ∧ Intr.allBelow ((k_float4_sse2 z a).map (·.1)) 16 = true ∧ Intr.allBelow k_float4_sse2_reads 16 = true) ∧
    (Intr.finalCells (k_double2_sse2 z a) 4 = Intr.transposed a 2 ∧ Intr.allBelow ((k_double2_sse2 z a).map (·.1)) 4 = true ∧ Intr.allBelow k_double2_sse2_reads 4 = true) ∧
    (Intr.finalCells (k_double3_sse2 z a) 9 = Intr.transposed a 3 ∧ Intr.allBelow ((k_double3_sse2 z a).map (·.1)) 9 = true ∧ Intr.allBelow k_double3_sse2_reads 9 = true) ∧
    (Intr.finalCells (k_float2_avx z a) 4 = Intr.transposed a 2 ∧ Intr.allBelow ((k_float2_avx z a).map (·.1)) 4 = true ∧ Intr.allBelow k_float2_avx_reads 4 = true) ∧
    (Intr.finalCells (k_float3_avx z a) 9 = Intr.transposed a 3 ∧ Intr.allBelow ((k_float3_avx z a).map (·.1)) 9 = true ∧ Intr.allBelow k_float3_avx_reads 9 = true) ∧
    (Intr.finalCells (k_float4_avx z a) 16 = Intr.transposed a 4 ∧ Intr.allBelow ((k_float4_avx z a).map (·.1)) 16 = true ∧ Intr.allBelow k_float4_avx_reads 16 = true) ∧
    (Intr.finalCells (k_float8_avx z a) 64 = Intr.transposed a 8 ∧ Intr.allBelow ((k_float8_avx z a).map (·.1)) 64 = true ∧ Intr.allBelow k_float8_avx_reads 64 = true) ∧
    (Intr.finalCells (k_double2_avx z a) 4 = Intr.transposed a 2 ∧ Intr.allBelow ((k_double2_avx z a).map (·.1)) 4 = true ∧ Intr.allBelow k_double2_avx_reads 4 = true) ∧
    (Intr.finalCells (k_double3_avx z a) 9 = Intr.transposed a 3 ∧ Intr.allBelow ((k_double3_avx z a).map (·.1)) 9 = true ∧ Intr.allBelow k_double3_avx_reads 9 = true) ∧
    (Intr.finalCells (k_double4_avx z a) 16 = Intr.transposed a 4 ∧ Intr.allBelow ((k_double4_avx z a).map (·.1)) 16 = true ∧ Intr.allBelow k_double4_avx_reads 16 = true) ∧
    (Intr.finalCells (k_double8_avx z a) 64 = Intr.transposed a 8 ∧ Intr.allBelow ((k_double8_avx z a).map (·.1)) 64 = true ∧ Intr.allBelow k_double8_avx_reads 64 = true) ∧
    (Intr.finalCells (k_float2_avx2 z a) 4 = Intr.transposed a 2 ∧ Intr.allBelow ((k_float2_avx2 z a).map (·.1)) 4 = true ∧ Intr.allBelow k_float2_avx2_reads 4 = true) ∧
    (Intr.finalCells (k_float3_avx2 z a) 9 = Intr.transposed a 3 ∧ Intr.allBelow ((k_float3_avx2 z a).map (·.1)) 9 = true ∧ Intr.allBelow k_float3_avx2_reads 9 = true) ∧
    (Intr.finalCells (k_float4_avx2 z a) 16 = Intr.transposed a 4 ∧ Intr.allBelow ((k_float4_avx2 z a).map (·.1)) 16 = true ∧ Intr.allBelow k_float4_avx2_reads 16 = true) ∧
    (Intr.finalCells (k_float8_avx2 z a) 64 = Intr.transposed a 8 ∧ Intr.allBelow ((k_float8_avx2 z a).map (·.1)) 64 = true ∧ Intr.allBelow k_float8_avx2_reads 64 = true) ∧
    (Intr.finalCells (k_double2_avx2 z a) 4 = Intr.transposed a 2 ∧ Intr.allBelow ((k_double2_avx2 z a).map (·.1)) 4 = true ∧ Intr.allBelow k_double2_avx2_reads 4 = true) ∧
    (Intr.finalCells (k_double3_avx2 z a) 9 = Intr.transposed a 3 ∧ Intr.allBelow ((k_double3_avx2 z a).map (·.1)) 9 = true ∧ Intr.allBelow k_double3_avx2_reads 9 = true) ∧
    (Intr.finalCells (k_double4_avx2 z a) 16 = Intr.transposed a 4 ∧ Intr.allBelow ((k_double4_avx2 z a).map (·.1)) 16 = true ∧ Intr.allBelow k_double4_avx2_reads 16 = true) ∧
    (Intr.finalCells (k_double8_avx2 z a) 64 = Intr.transposed a 8 ∧ Intr.allBelow ((k_double8_avx2 z a).map (·.1)) 64 = true ∧ Intr.allBelow k_double8_avx2_reads 64 = true) ∧
    (Intr.finalCells (k_float2_avx512 z a) 4 = Intr.transposed a 2 ∧ Intr.allBelow ((k_float2_avx512 z a).map (·.1)) 4 = true ∧ Intr.allBelow k_float2_avx512_reads 4 = true) ∧
    (Intr.finalCells (k_float3_avx512 z a) 9 = Intr.transposed a 3 ∧ Intr.allBelow ((k_float3_avx512 z a).map (·.1)) 9 = true ∧ Intr.allBelow k_float3_avx512_reads 9 = true) ∧
    (Intr.finalCells (k_float4_avx512 z a) 16 = Intr.transposed a 4 ∧ Intr.allBelow ((k_float4_avx512 z a).map (·.1)) 16 = true ∧ Intr.allBelow k_float4_avx512_reads 16 = true) ∧
    (Intr.finalCells (k_float8_avx512 z a) 64 = Intr.transposed a 8 ∧ Intr.allBelow ((k_float8_avx512 z a).map (·.1)) 64 = true ∧ Intr.allBelow k_float8_avx512_reads 64 = true) ∧
    (Intr.finalCells (k_float16_avx512 z a) 256 = Intr.transposed a 16 ∧ Intr.allBelow ((k_float16_avx512 z a).map (·.1)) 256 = true ∧ Intr.allBelow k_float16_avx512_reads 256 = true) ∧
    (Intr.finalCells (k_double2_avx512 z a) 4 = Intr.transposed a 2 ∧ Intr.allBelow ((k_double2_avx512 z a).map (·.1)) 4 = true ∧ Intr.allBelow k_double2_avx512_reads 4 = true) ∧
    (Intr.finalCells (k_double3_avx512 z a) 9 = Intr.transposed a 3 ∧ Intr.allBelow ((k_double3_avx512 z a).map (·.1)) 9 = true ∧ Intr.allBelow k_double3_avx512_reads 9 = true) ∧
    (Intr.finalCells (k_double4_avx512 z a) 16 = Intr.transposed a 4 ∧ Intr.allBelow ((k_double4_avx512 z a).map (·.1)) 16 = true ∧ Intr.allBelow k_double4_avx512_reads 16 = true) ∧
    (Intr.finalCells (k_double8_avx512 z a) 64 = Intr.transposed a 8 ∧ Intr.allBelow ((k_double8_avx512 z a).map (·.1)) 64 = true ∧ Intr.allBelow k_double8_avx512_reads 64 = true)

theorem all_kernels : AllKernels := fun z a =>
  ⟨⟨(k_float2_sse2_correct z a).1, (k_float2_sse2_correct z a).2, k_float2_sse2_reads_inside⟩, ⟨(k_float3_sse2_correct z a).1, (k_float3_sse2_correct z a).2, k_float3_sse2_reads_inside⟩, ⟨(k_float4_sse2_correct z a).1, (k_float4_sse2_correct z a).2, k_float4_sse2_reads_inside⟩, ⟨(k_double2_sse2_correct z a).1, (k_double2_sse2_correct z a).2, k_double2_sse2_reads_inside⟩, ⟨(k_double3_sse2_correct z a).1, (k_double3_sse2_correct z a).2, k_double3_sse2_reads_inside⟩, ⟨(k_float2_avx_correct z a).1, (k_float2_avx_correct z a).2, k_float2_avx_reads_inside⟩, ⟨(k_float3_avx_correct z a).1, (k_float3_avx_correct z a).2, k_float3_avx_reads_inside⟩, ⟨(k_float4_avx_correct z a).1, (k_float4_avx_correct z a).2, k_float4_avx_reads_inside⟩, ⟨(k_float8_avx_correct z a).1, (k_float8_avx_correct z a).2, k_float8_avx_reads_inside⟩, ⟨(k_double2_avx_correct z a).1, (k_double2_avx_correct z a).2, k_double2_avx_reads_inside⟩, ⟨(k_double3_avx_correct z a).1, (k_double3_avx_correct z a).2, k_double3_avx_reads_inside⟩, ⟨(k_double4_avx_correct z a).1, (k_double4_avx_correct z a).2, k_double4_avx_reads_inside⟩, ⟨(k_double8_avx_correct z a).1, (k_double8_avx_correct z a).2, k_double8_avx_reads_inside⟩, ⟨(k_float2_avx2_correct z a).1, (k_float2_avx2_correct z a).2, k_float2_avx2_reads_inside⟩, ⟨(k_float3_avx2_correct z a).1, (k_float3_avx2_correct z a).2, k_float3_avx2_reads_inside⟩, ⟨(k_float4_avx2_correct z a).1, (k_float4_avx2_correct z a).2, k_float4_avx2_reads_inside⟩, ⟨(k_float8_avx2_correct z a).1, (k_float8_avx2_correct z a).2, k_float8_avx2_reads_inside⟩, ⟨(k_double2_avx2_correct z a).1, (k_double2_avx2_correct z a).2, k_double2_avx2_reads_inside⟩, ⟨(k_double3_avx2_correct z a).1, (k_double3_avx2_correct z a).2, k_double3_avx2_reads_inside⟩, ⟨(k_double4_avx2_correct z a).1, (k_double4_avx2_correct z a).2, k_double4_avx2_reads_inside⟩, ⟨(k_double8_avx2_correct z a).1, (k_double8_avx2_correct z a).2, k_double8_avx2_reads_inside⟩, ⟨(k_float2_avx512_correct z a).1, (k_float2_avx512_correct z a).2, k_float2_avx512_reads_inside⟩, ⟨(k_float3_avx512_correct z a).1, (k_float3_avx512_correct z a).2, k_float3_avx512_reads_inside⟩, ⟨(k_float4_avx512_correct z a).1, (k_float4_avx512_correct z a).2, k_float4_avx512_reads_inside⟩, ⟨(k_float8_avx512_correct z a).1, (k_float8_avx512_correct z a).2, k_float8_avx512_reads_inside⟩, ⟨(k_float16_avx512_correct z a).1, (k_float16_avx512_correct z a).2, k_float16_avx512_reads_inside⟩, ⟨(k_double2_avx512_correct z a).1, (k_double2_avx512_correct z a).2, k_double2_avx512_reads_inside⟩, ⟨(k_double3_avx512_correct z a).1, (k_double3_avx512_correct z a).2, k_double3_avx512_reads_inside⟩, ⟨(k_double4_avx512_correct z a).1, (k_double4_avx512_correct z a).2, k_double4_avx512_reads_inside⟩, ⟨(k_double8_avx512_correct z a).1, (k_double8_avx512_correct z a).2, k_double8_avx512_reads_inside⟩⟩

end Fastor.C14K
