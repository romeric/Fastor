import FastorModel.Core.Fp
import FastorModel.Core.Loop
import FastorModel.Core.Writes
import FastorModel.Core.Grid
import FastorModel.Model.Config
import FastorModel.Model.Matmul
import FastorModel.Proofs.Fills
import FastorModel.Proofs.MatmulFills
import FastorModel.Proofs.MatmulVal
import FastorModel.Props.C01
import FastorModel.Props.C01Kernels_sse2
import FastorModel.Props.C01Kernels_avx2
import FastorModel.Props.C01Kernels_avx512
import FastorModel.Model.Tmatmul
import FastorModel.Proofs.TmatmulFills
import FastorModel.Proofs.TmatmulVal
import FastorModel.Props.C17
import FastorModel.Model.Einsum
import FastorModel.Model.Network
import FastorModel.Proofs.Einsum
import FastorModel.Props.C03
import FastorModel.Model.Expr
import FastorModel.Props.C02
import FastorModel.Proofs.Network
import FastorModel.Props.C15
import FastorModel.Model.Lazy
import FastorModel.Props.C09
import FastorModel.Model.ConfigLadder
import FastorModel.Props.C06
import FastorModel.Model.SimdIntrinsics
import FastorModel.Proofs.SimdAttr
import FastorModel.Proofs.SimdLanes
import FastorModel.Generated.Simd_sse2
import FastorModel.Generated.Simd_avx2
import FastorModel.Generated.Simd_avx512
import FastorModel.Props.C08
import FastorModel.Generated.SimdTable_sse2
import FastorModel.Generated.SimdTable_avx2
import FastorModel.Generated.SimdTable_avx512
import FastorModel.Props.C08Kernels
import FastorModel.Props.C08Ops_sse2
import FastorModel.Props.C08Ops_avx2
import FastorModel.Props.C08Ops_avx512
import FastorModel.Model.Footprint
import FastorModel.Model.Kern3
import FastorModel.Driver.Footprint
import FastorModel.Proofs.FootprintInside
import FastorModel.Props.C07
import FastorModel.Model.ViewWrite
import FastorModel.Model.ViewAlias
import FastorModel.Proofs.ViewWrite
import FastorModel.Model.ScalarWrite
import FastorModel.Proofs.Odometer
import FastorModel.Props.C05
import FastorModel.Props.C18
import FastorModel.Model.Inverse
import FastorModel.Proofs.Inverse
import FastorModel.Proofs.InverseLeaf
import FastorModel.Proofs.InverseTri
import FastorModel.Proofs.InversePiv
import FastorModel.Model.InverseSse
import FastorModel.Proofs.InverseSse
import FastorModel.Proofs.InverseLU
import FastorModel.Proofs.InverseLUBridge
import FastorModel.Props.C10
import FastorModel.Model.Permute
import FastorModel.Model.Transpose
import FastorModel.Props.C14
import FastorModel.Proofs.Permute
import FastorModel.Proofs.Transpose
import FastorModel.Proofs.PermuteMeta
import FastorModel.Proofs.PermuteOdometer
import FastorModel.Model.Intrinsics
import FastorModel.Generated.C14Kernels
import FastorModel.Model.RandomViews
import FastorModel.Proofs.RandomViews
import FastorModel.Props.C19
import FastorModel.Model.Reduce
import FastorModel.Proofs.Reduce
import FastorModel.Proofs.ReduceError
import FastorModel.Generated.C16Spec_avx2
import FastorModel.Generated.C16Spec_avx512
import FastorModel.Generated.C16Hadd_avx2
import FastorModel.Generated.C16Hadd_avx512
import FastorModel.Props.C16
import FastorModel.Props.C16Hadd
import FastorModel.Proofs.Intrinsics
import FastorModel.Proofs.PermuteLabels
import FastorModel.Model.Layout
import FastorModel.Model.MapAlias
import FastorModel.Proofs.Layout
import FastorModel.Proofs.MapAlias
import FastorModel.Props.C20
import FastorModel.Model.QR
import FastorModel.Proofs.QRLoops
import FastorModel.Proofs.QRInv
import FastorModel.Proofs.QRPivot
import FastorModel.Proofs.QRFamily
import FastorModel.Props.C13
import FastorModel.Model.LU
import FastorModel.Proofs.LUBasic
import FastorModel.Proofs.LURec
import FastorModel.Proofs.LUBlock
import FastorModel.Proofs.LUPivot
import FastorModel.Proofs.LULoops
import FastorModel.Proofs.LUSimple
import FastorModel.Proofs.LUUnrolled
import FastorModel.Proofs.LUReconstruct
import FastorModel.Proofs.LUInv
import FastorModel.Proofs.LUExport
import FastorModel.Props.C11
import FastorModel.Model.Solve
import FastorModel.Proofs.Solve
import FastorModel.Props.C12
import FastorModel.Model.Views
import FastorModel.Proofs.Views
import FastorModel.Proofs.ViewsRead
import FastorModel.Proofs.ViewsOdo
import FastorModel.Proofs.ViewsIseq
import FastorModel.Props.C04
import FastorModel.Model.MapAliasWide
import FastorModel.Proofs.MapAliasWide
